/-
C18 — Client keep-alive pings on time and detects a silent broker, no false alarms; connection
timeout.

Model: `Client.Timer` (Model/Client/Timer.lean) — a timed transition system over `Nat`
milliseconds that follows `EventLoop::{poll, select, clean}` and `MqttState::outgoing_ping`:
the deadline is set to `connack time + k` and moved ONLY by the keep-alive branch itself
(`reset(now + k)`), never by traffic in either direction; `Timely` = the application keeps
polling and tokio fires a due timer before time moves on (under `tokio::time::pause` that is
exact; on a real clock it is tokio's timer accuracy — a stated limit). The connection timeout is
`Client.Loop.cstep`. All theorems are over ALL event sequences (all timings of broker replies
and other traffic relative to the timer, broker going silent at any point, every keep-alive
value). The predicates used in the statements (`answeredWithin`, `hasLab`, `lastResp`, `fireTimes`)
are executable; the monitor the driver runs on implementation traces (`Client.LoopSpec.monStep`)
states the same clauses in its own terms.
-/
import Proofs.Lemmas.ClientTimer
namespace C18
open Client.Timer

/-- C18.1 "sends a PINGREQ at least once per keep-alive interval": on one connection
    established at `t0` the keep-alive branch produces its outputs (PINGREQs, possibly ended by
    the AwaitPingResp error) exactly at `t0+k, t0+2k, …` — whatever else happens in between
    (packets read, requests written: they do not move the deadline) — and while the connection
    is up time never gets past the next point of the schedule without that output. -/
theorem ping_period (ver : Ver) (k t0 : Nat) (evs : List Ev) (hk : armed ver k = true)
    (h1 : oneConn evs = true) (ht : Timely (fresh ver k t0) evs) :
    ∃ n, fireTimes (trace (fresh ver k t0) evs) = schedule t0 k n ∧
      ((run (fresh ver k t0) evs).connected = true →
        (run (fresh ver k t0) evs).now ≤ t0 + (n + 1) * k) := by
  obtain ⟨n, h, h'⟩ := (conn_trace evs _ t0 (sched_fresh ver k t0 hk) h1 ht).period
  exact ⟨n, h, fun hc => h' _ (by rw [upAt, hc]; rfl)⟩

/-- C18.1 as a bound on gaps, which is what the monitor `c18-ping-late` looks for: consecutive
    outputs of the keep-alive branch are never more than `k` apart. -/
theorem ping_gap_le (ver : Ver) (k t0 : Nat) (evs : List Ev) (hk : armed ver k = true)
    (h1 : oneConn evs = true) (ht : Timely (fresh ver k t0) evs) :
    gapsLe k t0 (fireTimes (trace (fresh ver k t0) evs)) = true := by
  obtain ⟨n, h, _⟩ := ping_period ver k t0 evs hk h1 ht
  rw [h]
  exact gapsLe_schedule k n t0

/-- C18.2 "reports the connection as failed no later than the second interval after the broker
    stopped answering pings": let `s` be the time of the broker's last PINGRESP (the CONNACK if
    it never answered). While the connection is still reported up, time is at most `s + 2k`;
    an AwaitPingResp error, when it comes, comes at a time `≤ s + 2k`; and if the connection is
    no longer up it is because that error was reported. -/
theorem silent_broker_detected (ver : Ver) (k t0 : Nat) (evs : List Ev) (hk : armed ver k = true)
    (h1 : oneConn evs = true) (ht : Timely (fresh ver k t0) evs) :
    let tr := trace (fresh ver k t0) evs
    let fin := run (fresh ver k t0) evs
    (fin.connected = true → fin.now ≤ lastResp t0 tr + 2 * k) ∧
    (∀ t, (t, Lab.err) ∈ tr → t ≤ lastResp t0 tr + 2 * k) ∧
    (fin.connected = false → hasLab .err tr = true) := by
  have := (conn_trace evs _ t0 (sched_fresh ver k t0 hk) h1 ht).silent t0 (fun _ => Nat.le_refl _) (fun h => nomatch h)
  exact ⟨fun hc => this.1 _ (by rw [upAt, hc]; rfl), this.2.1, fun hc => this.2.2 (by rw [upAt, hc]; rfl)⟩

/-- C18.3 "never reports a keep-alive failure while the broker answers each PINGREQ within the
    interval": if every PINGREQ written at `t` is followed by a PINGRESP before `t + k` (or the
    observation ends before `t + k`), no AwaitPingResp error occurs — over any number of
    connections, any other traffic, and even if `poll()` is called late (no `Timely` needed).
    The excluded boundary is an answer at exactly `t + k`: then timer and network are ready in
    the same `select!` and tokio picks either (both outcomes are reachable in the model). -/
theorem no_false_alarm (ver : Ver) (k t0 : Nat) (evs : List Ev)
    (h : answeredWithin k (run (fresh ver k t0) evs).now (trace (fresh ver k t0) evs) = true) :
    hasLab .err (trace (fresh ver k t0) evs) = false := by
  apply no_false_alarm_gen evs (fresh ver k t0)
  · intro hc; simp [fresh] at hc
  · intro _ ha; simp [fresh] at ha
  · exact h

/-- the boundary really is a race: answer processed first ⇒ next PINGREQ, timer first ⇒ error -/
theorem boundary_is_a_race :
    hasLab .err (trace (fresh .v4 5000 0) [.advance 5000, .fire, .advance 5000, .pingresp, .fire]) = false ∧
    hasLab .err (trace (fresh .v4 5000 0) [.advance 5000, .fire, .advance 5000, .fire, .pingresp]) = true := by
  decide

/-- C18.4 "with keep-alive zero it never pings": no PINGREQ and no keep-alive error in any run
    of either loop (MQTT 3.1.1 and MQTT 5) whose effective keep-alive is 0 — whatever state it
    starts from, across reconnects, with any traffic. (The monitor `c18-zero-pings` watches the
    implementation for it.) -/
theorem zero_never_pings (s : TState) (evs : List Ev) (hk : s.keepAlive = 0) :
    hasLab .ping (trace s evs) = false ∧ hasLab .err (trace s evs) = false := by
  have h := trace_resp_of_keepAlive_zero evs s hk
  constructor <;> exact List.any_eq_false.2 fun x hx => by rw [h x hx]; exact Bool.false_ne_true

/-- an MQTT 5 loop whose broker answered with `server_keep_alive = 0` stays silent and connected,
    however long it is polled -/
theorem zero_v5_stays_quiet :
    trace (idle .v5 0 0) [.connack, .fire, .advance 100000, .fire, .other, .fire] = [] ∧
    (run (idle .v5 0 0) [.connack, .fire, .advance 100000, .fire, .other, .fire]).connected = true := by
  decide

/-- how a v5 loop gets a zero keep-alive: the setter refuses anything below 5 s, so the only way
    is a CONNACK carrying `server_keep_alive = 0` (which MQTT 5 defines as "keep-alive off") -/
theorem v5_zero_only_from_server (cfg ms : Nat) (ska : Option Nat)
    (hset : setKeepAliveV5 ms = some cfg) (hz : effectiveV5 cfg ska = 0) : ska = some 0 := by
  unfold setKeepAliveV5 at hset
  split at hset
  · cases hset
    cases ska with
    | none => simp [effectiveV5] at hz; omega
    | some s => simp [effectiveV5] at hz; simp; omega
  · cases hset

/-- C18.5 "a connection or handshake that does not complete within the configured connection
    timeout is reported as a timeout": an attempt started at `t` with timeout `ct` that is still
    unresolved has not been allowed past `t + ct`; without a completing packet it can only end
    as a timeout; and a timeout is reported at exactly `t + ct`. -/
theorem connect_timeout (t ct : Nat) (evs : List Client.Loop.CEv)
    (ht : Client.Loop.CTimely { now := t, start := t, ct := ct } evs) :
    let fin := Client.Loop.crun { now := t, start := t, ct := ct } evs
    (fin.outcome = none → fin.now ≤ t + ct) ∧
    (Client.Loop.noComplete evs = true → fin.outcome = none ∨ fin.outcome = some (.timedOut (t + ct))) ∧
    (∀ a, fin.outcome = some (.timedOut a) → a = t + ct) := by
  intro fin
  have hI : Client.Loop.CInv (t + ct) fin :=
    Client.Loop.CInv.crun evs _ ⟨rfl, fun _ => Nat.le_add_right t ct, fun a ha => nomatch ha⟩ ht
  refine ⟨hI.le, fun hn => ?_, hI.at_⟩
  -- only a `complete` event completes the attempt, and a timeout is stamped `t + ct`
  cases ho : fin.outcome with
  | none => exact .inl rfl
  | some o =>
    cases o with
    | completed a => exact absurd ho (Client.Loop.crun_not_completed evs { now := t, start := t, ct := ct } hn
      (fun a ha => nomatch ha) a)
    | timedOut a => exact .inr (by rw [hI.at_ a ho])

/-- a 5 s keep-alive, broker answers the first ping after 1.2 s and then goes silent:
    pings at 5 s and 10 s, failure reported at 15 s = last answer (6.2 s) + 8.8 s ≤ + 2k -/
example :
    trace (fresh .v4 5000 0)
      [.advance 5000, .fire, .advance 1200, .pingresp, .request, .advance 3800, .fire, .other,
       .advance 5000, .fire] =
      [(5000, .ping), (6200, .resp), (10000, .ping), (15000, .err)] := by decide

example : Timely (fresh .v4 5000 0)
    [.advance 5000, .fire, .advance 1200, .pingresp, .request, .advance 3800, .fire, .other,
     .advance 5000, .fire] := by
  simp [Timely, fresh, step, fire, due, armed]

/-- the hypothesis of `no_false_alarm` is satisfiable by a run with pings in it -/
example : answeredWithin 5000 12000
    (trace (fresh .v5 5000 0) [.advance 5000, .fire, .advance 4999, .pingresp, .advance 1, .fire, .advance 2000]) = true := by
  decide

/-- connection timeout: nothing arrives, the timer fires at 5 s -/
example : (Client.Loop.crun { now := 100, start := 100, ct := 5000 }
    [.advance 2000, .partialBytes, .advance 3000, .deadline]).outcome = some (.timedOut 5100) := by decide

end C18
