/-
C09 — Broker outbound QoS>0 window is bounded, uniquely numbered, resumes on ack.
Theorems about the router model (Model/Router/Step.lean); the model is tied to
rumqttd/src/router/{iobufs,routing}.rs by the `vh router` correspondence.
`Reachable cfg s` (Proofs/Lemmas/Router/Base/Reach.lean): `s` is the state after some error-free list
of ops — connect / push / event / consume / drain, each under an arbitrary oracle — from `init cfg`.
-/
import Proofs.Lemmas.Router.Rp1_WindowInv
import Proofs.Lemmas.Router.Rp8_Reach
import Generated.Consts
import Proofs.Lemmas.Router.Rp1_Others
namespace C09
open Router

/-- the bound of the property text is the constant of the source: `MAX_INFLIGHT` regenerated from
    rumqttd/src/router/iobufs.rs on every run equals the model's constant and is 100 -/
theorem max_inflight_is_100 :
    Generated.MAX_INFLIGHT = 100 ∧ Router.MAX_INFLIGHT = Generated.MAX_INFLIGHT ∧
    Generated.MAX_PKID = Generated.MAX_INFLIGHT := by decide

/-- a sweep for a QoS>0 subscription is refused when the window is full -/
theorem free_slots_spec (o : Outgoing) : o.freeSlots = MAX_INFLIGHT - o.inflight.length := rfl

theorem push_forwards_adds_exactly (o : Outgoing) (fi : Nat) (ps : List (Pub × Option Cursor)) :
    (numberForwards o fi ps []).1.inflight.length = o.inflight.length + ps.length ∧
    (numberForwards o fi ps []).2.length = ps.length := by
  have h := numberForwards_lengths fi ps o []
  simpa using h

/-- hence a sweep that pushes at most `free_slots` publishes never exceeds the window -/
theorem window_never_exceeded_by_push (o : Outgoing) (fi : Nat) (ps : List (Pub × Option Cursor))
    (hw : o.inflight.length ≤ MAX_INFLIGHT) (hk : ps.length ≤ o.freeSlots) :
    (numberForwards o fi ps []).1.inflight.length ≤ MAX_INFLIGHT := by
  have h := (numberForwards_lengths fi ps o []).1
  unfold Outgoing.freeSlots at hk
  omega

/-- an acknowledgement is accepted exactly for the head of the window and then removes it; an
    out-of-order or unsolicited ack is reported (`false` ⇒ the caller closes that connection) and
    leaves the window as it is, so the unacknowledged head is retransmitted when a persistent
    session resumes -/
theorem register_ack_fifo (o : Outgoing) (pkid : Nat) :
    ((o.registerAck pkid).2 = true ↔ ∃ fi c rest, o.inflight = (pkid, fi, c) :: rest) ∧
    ((o.registerAck pkid).2 = true → (o.registerAck pkid).1.inflight = o.inflight.drop 1) ∧
    ((o.registerAck pkid).2 = false → (o.registerAck pkid).1 = o) :=
  registerAck_spec o pkid

/-- a read of the commit log for `n` slots returns at most `n` entries — for any log and cursor —
    so a sweep (retained replay `take slots` + log read with the remaining slots) never produces
    more QoS>0 publishes than there are free slots -/
theorem readv_returns_at_most {α : Type} (l : CLog.Log α) (cur : CLog.Cursor) (n : Nat) :
    (l.readv cur n).1.length ≤ n := CLog.Log.readv_length l cur n

/-- the window is bounded: in every reachable state every connection has at most `MAX_INFLIGHT`
    (= 100) unacknowledged QoS>0 publishes outstanding -/
theorem window_le_max_always {cfg : Config} {s : RState} (hr : Reachable cfg s) {id : Nat} {c : Conn}
    (hc : getConn s id = some c) : c.out.inflight.length ≤ Generated.MAX_INFLIGHT :=
  ((Inv1.reachable hr).out id c hc).1

/-- the window is uniquely numbered: in every reachable state the packet ids of a connection's
    outstanding publishes are non-zero, at most `MAX_INFLIGHT`, and pairwise distinct -/
theorem pkids_nonzero_distinct_always {cfg : Config} {s : RState} (hr : Reachable cfg s) {id : Nat} {c : Conn}
    (hc : getConn s id = some c) :
    (∀ e ∈ c.out.inflight, 0 < e.1 ∧ e.1 ≤ Generated.MAX_INFLIGHT) ∧ (c.out.inflight.map (·.1)).Nodup :=
  ((Inv1.reachable hr).out id c hc).pkids

/-- why they are distinct: strict FIFO acknowledgement makes the window a cyclic interval — its
    `n` ids are the `n` consecutive ids (in `1..=100`, wrapping from 100 to 1) ending at the id
    assigned last -/
theorem window_is_cyclic_interval {cfg : Config} {s : RState} (hr : Reachable cfg s) {id : Nat} {c : Conn}
    (hc : getConn s id = some c) (k : Nat) (hk : k < c.out.inflight.length) :
    c.out.lastPkid < 100 ∧
    (c.out.inflight[k]).1 = (c.out.lastPkid + 100 - c.out.inflight.length + k) % 100 + 1 :=
  ⟨((Inv1.reachable hr).out id c hc).2.1, ((Inv1.reachable hr).out id c hc).2.2 k _ (List.getElem?_eq_getElem hk)⟩

/-- an unsolicited / out-of-order acknowledgement (PUBACK or PUBREC whose packet id is not the head
    of the window) closes that connection and only that one: the connection is removed, and every
    other connection stays, unchanged except possibly for its tracker -/
theorem unsolicited_ack_closes_only_that_connection {s s' : RState} {id : Nat} {c : Conn} {pkid : Nat}
    {pkt : Packet} (hc : getConn s id = some c) (hib : (getLink s c.link).ibuf = [pkt])
    (hpkt : pkt = .puback pkid ∨ pkt = .pubrec pkid)
    (hhead : ∀ fi cur rest, c.out.inflight ≠ (pkid, fi, cur) :: rest)
    (h : events s id .deviceData = .ok s') :
    getConn s' id = none ∧
    ∀ j d, j ≠ id → getConn s j = some d → ∃ t, getConn s' j = some { d with tracker := t } :=
  ⟨(bad_ack_closes hc hib hpkt hhead h).1, fun _ _ hj hd => events_frame h hj hd⟩

/-- C09 "resumes on ack … without further stimulus" (state form). In every reachable state a
    connection that tracks data requests and whose window has room (fewer than `MAX_INFLIGHT`
    unacknowledged publishes — e.g. right after the acknowledgement of the head) is `Ready` and in
    the ready queue, so the next `consume` calls sweep its requests, or it is `Paused(Busy)`, i.e.
    waits for its own link to drain the buffer (`Ready` event). It is never left `Paused(InflightFull)`
    or `Paused(Caughtup)`: `Paused(InflightFull)` holds only while the window is full
    (`C01.scheduler_status_facts`), and the PUBACK / PUBREC that frees a slot reschedules the
    connection (`Scheduler::reschedule(IncomingAck)`). -/
theorem resumes_when_window_has_room {cfg : Config} {s : RState} (hr : Reachable cfg s) {id : Nat} {c : Conn}
    (hc : getConn s id = some c) (hreq : c.tracker.requests ≠ []) (hroom : c.out.inflight.length < MAX_INFLIGHT) :
    (c.tracker.status = .ready ∧ id ∈ s.readyqueue) ∨ c.tracker.status = .paused .busy := by
  rcases tracking_status hr hc hreq with h | ⟨_, h⟩ | h
  · exact .inl h
  · omega
  · exact .inr h

/-- C09: the acknowledgement itself — a PUBACK for the head of the window, handled in a state that
    satisfies the scheduler-status facts, leaves the connection neither `Paused(InflightFull)` nor
    `Paused(Caughtup)`: it is `Ready` (queued) unless it is `Paused(Busy)` -/
theorem puback_reschedules {s s' : RState} {id : Nat} {cid : String} {pkid : Nat} {fl fl' : Flags} {c : Conn}
    (hc : getConn s id = some c) (hhead : (c.out.registerAck pkid).2 = true)
    (h : handlePacket s id cid (.puback pkid) fl = .ok (s', fl')) :
    ∃ c', getConn s' id = some c' ∧ c'.out = (c.out.registerAck pkid).1 ∧ c'.tracker.requests = c.tracker.requests ∧
      c'.tracker.status ≠ .paused .inflightFull ∧ c'.tracker.status ≠ .paused .caughtup ∧
      (c'.tracker.status = .ready → c.tracker.status = .ready ∨ id ∈ s'.readyqueue) := by
  cases packet_cases h with
  | pubackBad hc' hbad _ _ => cases hc.symm.trans hc'; rw [hhead] at hbad; cases hbad
  | pubackOk hc' _ h2 _ =>
    cases hc.symm.trans hc'
    have hc1 : getConn ((setConn s id { c with out := (c.out.registerAck pkid).1 }).g (.clientAcked id pkid)) id =
        some { c with out := (c.out.registerAck pkid).1 } := (getConn_of_set hc rfl id).trans (by simp)
    obtain ⟨c', hc', er, eo, _, hn1, hn2, _, _, hready⟩ := reschedule_spec hc1 h2
    exact ⟨c', hc', eo, er, hn2 rfl, hn1 (.inr (.inr rfl)), hready⟩

example : (numberForwards {} 0 [(default, none), (default, none)] []).1.inflight.map (·.1) = [1, 2] := by decide

/-- packet ids wrap from 100 to 1 -/
example : (numberForwards { lastPkid := 99 } 0 [(default, none), (default, none)] []).1.inflight.map (·.1) = [100, 1] := by
  decide

/-- non-vacuity: a full window (100 entries) satisfying the window invariant exists, and a further
    QoS>0 sweep is refused (`free_slots = 0`) -/
example : let o := (numberForwards {} 0 (List.replicate 100 (default, none)) []).1
    OutInv o ∧ o.inflight.length = 100 ∧ o.freeSlots = 0 := by
  have hl := (numberForwards_lengths 0 (List.replicate 100 (default, none)) {} []).1
  simp only [List.length_replicate] at hl
  exact ⟨OutInv.numberForwards 0 _ _ _ (OutInv.empty []) (by simp [MAX_INFLIGHT_eq]), by simpa using hl,
    Outgoing.freeSlots_of_full (by simpa [MAX_INFLIGHT_eq] using hl)⟩

/-- non-vacuity of `Reachable`: a state with a registered connection -/
example : ∃ s, Reachable ⟨2, 1024, 2, 10, .roundRobin⟩ s ∧ (getConn s 0).isSome = true :=
  ⟨_, ⟨[(.connect { link := 0, clientId := "a", clean := true, dynamicFilters := false, aliasMax := 0, will := none }, [])], rfl⟩, rfl⟩

end C09
