/-
C08 — Broker persistent sessions resume without losing subscriptions or messages.
-/
import Proofs.Lemmas.Router.Base.Local
import Proofs.Lemmas.Router.Rp3_GFrame
import Proofs.Lemmas.Router.Rp1_ShapeOf
import Proofs.Lemmas.Router.Rp12_Resume
import Proofs.Lemmas.Router.Rp15_Window
import Proofs.Lemmas.Router.Rp15_Saved
import Proofs.Lemmas.Router.Rp7_Run
namespace C08
open Router Router.Rp3

/-- when a connection ends (any cause) the graveyard keeps its session state exactly if it was
    connected with clean-session off; for a clean session only the marker without state stays -/
theorem session_saved_iff_not_clean (s s' : RState) (id : Nat) (r : Option String) (c : Conn)
    (hc : getConn s id = some c) (h : handleDisconnection s id r = .ok s') :
    (alookup c.clientId s'.graveyard).map Option.isSome = some (!c.clean) := by
  rw [graveyard_after_disconnection hc h, Option.map_some, hdSession_isSome]

/-- the saved session holds the connection's subscription set and its unacknowledged releases -/
theorem saved_session_keeps_subscriptions (s s' : RState) (id : Nat) (r : Option String) (c : Conn)
    (hc : getConn s id = some c) (hcl : c.clean = false) (h : handleDisconnection s id r = .ok s') :
    ∃ ss, alookup c.clientId s'.graveyard = some (some ss) ∧ ss.subscriptions = c.subscriptions ∧
      ss.unackedPubrels = c.out.unackedPubrels ∧ ss.tracker.status = .paused .busy :=
  ⟨_, by rw [graveyard_after_disconnection hc h, hdSession_persistent s id hcl], rfl, rfl, rfl⟩

/-- the resume point of a filter LOG is the LEAST cursor (tuple order of `(segment, offset)`) among its
    forwarded and unacknowledged QoS>0 entries: `retransmission_map` keeps, per filter index, the least
    cursor of the window entries of that index that carry one — it is the cursor of one of them and
    at or below the cursor of each of them, wherever they stand in the window. -/
theorem retransmission_map_least_wins (fi : Nat) (w : List (Nat × Nat × Option Cursor)) (c : Cursor) :
    nlookup fi (retransmissionMap w []) = some c ↔
      (∃ e ∈ w, e.2.1 = fi ∧ e.2.2 = some c) ∧
      ∀ e ∈ w, e.2.1 = fi → ∀ c', e.2.2 = some c' → cursorLe c c' :=
  retx_lookup_some_iff fi w c

/-- retained replays (no cursor) never define a resume point -/
theorem retained_replays_are_not_resume_points (pk fi : Nat) (rest : List (Nat × Nat × Option Cursor))
    (acc : List (Nat × Cursor)) :
    retransmissionMap ((pk, fi, none) :: rest) acc = retransmissionMap rest acc := by
  simp [retransmissionMap]

/-! ### UNSUBSCRIBE ends the resume point of the subscription

`unsubscribe` makes the window entries of the ended subscription forget their cursor
(`Outgoing.forgetCursors`, via `unsubOut`), so that `retransmission_map` — with which
`handle_disconnection` rewinds the saved requests — has no entry for the filter any more. -/

/-- C08.3 (which filters have a resume point). `retransmission_map` has an entry for a filter
    index exactly if some window entry of that filter index still carries a cursor -/
theorem resume_point_iff (fi : Nat) (l : List (Nat × Nat × Option Cursor)) :
    nlookup fi (retransmissionMap l []) = none ↔ ∀ e ∈ l, e.2.1 = fi → e.2.2 = none := by
  rw [retx_lookup_least]; exact leastCursor_none_iff fi l


private theorem leastFrom_forget_other (fi fj : Nat) (hne : fj ≠ fi) : ∀ (l : List (Nat × Nat × Option Cursor)) (init : Option Cursor),
    leastFrom fj (l.map (fun e => if e.2.1 = fi then (e.1, e.2.1, none) else e)) init = leastFrom fj l init
  | [], _ => rfl
  | (pk, fk, cur) :: rest, init => by
    simp only [List.map_cons]
    by_cases hk : fk = fi
    · have hkj : ¬ fk = fj := fun e => hne (e ▸ hk)
      simp only [hk, if_true, leastFrom]
      rw [if_neg (fun e => hne e.symm), if_neg (fun e => hne e.symm)]
      exact leastFrom_forget_other fi fj hne rest init
    · simp only [hk, if_false, leastFrom]
      exact leastFrom_forget_other fi fj hne rest _

/-- C08.3 (an ended subscription has no resume point). `forget_cursors(fi)` — what UNSUBSCRIBE
    does to the window when the connection's last subscription reading filter log `fi` ends —
    leaves no entry for `fi` in the `retransmission_map` of the window, and does not change the
    resume point of any other filter index -/
theorem forget_cursors_ends_resume_point (o : Outgoing) (fi : Nat) :
    nlookup fi (retransmissionMap (o.forgetCursors fi).inflight []) = none ∧
    ∀ fj, fj ≠ fi → nlookup fj (retransmissionMap (o.forgetCursors fi).inflight []) =
      nlookup fj (retransmissionMap o.inflight []) := by
  refine ⟨?_, fun fj hne => ?_⟩
  · rw [resume_point_iff]; unfold Outgoing.forgetCursors
    intro e he hfi
    obtain ⟨e0, _, rfl⟩ := List.mem_map.mp he
    by_cases h0 : e0.2.1 = fi
    · simp [h0]
    · simp [h0] at hfi
  · rw [retx_leastFrom, retx_leastFrom]; unfold Outgoing.forgetCursors
    exact leastFrom_forget_other fi fj hne _ _

/-- window entries that forget their cursor never create a resume point -/
theorem forgotten_cursors_create_no_resume_point {l l' : List (Nat × Nat × Option Cursor)}
    (h : Forgets l l') (fi : Nat) (hn : nlookup fi (retransmissionMap l []) = none) :
    nlookup fi (retransmissionMap l' []) = none := by
  rw [resume_point_iff] at hn ⊢
  intro e' he' hfi
  obtain ⟨k, hk⟩ := List.getElem?_of_mem he'
  obtain ⟨e, hek, hf⟩ := h.getElem? hk
  rcases hf.2.2 with h1 | h1
  · rw [h1]; exact hn e (List.mem_of_getElem? hek) (hf.2.1 ▸ hfi)
  · exact h1

/-- C08.3 (UNSUBSCRIBE, window level). `unsubOut` is the window `unsubscribe` leaves: if none of
    the remaining subscriptions `subs` of the connection reads the log of the unsubscribed filter
    (`logPath`: a plain filter and `$share/<group>/<filter>` read the same log) and that log has
    filter index `fi`, the window has no resume point for `fi` any more -/
theorem unsub_out_ends_resume_point (d : DataLog) (subs : List String) (o : Outgoing) (f : String) (fi : Nat)
    (hlast : subs.any (fun g => logPath g == logPath f) = false)
    (hfi : d.filterIdx? (logPath f) = some fi) :
    nlookup fi (retransmissionMap (unsubOut d subs o f).inflight []) = none := by
  unfold unsubOut
  simp only [hlast, Bool.false_eq_true, if_false, hfi]
  exact (forget_cursors_ends_resume_point o fi).1

/-- C08.3 (UNSUBSCRIBE, router level). Connection `id` is subscribed to
    `f`, no other subscription of it reads the same log, and that log has filter index `fi`. After
    the UNSUBSCRIBE packet (for `f`, possibly followed by more filters) was handled, the
    `retransmission_map` of the connection's window — what `handle_disconnection` rewinds the saved
    requests with — has no entry for `fi`: the still unacknowledged publishes of the ended
    subscription are no resume point. Hence a request of a LATER subscription to `f` (it gets the
    same filter index) is saved as it is, not rewound to a publish of the ended subscription. -/
theorem unsubscribe_ends_resume_point (s s' : RState) (id : Nat) (cid : String) (pkid : Nat) (f : String)
    (rest : List String) (fl fl' : Flags) (c : Conn) (ids : List Nat) (fi : Nat)
    (hc : getConn s id = some c) (hm : alookup f s.subscriptionMap = some ids) (hid : ids.contains id = true)
    (hsub : c.subscriptions.contains f = true)
    (hlast : ∀ g ∈ c.subscriptions, g ≠ f → logPath g ≠ logPath f)
    (hfi : s.datalog.filterIdx? (logPath f) = some fi)
    (h : handlePacket s id cid (.unsubscribe pkid (f :: rest)) fl = .ok (s', fl')) :
    ∃ c', getConn s' id = some c' ∧
      nlookup fi (retransmissionMap c'.out.inflight []) = none ∧
      ∀ (r : DataRequest) (sh : List (String × SharedGroup)), r.filterIdx = fi →
        rewindRequests sh (retransmissionMap c'.out.inflight []) [r] [] = (sh, [r]) := by
  have key : ∃ c', getConn s' id = some c' ∧ nlookup fi (retransmissionMap c'.out.inflight []) = none := by
    cases packet_cases h with
    | unsubscribe h1 h2 _ =>
      rw [unsubscribeFilters_cons_hit hm hid hc hsub] at h1
      have hlast' : (c.subscriptions.filter (· ≠ f)).any (fun g => logPath g == logPath f) = false := by
        rw [List.any_eq_false]
        intro g hg
        have := List.mem_filter.mp hg
        simpa using hlast g this.1 (by simpa using this.2)
      have hc0 : getConn (ufState s id ids c f) id = some (ufConn s.datalog c f) :=
        (getConn_of_set (c := c) (c' := ufConn s.datalog c f) hc rfl id).trans (by simp)
      obtain ⟨c1, hc1, r1⟩ := (unsubscribeFilters_shape rest h1).live hc0
      obtain ⟨c2, hc2, r2⟩ := (commitAck_shape h2).live hc1
      refine ⟨c2, hc2, ?_⟩
      rw [r2.2.1]
      exact forgotten_cursors_create_no_resume_point r1.2.1.1 fi (unsub_out_ends_resume_point s.datalog _ c.out f fi hlast' hfi)
  obtain ⟨c', hc', hn⟩ := key
  refine ⟨c', hc', hn, fun r sh hr => ?_⟩
  subst hr
  simp [rewindRequests, hn]

/-! non-vacuity of C08.3 (UNSUBSCRIBE): a hand-built window, log index and router state -/

/-- packet ids 1, 3, 4 belong to filter index 0 (4 is a retained replay), 2 to filter index 1 -/
def unsubWindow : Outgoing :=
  { inflight := [(1, 0, some (0, 0)), (2, 1, some (0, 3)), (3, 0, some (0, 1)), (4, 0, none)], lastPkid := 4 }

example : retransmissionMap unsubWindow.inflight [] = [(0, (0, 0)), (1, (0, 3))] ∧
    (unsubWindow.forgetCursors 0).inflight = [(1, 0, none), (2, 1, some (0, 3)), (3, 0, none), (4, 0, none)] ∧
    retransmissionMap (unsubWindow.forgetCursors 0).inflight [] = [(1, (0, 3))] := by decide

def unsubLog : DataLog := { filterIndexes := [("a/b", 0), ("c", 1)] }

/-- the plain and the shared form of a filter read the same log; while the connection keeps one of
    them the resume point stays -/
example : retransmissionMap (unsubOut unsubLog ["c"] unsubWindow "a/b").inflight [] = [(1, (0, 3))] ∧
    retransmissionMap (unsubOut unsubLog ["c"] unsubWindow "$share/g/a/b").inflight [] = [(1, (0, 3))] ∧
    retransmissionMap (unsubOut unsubLog ["c", "$share/g/a/b"] unsubWindow "a/b").inflight [] =
      [(0, (0, 0)), (1, (0, 3))] := by
  decide

def unsubConnEx : Conn :=
  { clientId := "a", link := 0, clean := false, dynamicFilters := false, subscriptions := ["a/b", "c"],
    out := unsubWindow, tracker := { id := "a" } }
def unsubState : RState :=
  { config := ⟨2, 1024, 2, 10, .roundRobin⟩, conns := { entries := [some unsubConnEx] }, links := [{}],
    connectionMap := [("a", 0)], subscriptionMap := [("a/b", [0]), ("c", [0])], datalog := unsubLog }

/-- the hypotheses of `unsubscribe_ends_resume_point` hold in this state … -/
example : getConn unsubState 0 = some unsubConnEx ∧ alookup "a/b" unsubState.subscriptionMap = some [0] ∧
    ([0] : List Nat).contains 0 = true ∧ unsubConnEx.subscriptions.contains "a/b" = true ∧
    (∀ g ∈ unsubConnEx.subscriptions, g ≠ "a/b" → logPath g ≠ logPath "a/b") ∧
    unsubState.datalog.filterIdx? (logPath "a/b") = some 0 :=
  ⟨rfl, rfl, rfl, rfl, by decide, by decide⟩

/-- … and the UNSUBSCRIBE packet is handled without error: filter index 0 had a resume point
    before and has none after, the resume point of filter index 1 stays -/
example : ∃ s' fl', handlePacket unsubState 0 "a" (.unsubscribe 9 ["a/b"]) {} = .ok (s', fl') ∧
    (getConn unsubState 0).map (fun c => retransmissionMap c.out.inflight []) = some [(0, (0, 0)), (1, (0, 3))] ∧
    (getConn s' 0).map (fun c => retransmissionMap c.out.inflight []) = some [(1, (0, 3))] :=
  ⟨_, _, rfl, by decide, by decide⟩

/-- C08.1 `session_present_iff`. When `handle_new_connection` registers a connection for a client
    id that has no live connection, the CONNACK committed for it (first in its ack log, followed by
    the re-sent PUBRELs) carries `session_present = ¬clean ∧ the graveyard held session state for
    this client id` (an entry with state, not the bare marker a clean session leaves). -/
theorem session_present_iff (s s' : RState) (spec : ConnectSpec) (hv : validClientId spec.clientId = true)
    (hnew : alookup spec.clientId s.connectionMap = none) (hroom : ¬ s.conns.len ≥ s.config.maxConnections)
    (h : handleNewConnection s spec = .ok s') :
    ∃ id c, alookup spec.clientId s'.connectionMap = some id ∧ getConn s' id = some c ∧
      c.clientId = spec.clientId ∧ c.clean = spec.clean ∧
      c.acks.committed =
        Ack.connack id (!spec.clean && ((alookup spec.clientId s.graveyard).bind (fun x => x)).isSome)
          :: c.out.unackedPubrels.map Ack.pubrel := by
  obtain ⟨t, hcm, hget, _⟩ := connect_fresh hv hnew hroom h
  exact ⟨_, _, hcm, hget, rfl, rfl, rfl⟩

/-- C08.1 (takeover). If the client id still has a live connection, that one is closed first
    (`handle_disconnection`, which saves its state iff it was not clean), so the new CONNACK
    reports `session_present = ¬clean ∧ the old connection was not clean`. -/
theorem session_present_after_takeover (s s' : RState) (spec : ConnectSpec) (old : Nat) (co : Conn)
    (hv : validClientId spec.clientId = true)
    (hold : alookup spec.clientId s.connectionMap = some old) (hco : getConn s old = some co)
    (hcid : co.clientId = spec.clientId)
    (hroom : ¬ (s.conns.remove old).len ≥ s.config.maxConnections)
    (h : handleNewConnection s spec = .ok s') :
    ∃ id c, alookup spec.clientId s'.connectionMap = some id ∧ getConn s' id = some c ∧
      c.clientId = spec.clientId ∧
      c.acks.committed.head? = some (Ack.connack id (!spec.clean && !co.clean)) := by
  obtain ⟨s1, hd, ha⟩ := register_takeover hv hold h
  have hco' : getConn (setLink s spec.link {}) old = some co := hco
  have hD := handleDisconnection_spec hco' hd
  obtain ⟨t, woke, hR⟩ := register_spec (ha (by rw [hD.len, hD.config]; exact hroom))
  refine ⟨_, _, by rw [hR.connectionMap]; exact alookup_ainsert_same _ _ _, hR.conn, rfl, ?_⟩
  -- the session the new CONNACK reports is the one the closed connection has just left in the graveyard
  have : hnSession s1 spec = hdSession (setLink s spec.link {}) old co := by
    unfold hnSession; rw [← hcid, graveyard_after_disconnection hco' hd]; rfl
  show (hnAcks spec _ (hnSession s1 spec).isSome _).head? = _
  rw [this, hdSession_isSome]; rfl

/-- C08 `clean_connect_starts_empty`. A connect with clean-session on always reports no session
    and starts with no subscriptions, no tracked requests, no pending releases, an empty inflight
    window; the graveyard entry of the client id is consumed. -/
theorem clean_connect_starts_empty (s s' : RState) (spec : ConnectSpec) (hv : validClientId spec.clientId = true)
    (hnew : alookup spec.clientId s.connectionMap = none) (hroom : ¬ s.conns.len ≥ s.config.maxConnections)
    (hclean : spec.clean = true) (h : handleNewConnection s spec = .ok s') :
    ∃ id c, alookup spec.clientId s'.connectionMap = some id ∧ getConn s' id = some c ∧
      c.acks.committed = [Ack.connack id false] ∧
      c.subscriptions = [] ∧ c.tracker.requests = [] ∧ c.out.unackedPubrels = [] ∧ c.out.inflight = [] ∧
      alookup spec.clientId s'.graveyard = none := by
  obtain ⟨t, hcm, hget, hreqs, hgy, _⟩ := connect_fresh hv hnew hroom h
  -- a clean CONNECT restores nothing: `hnNew` is the empty record with the CONNACK `session_present = false`
  have hrs : hnRestored (setLink s spec.link {}) spec = none := by unfold hnRestored; rw [if_pos hclean]
  refine ⟨_, _, hcm, hget, ?_, ?_, ?_, ?_, rfl, hgy⟩
  · simp [hnNew, hnAcks, hnPending, hrs, hclean]
  · simp [hnNew, hnConn, hnSubs, hrs]
  · rw [hreqs, hrs]; rfl
  · simp [hnNew, hnConn, hnPending, hrs]

/-- C08.2 `subscriptions_survive` (conservation across the graveyard). A connection with
    clean-session off ends — by ANY cause, all of them run `handle_disconnection` — and later the
    same client id connects again with clean-session off, nothing in between having touched this
    client's graveyard entry or reconnected it. Then the new connection holds exactly the saved
    subscription set, exactly the saved data requests — the tracked ones followed by the parked
    ones `DataLog::clean` collected, each request of a SHARED subscription first set to its group's
    cursor at the time of the disconnection (`atGroupCursor` on the groups of `s`; the identity for a
    plain subscription, `atGroupCursor_plain`), then each with its cursor rewound to the
    retransmission point of its filter (`retransmission_map_least_wins`) when one exists —, the unacknowledged PUBRELs
    (re-sent right after the CONNACK), the CONNACK says `session_present`, and the graveyard entry
    is consumed. -/
theorem subscriptions_survive (s s1 s2 s3 : RState) (id : Nat) (c : Conn) (r : Option String)
    (spec : ConnectSpec)
    (hc : getConn s id = some c) (hcl : c.clean = false) (hd : handleDisconnection s id r = .ok s1)
    (hgy : alookup c.clientId s2.graveyard = alookup c.clientId s1.graveyard)
    (hnew : alookup c.clientId s2.connectionMap = none)
    (hroom : ¬ s2.conns.len ≥ s2.config.maxConnections)
    (hid : spec.clientId = c.clientId) (hsc : spec.clean = false) (hv : validClientId spec.clientId = true)
    (hn : handleNewConnection s2 spec = .ok s3) :
    ∃ id' c', alookup c.clientId s3.connectionMap = some id' ∧ getConn s3 id' = some c' ∧
      c'.clientId = c.clientId ∧
      c'.subscriptions = c.subscriptions ∧
      c'.tracker.requests = ((c.tracker.requests ++ (datalogClean s.datalog id).2).map (atGroupCursor s.shared)).map
          (rewindOne (retransmissionMap c.out.inflight [])) ∧
      c'.out.unackedPubrels = c.out.unackedPubrels ∧
      c'.acks.committed = Ack.connack id' true :: c.out.unackedPubrels.map Ack.pubrel ∧
      alookup c.clientId s3.graveyard = none := by
  obtain ⟨hrs, hsp⟩ := restores_saved (spec := spec) hc hcl hd hgy hid hsc
  obtain ⟨t, hcm, hget, hreqs, hgy3, _⟩ := connect_fresh hv (by rw [hid]; exact hnew) hroom hn
  -- `hnNew` built from the restored session, which is the saved one (`hdSession_persistent`)
  rw [hdSession_persistent s id hcl] at hrs
  refine ⟨_, _, hid ▸ hcm, hget, hid, ?_, ?_, ?_, ?_, hid ▸ hgy3⟩
  · show hnSubs (hnRestored _ spec) = _; rw [hrs]; rfl
  · rw [hreqs, hrs]; exact hdSavedOf_reqs s id c
  · show hnPending (hnRestored _ spec) = _; rw [hrs]; rfl
  · show hnAcks spec _ (hnSession _ spec).isSome (hnRestored _ spec) = _
    rw [hsp, hrs]; simp [hnAcks, hnPending, hsc]

/-- C08.2 (what a restored request is). It is the saved request with the same filter, filter
    index, QoS, group and retained-replay flag; only the cursor may differ: it is what the map `retx` holds
    for the request's filter index if it holds something, else the saved cursor (with `retx` the
    `retransmission_map` of the window this is the least window cursor of the index: `least_window_entry`). -/
theorem restored_request_differs_in_cursor_only (retx : List (Nat × Cursor)) (r : DataRequest) :
    (rewindOne retx r).filter = r.filter ∧ (rewindOne retx r).filterIdx = r.filterIdx ∧
    (rewindOne retx r).qos = r.qos ∧ (rewindOne retx r).group = r.group ∧
    (rewindOne retx r).forwardRetained = r.forwardRetained ∧
    (rewindOne retx r).cursor = (match nlookup r.filterIdx retx with | some c => c | none => r.cursor) :=
  rewindOne_fields retx r

/-- C08.2 (conservation of the parked requests). The requests `DataLog::clean(id)` hands to
    `handle_disconnection` are exactly the requests connection `id` had parked on any filter (as a
    multiset: `swap_remove_back` reorders), and afterwards no filter has a waiter of `id` while
    the waiters of other connections, the filters and the logs are as before. -/
theorem parked_requests_are_collected (d : DataLog) (id : Nat) :
    (datalogClean d id).2.Perm
      ((d.native.map (fun fd => (fd.waiters.filter (fun w => w.1 == id)).map (·.2))).flatten) ∧
    (∀ (i : Nat) (fd : FilterData), d.native[i]? = some fd →
      ∃ fd', (datalogClean d id).1.native[i]? = some fd' ∧ fd'.filter = fd.filter ∧ fd'.log = fd.log ∧
        fd'.waiters.Perm (fd.waiters.filter (fun w => !(w.1 == id)))) := by
  rw [datalogClean_map]
  constructor
  · rw [List.flatMap_def]; exact flatten_map_perm _ _ _ (fun fd _ => parkedOf_perm id fd)
  · intro i fd hfd
    exact ⟨dropWaiters id fd, by simp [hfd], rfl, rfl, dropWaiters_perm id fd⟩

/-- C08.2 (the hypotheses on the in-between are satisfiable, and hold right after the disconnect):
    `handle_disconnection` removes the client id from the connection map and writes the graveyard
    entry, so an immediate reconnect meets them with `s2 = s1`. -/
theorem disconnected_client_can_resume (s s1 : RState) (id : Nat) (c : Conn) (r : Option String)
    (hc : getConn s id = some c) (hd : handleDisconnection s id r = .ok s1) :
    alookup c.clientId s1.connectionMap = none ∧
    (alookup c.clientId s1.graveyard).map Option.isSome = some (!c.clean) ∧
    (∀ other, other ≠ c.clientId → alookup other s1.graveyard = alookup other s.graveyard) := by
  have hD := handleDisconnection_spec hc hd
  refine ⟨by rw [hD.connectionMap]; exact alookup_aremove_same _ _, session_saved_iff_not_clean s s1 id r c hc hd, ?_⟩
  intro other hne
  rw [hD.graveyard]; exact alookup_ainsert_ne _ _ _ _ hne

/-- C08.2 (frame). While client `X` has no live connection, every router step other than a CONNECT
    of `X` — whatever other clients publish, subscribe, acknowledge, disconnect or take over — leaves
    `X`'s graveyard entry untouched, creates no connection for `X` and does not enter `X` into the
    connection map. -/
theorem other_clients_leave_the_session_alone (X : String) (s s' : RState) (op : Op) (o : Out)
    (hl : NoLive X s) (hop : NotConnectOf X op) (h : step s op = .ok (s', o)) :
    alookup X s'.graveyard = alookup X s.graveyard ∧ NoLive X s' ∧
    (alookup X s.connectionMap = none → alookup X s'.connectionMap = none) := by
  obtain ⟨a, b, c⟩ := step_frame hl hop h
  exact ⟨a, b, c⟩

/-- C08.2 `subscriptions_survive`, over whole runs. A connection with clean-session off ends (any
    cause); the router then runs ANY sequence of ops (any oracle choices) that contains no CONNECT
    of this client id; then the client connects again with clean-session off (and there is room).
    Provided no second live connection carried the same client id at the disconnect (one session
    per client id, C19), the new connection has exactly the saved subscriptions, the saved data
    requests (tracked + parked, shared ones at their group's cursor, rewound per retransmission map), the pending PUBRELs, and the
    CONNACK reports `session_present`. -/
theorem subscriptions_survive_any_run (s s1 s2 s3 : RState) (id : Nat) (c : Conn) (r : Option String)
    (ops : List (Op × List Choice)) (spec : ConnectSpec)
    (hc : getConn s id = some c) (hcl : c.clean = false) (hd : handleDisconnection s id r = .ok s1)
    (hone : NoLive c.clientId s1)
    (hops : ∀ oc ∈ ops, NotConnectOf c.clientId oc.1) (hrun : run s1 ops = .ok s2)
    (hroom : ¬ s2.conns.len ≥ s2.config.maxConnections)
    (hid : spec.clientId = c.clientId) (hsc : spec.clean = false) (hv : validClientId spec.clientId = true)
    (hn : handleNewConnection s2 spec = .ok s3) :
    ∃ id' c', alookup c.clientId s3.connectionMap = some id' ∧ getConn s3 id' = some c' ∧
      c'.clientId = c.clientId ∧
      c'.subscriptions = c.subscriptions ∧
      c'.tracker.requests = ((c.tracker.requests ++ (datalogClean s.datalog id).2).map (atGroupCursor s.shared)).map
          (rewindOne (retransmissionMap c.out.inflight [])) ∧
      c'.out.unackedPubrels = c.out.unackedPubrels ∧
      c'.acks.committed = Ack.connack id' true :: c.out.unackedPubrels.map Ack.pubrel ∧
      alookup c.clientId s3.graveyard = none := by
  obtain ⟨hcm, _, _⟩ := disconnected_client_can_resume s s1 id c r hc hd
  obtain ⟨fg, _, fc⟩ := run_frame ops hone hops hrun
  exact subscriptions_survive s s1 s2 s3 id c r spec hc hcl hd fg (fc hcm) hroom hid hsc hv hn

/-- C08 / C19 (one session per client id). In every reachable state the connection map knows every
    live connection under its client id (`CMOK`), so two live connections never share a client id;
    and the handling of a packet — any packet — leaves connection map, graveyard and the client
    ids of the live connections exactly as they are, so `CMOK` also holds at every state inside a
    step where a connection may be closed. -/
theorem one_session_per_client_id (cfg : Config) :
    (∀ s, Reachable cfg s → CMOK s) ∧
    (∀ s, CMOK s → ∀ i j ci cj, getConn s i = some ci → getConn s j = some cj →
        ci.clientId = cj.clientId → i = j) ∧
    (∀ s s' id cid pkt fl fl', CMOK s → handlePacket s id cid pkt fl = .ok (s', fl') → CMOK s') := by
  refine ⟨fun _ hr => reachable_cmok hr, ?_, fun _ _ _ _ _ _ _ hk h => hk.of_gkey (handlePacket_gkey h)⟩
  intro s hk i j ci cj hi hj he
  exact hk.unique (cids_getConn hi) (he ▸ cids_getConn hj)

/-- C08.2 `subscriptions_survive`, no side condition left but room and the absence of a CONNECT of
    the same id in between. In a state with a coherent connection map (every reachable state and
    every state inside a step, `one_session_per_client_id`), a connection with clean-session off
    ends by any cause; ANY run without a CONNECT of this client id follows; then the client connects
    with clean-session off. The new connection has exactly the saved subscriptions and data
    requests (tracked + parked, shared ones at their group's cursor, rewound per retransmission map), the pending PUBRELs, and the
    CONNACK says `session_present`. -/
theorem subscriptions_survive_reachable (s s1 s2 s3 : RState) (hk : CMOK s)
    (id : Nat) (c : Conn) (r : Option String) (ops : List (Op × List Choice)) (spec : ConnectSpec)
    (hc : getConn s id = some c) (hcl : c.clean = false) (hd : handleDisconnection s id r = .ok s1)
    (hops : ∀ oc ∈ ops, NotConnectOf c.clientId oc.1) (hrun : run s1 ops = .ok s2)
    (hroom : ¬ s2.conns.len ≥ s2.config.maxConnections)
    (hid : spec.clientId = c.clientId) (hsc : spec.clean = false) (hv : validClientId spec.clientId = true)
    (hn : handleNewConnection s2 spec = .ok s3) :
    ∃ id' c', alookup c.clientId s3.connectionMap = some id' ∧ getConn s3 id' = some c' ∧
      c'.clientId = c.clientId ∧
      c'.subscriptions = c.subscriptions ∧
      c'.tracker.requests = ((c.tracker.requests ++ (datalogClean s.datalog id).2).map (atGroupCursor s.shared)).map
          (rewindOne (retransmissionMap c.out.inflight [])) ∧
      c'.out.unackedPubrels = c.out.unackedPubrels ∧
      c'.acks.committed = Ack.connack id' true :: c.out.unackedPubrels.map Ack.pubrel ∧
      alookup c.clientId s3.graveyard = none := by
  have hone : NoLive c.clientId s1 := by
    unfold NoLive; rw [(handleDisconnection_spec hc hd).cids]
    exact hk.noLive_after_remove hc
  exact subscriptions_survive_any_run s s1 s2 s3 id c r ops spec hc hcl hd hone hops hrun hroom hid hsc hv hn

/-- C08.2 (a resumed session is registered again, router level). After a CONNECT that registers a
    connection (no live connection under the client id, room left): every subscription the new
    connection holds — the restored ones — is entered in `subscription_map` under the new id, and
    for every request it tracks — the restored ones — that belongs to a shared subscription, the
    client is a member of the request's group (a group that no longer existed is created again) -/
theorem resumed_session_is_registered_again (s s' : RState) (spec : ConnectSpec) (hv : validClientId spec.clientId = true)
    (hnew : alookup spec.clientId s.connectionMap = none) (hroom : ¬ s.conns.len ≥ s.config.maxConnections)
    (h : handleNewConnection s spec = .ok s') :
    ∃ id c, alookup spec.clientId s'.connectionMap = some id ∧ getConn s' id = some c ∧
      (∀ f ∈ c.subscriptions, ∃ ids, alookup f s'.subscriptionMap = some ids ∧ id ∈ ids) ∧
      (∀ r ∈ c.tracker.requests, ∀ g, r.group = some g →
        ∃ grp, alookup g s'.shared = some grp ∧ spec.clientId ∈ grp.clients) := by
  obtain ⟨t, hcm, hget, _, _, hsh, hsm⟩ := connect_fresh hv hnew hroom h
  refine ⟨_, _, hcm, hget, fun f hf => ?_, fun r hr g hg => ?_⟩
  · rw [hsm]; exact mem_foldl_subscriptionMapAdd _ _ _ f (.inl hf)
  · rw [hsh]; exact (rejoinGroups_lookup _ _ _ _ g).2 ⟨r, hr, hg⟩

/-- C08.2 (`resumed_subscriptions_can_be_unsubscribed`). Hence an UNSUBSCRIBE for a restored
    subscription is honoured after the resume: the `subscription_map` lookup finds the new id and the
    reason is `Success` (`true`) -/
theorem resumed_subscriptions_can_be_unsubscribed (s s' : RState) (spec : ConnectSpec)
    (hv : validClientId spec.clientId = true)
    (hnew : alookup spec.clientId s.connectionMap = none) (hroom : ¬ s.conns.len ≥ s.config.maxConnections)
    (h : handleNewConnection s spec = .ok s') :
    ∃ id c, alookup spec.clientId s'.connectionMap = some id ∧ getConn s' id = some c ∧
      ∀ f ∈ c.subscriptions, ∃ s'', unsubscribeFilters s' id [f] [] = .ok (s'', [true]) := by
  obtain ⟨id, c, h1, h2, h3, _⟩ := resumed_session_is_registered_again s s' spec hv hnew hroom h
  refine ⟨id, c, h1, h2, fun f hf => ?_⟩
  obtain ⟨ids, hl, hm⟩ := h3 f hf
  exact ⟨ufState s' id ids c f, unsubscribeFilters_cons_hit hl (by simpa using hm) h2 (by simpa using hf) [] []⟩


/-- C08.2 (`resumed_session_rejoins_its_groups`): the group part of `resumed_session_is_registered_again` -/
theorem resumed_session_rejoins_its_groups (s s' : RState) (spec : ConnectSpec) (hv : validClientId spec.clientId = true)
    (hnew : alookup spec.clientId s.connectionMap = none) (hroom : ¬ s.conns.len ≥ s.config.maxConnections)
    (h : handleNewConnection s spec = .ok s') :
    ∃ id c, alookup spec.clientId s'.connectionMap = some id ∧ getConn s' id = some c ∧
      ∀ r ∈ c.tracker.requests, ∀ g, r.group = some g →
        ∃ grp, alookup g s'.shared = some grp ∧ spec.clientId ∈ grp.clients := by
  obtain ⟨id, c, h1, h2, _, h4⟩ := resumed_session_is_registered_again s s' spec hv hnew hroom h
  exact ⟨id, c, h1, h2, h4⟩

/-- C08.2 (what is saved for a shared subscription). `atGroupCursor` changes the cursor only: to the
    cursor of the request's group at the time the member leaves, if the request belongs to a group
    that exists; a request of a plain subscription is saved as it is -/
theorem saved_shared_request_continues_at_group_cursor (sh : List (String × SharedGroup)) (r : DataRequest) :
    (atGroupCursor sh r).filter = r.filter ∧ (atGroupCursor sh r).filterIdx = r.filterIdx ∧
    (atGroupCursor sh r).qos = r.qos ∧ (atGroupCursor sh r).group = r.group ∧
    (atGroupCursor sh r).forwardRetained = r.forwardRetained ∧
    (∀ g grp, r.group = some g → alookup g sh = some grp → (atGroupCursor sh r).cursor = grp.cursor) ∧
    (r.group = none → atGroupCursor sh r = r) := by
  obtain ⟨a, b, c, d, e⟩ := atGroupCursor_fields sh r
  refine ⟨a, b, c, d, e, fun g grp hg hl => ?_, atGroupCursor_plain sh r⟩
  unfold atGroupCursor; simp [hg, hl]

/-- C08.2 `subscriptions_survive` for a session without shared subscriptions: the restored
    requests are the saved ones, each rewound to its retransmission point -/
theorem subscriptions_survive_plain (s s1 s2 s3 : RState) (id : Nat) (c : Conn) (r : Option String)
    (spec : ConnectSpec)
    (hc : getConn s id = some c) (hcl : c.clean = false) (hd : handleDisconnection s id r = .ok s1)
    (hgy : alookup c.clientId s2.graveyard = alookup c.clientId s1.graveyard)
    (hnew : alookup c.clientId s2.connectionMap = none)
    (hroom : ¬ s2.conns.len ≥ s2.config.maxConnections)
    (hid : spec.clientId = c.clientId) (hsc : spec.clean = false) (hv : validClientId spec.clientId = true)
    (hn : handleNewConnection s2 spec = .ok s3)
    (hplain : ∀ q ∈ c.tracker.requests ++ (datalogClean s.datalog id).2, q.group = none) :
    ∃ id' c', alookup c.clientId s3.connectionMap = some id' ∧ getConn s3 id' = some c' ∧
      c'.clientId = c.clientId ∧
      c'.subscriptions = c.subscriptions ∧
      c'.tracker.requests = (c.tracker.requests ++ (datalogClean s.datalog id).2).map
          (rewindOne (retransmissionMap c.out.inflight [])) ∧
      c'.out.unackedPubrels = c.out.unackedPubrels ∧
      c'.acks.committed = Ack.connack id' true :: c.out.unackedPubrels.map Ack.pubrel ∧
      alookup c.clientId s3.graveyard = none := by
  have e : (c.tracker.requests ++ (datalogClean s.datalog id).2).map (atGroupCursor s.shared) =
      c.tracker.requests ++ (datalogClean s.datalog id).2 := by
    conv => rhs; rw [← List.map_id (c.tracker.requests ++ (datalogClean s.datalog id).2)]
    exact List.map_congr_left fun q hq => atGroupCursor_plain _ _ (hplain q hq)
  have := subscriptions_survive s s1 s2 s3 id c r spec hc hcl hd hgy hnew hroom hid hsc hv hn
  rw [e] at this
  exact this

/-- a valid client id exists and an empty router has room: the CONNECT hypotheses are satisfiable -/
example : validClientId "sensor-1" = true ∧ alookup "sensor-1" (init ⟨10, 1024, 2, 10, .roundRobin⟩).connectionMap = none ∧
    ¬ (init ⟨10, 1024, 2, 10, .roundRobin⟩).conns.len ≥ (init ⟨10, 1024, 2, 10, .roundRobin⟩).config.maxConnections := by
  refine ⟨by decide, rfl, by decide⟩

/-- non-vacuity on a concrete reachable run (kernel-evaluated): persistent client `a` subscribes to
    `t` (QoS 1), its link drops (`Event::Disconnect`), it connects again with clean-session off: the
    CONNACK says `session_present`, the subscription and its data request are back, the graveyard
    entry is gone. -/
example :
    (match run (init ⟨10, 1024, 2, 10, .roundRobin⟩)
        [(.connect ⟨0, "a", false, false, 0, none⟩, []), (.push 0 (.subscribe 1 none [⟨"t", 1⟩]), []),
         (.event 0 .deviceData, []), (.event 0 .disconnect, []),
         (.connect ⟨1, "a", false, false, 0, none⟩, [])] with
     | .ok s =>
       (match getConn s 0 with
        | some c =>
          decide (c.clientId = "a" ∧ c.subscriptions = ["t"] ∧ c.acks.committed = [Ack.connack 0 true] ∧
            c.tracker.requests.map (fun r => (r.filter, r.qos, r.cursor)) = [("t", 1, (0, 0))] ∧
            s.graveyard.length = 0)
        | none => false)
     | .error _ => false) = true := by rw [run_eq_runX]; decide


/-! ### the resume point, and delivery from it

`leastCursor fi window` — the LEAST cursor (tuple order `cursorLe` of `(segment, offset)`) among the entries
`(pkid, fi, some cur)` of the outgoing window; `resumeCursor groups window q` — that cursor if there is
one, else the cursor `q` is saved with (`atGroupCursor`: its own for a plain subscription, its group's
for a shared one); `savedOf groups window q` — the request saved for `q` (definitions in
Proofs/Lemmas/Router/Rp12_Resume.lean). -/

/-- what "the least window cursor of the filter index" means: it is the cursor of some window entry of the
    index, and it is at or below (tuple order) the cursor of every window entry of the index that
    carries one (retained replays carry none); there is none exactly if no window entry of the index
    carries a cursor; and it is what `retransmission_map` holds for the index. -/
theorem least_window_entry (fi : Nat) (w : List (Nat × Nat × Option Cursor)) :
    (∀ cur, leastCursor fi w = some cur ↔
      (∃ e ∈ w, e.2.1 = fi ∧ e.2.2 = some cur) ∧ ∀ e ∈ w, e.2.1 = fi → ∀ c, e.2.2 = some c → cursorLe cur c) ∧
    (leastCursor fi w = none ↔ ∀ e ∈ w, e.2.1 = fi → e.2.2 = none) ∧
    nlookup fi (retransmissionMap w []) = leastCursor fi w :=
  ⟨fun cur => leastCursor_some_iff fi cur w, leastCursor_none_iff fi w, retx_lookup_least fi w⟩

theorem resume_cursor_cases (sh : List (String × SharedGroup)) (w : List (Nat × Nat × Option Cursor)) (q : DataRequest) :
    (∀ cur, leastCursor q.filterIdx w = some cur → resumeCursor sh w q = cur) ∧
    (leastCursor q.filterIdx w = none → q.group = none → resumeCursor sh w q = q.cursor) ∧
    (leastCursor q.filterIdx w = none → ∀ g grp, q.group = some g → alookup g sh = some grp →
      resumeCursor sh w q = grp.cursor) := by
  refine ⟨fun cur => resumeCursor_of_some, fun h hp => ?_, fun h g grp hg hl => ?_⟩
  · rw [resumeCursor_of_none h, atGroupCursor_plain sh q hp]
  · rw [resumeCursor_of_none h]
    exact (saved_shared_request_continues_at_group_cursor sh q).2.2.2.2.2.1 g grp hg hl

/-- C08.3 `resume_point` (what is in the graveyard). When a persistent connection ends, for every
    data request `q` it owns — tracked, or parked in a waiter list (`DataLog::clean` collects those) —
    the saved session holds a request with the same filter, filter index, QoS and group whose cursor
    is the RESUME POINT: the least cursor among the window entries `(pkid, filter_idx, Some(cursor))` of the
    request's filter index if the window has one (the lowest forwarded and not yet acknowledged QoS>0
    publish read from that log, wherever it stands in the window), else the request's own cursor (plain subscription) or the group's
    cursor at that time (shared subscription). For a connection whose subscriptions read distinct logs
    (no two of its requests have the same `filter_idx`) the window entries of index `filter_idx` are
    those forwarded through this subscription; when two subscriptions of the connection read the same
    log (`t` and `$share/g/t`) the window does not tell their entries apart — the recorded
    "rewind conflation" finding (`C17.rewind_can_skip_entries`). -/
theorem saved_request_is_at_resume_point (s s1 : RState) (id : Nat) (r : Option String) (c : Conn)
    (hc : getConn s id = some c) (hcl : c.clean = false) (hd : handleDisconnection s id r = .ok s1)
    (q : DataRequest) (hq : q ∈ c.tracker.requests ++ (datalogClean s.datalog id).2) :
    ∃ ss q', alookup c.clientId s1.graveyard = some (some ss) ∧ q' ∈ ss.tracker.requests ∧
      q'.filter = q.filter ∧ q'.filterIdx = q.filterIdx ∧ q'.qos = q.qos ∧ q'.group = q.group ∧
      q'.cursor = resumeCursor s.shared c.out.inflight q := by
  obtain ⟨f1, f2, f3, f4, _, f6⟩ := savedOf_fields s.shared c.out.inflight q
  exact ⟨_, savedOf s.shared c.out.inflight q,
    by rw [graveyard_after_disconnection hc hd, hdSession_persistent s id hcl], savedOf_mem_saved hq, f1, f2, f3, f4, f6⟩

/-- C08.3 (the resumed request is tracked and the connection is scheduled). Under the hypotheses of
    `subscriptions_survive` (a persistent connection ended; in between nothing touched the client's
    graveyard entry; the client reconnects with `clean_session = false`): the new connection tracks,
    for every request `q` the old connection owned, the saved request standing at the resume point
    (`saved_request_is_at_resume_point`), and — `reschedule(Init)` on the restored `Paused(Busy)`
    tracker — it is `Ready` and in the ready queue: a `consume` call will serve it. -/
theorem resumed_request_is_tracked_and_scheduled (s s1 s2 s3 : RState) (id : Nat) (c : Conn) (r : Option String)
    (spec : ConnectSpec)
    (hc : getConn s id = some c) (hcl : c.clean = false) (hd : handleDisconnection s id r = .ok s1)
    (hgy : alookup c.clientId s2.graveyard = alookup c.clientId s1.graveyard)
    (hnew : alookup c.clientId s2.connectionMap = none)
    (hroom : ¬ s2.conns.len ≥ s2.config.maxConnections)
    (hid : spec.clientId = c.clientId) (hsc : spec.clean = false) (hv : validClientId spec.clientId = true)
    (hn : handleNewConnection s2 spec = .ok s3) :
    ∃ id' c', alookup c.clientId s3.connectionMap = some id' ∧ getConn s3 id' = some c' ∧
      c'.clientId = c.clientId ∧ c'.tracker.status = .ready ∧ id' ∈ s3.readyqueue ∧
      ∀ q ∈ c.tracker.requests ++ (datalogClean s.datalog id).2, ∃ q' ∈ c'.tracker.requests,
        q'.filter = q.filter ∧ q'.filterIdx = q.filterIdx ∧ q'.qos = q.qos ∧ q'.group = q.group ∧
        q'.cursor = resumeCursor s.shared c.out.inflight q := by
  obtain ⟨hrs, _⟩ := restores_saved (spec := spec) hc hcl hd hgy hid hsc
  rw [hdSession_persistent s id hcl] at hrs
  have hnew' : alookup spec.clientId s2.connectionMap = none := by rw [hid]; exact hnew
  obtain ⟨t, hcm, hget, hreqs, _⟩ := connect_fresh hv hnew' hroom hn
  -- the restored tracker is `Paused(Busy)`: `reschedule(Init)` makes it `Ready` and queues the connection
  obtain ⟨c', hget', hst, hrq⟩ := register_ready (register_fresh hv hnew' hroom hn) (by rw [hrs]; rfl)
  rw [hget] at hget'
  simp only [Option.some.injEq] at hget'
  refine ⟨_, c', hid ▸ hcm, by rw [← hget']; exact hget, by rw [← hget']; exact hid, hst, hrq, fun q hq => ?_⟩
  obtain ⟨f1, f2, f3, f4, _, f6⟩ := savedOf_fields s.shared c.out.inflight q
  refine ⟨savedOf s.shared c.out.inflight q, ?_, f1, f2, f3, f4, f6⟩
  rw [← hget']
  show savedOf s.shared c.out.inflight q ∈ t.requests
  rw [hreqs, hrs]; exact savedOf_mem_saved hq

/-- C08 `resume_delivers_from_least_unacked` (with `C01.delivery_is_prefix`). A persistent connection
    `id` of a reachable broker ends; later (nothing touched the client's graveyard entry) the client
    resumes, giving the reachable state `s3` in which `id'` is its connection. Let `q` be the request
    of a NON-SHARED subscription `f` the old connection owned. Then over ANY run from `s3` during which
    the new connection stays and keeps the subscription, within the log retention (`QuietRun`), ending
    below the no-overflow bound, the log offsets forwarded to the new connection through `f`
    (`runFwd`) are EXACTLY the consecutive offsets from the resume point — the offset of the lowest
    forwarded and unacknowledged entry of the subscription's log if the old window held one
    (`least_window_entry`), else the offset the old request stood at: every unacknowledged entry is
    sent again, in order, followed without gap or repeat by everything that came after it. -/
theorem resume_delivers_from_least_unacked {cfg : Config} (h1 : 1 ≤ cfg.maxSegmentSize) (h2 : 1 ≤ cfg.maxSegmentCount)
    (hpos : 0 < cfg.maxOutgoingPacketCount)
    (s s1 s2 s3 s4 : RState) (id id' : Nat) (c : Conn) (r : Option String) (spec : ConnectSpec)
    (hc : getConn s id = some c) (hcl : c.clean = false) (hd : handleDisconnection s id r = .ok s1)
    (hgy : alookup c.clientId s2.graveyard = alookup c.clientId s1.graveyard)
    (hnew : alookup c.clientId s2.connectionMap = none)
    (hroom : ¬ s2.conns.len ≥ s2.config.maxConnections)
    (hid : spec.clientId = c.clientId) (hsc : spec.clean = false) (hv : validClientId spec.clientId = true)
    (hn : handleNewConnection s2 spec = .ok s3) (hr3 : Router.Reachable cfg s3)
    (hid' : alookup c.clientId s3.connectionMap = some id')
    (q : DataRequest) (hq : q ∈ c.tracker.requests ++ (datalogClean s.datalog id).2) (hplain : q.group = none)
    (ops : List (Op × List Choice)) (hrun : run s3 ops = .ok s4) (hno : NoOverflow s4)
    (hquiet : QuietRun id' c.clientId q.filter s3 ops) :
    runFwd id' q.filter s3 ops =
      List.range' (resumeCursor s.shared c.out.inflight q).2 (runFwd id' q.filter s3 ops).length ∧
    ∃ q2, Own s4 id' q2 ∧ q2.filter = q.filter ∧ q2.filterIdx = q.filterIdx ∧
      q2.cursor.2 = (resumeCursor s.shared c.out.inflight q).2 + (runFwd id' q.filter s3 ops).length := by
  obtain ⟨id2, c', hcm, hget, _, _, _, hall⟩ :=
    resumed_request_is_tracked_and_scheduled s s1 s2 s3 id c r spec hc hcl hd hgy hnew hroom hid hsc hv hn
  rw [hid'] at hcm; cases hcm
  obtain ⟨q', hm, f1, f2, _, f4, f6⟩ := hall q hq
  have hown : Own s3 id' q' := .inl ⟨c', hget, hm⟩
  obtain ⟨q2, o2, g1, _, g3, g4, g5⟩ :=
    run_thread h1 h2 hpos ops hr3 hrun hno hquiet hown f1 (f4.trans hplain)
  rw [f6] at g4 g5
  exact ⟨g4, q2, o2, g1, g3.trans f2, g5⟩


/-! ### the resume point is at or below every unacknowledged entry

`retransmission_map` keeps the least cursor per filter index, so this holds by definition of the
minimum, whatever the order of the window (the offsets of one index need not increase in window order:
`windowOrderOps` below). Caveat: per filter LOG — when two subscriptions of the connection read
the same log (`t` and `$share/g/t`) the minimum is taken over the entries of both. -/

/-- the resume point is at or below (tuple order) the cursor of every window entry of the request's log. -/
theorem resume_point_is_least (sh : List (String × SharedGroup)) (w : List (Nat × Nat × Option Cursor))
    (q : DataRequest) :
    ∀ e ∈ w, e.2.1 = q.filterIdx → ∀ cur, e.2.2 = some cur → cursorLe (resumeCursor sh w q) cur := by
  intro e he hi cur hc
  cases ho : leastCursor q.filterIdx w with
  | none => have := (leastCursor_none_iff q.filterIdx w).mp ho e he hi; rw [hc] at this; cases this
  | some cur0 =>
    rw [(resume_cursor_cases sh w q).1 cur0 ho]
    exact ((leastCursor_some_iff q.filterIdx cur0 w).mp ho).2 e he hi cur hc

/-- and in log offsets, for a connection of a reachable state below the no-overflow bound whose resume
    point still stands in a retained segment of the log: the window cursors are issued by the log
    (`C01.cursor_sound`), and for issued cursors the tuple order is the order of the offsets -/
theorem resume_point_offset_is_least {cfg : Config} (h1 : 1 ≤ cfg.maxSegmentSize) (h2 : 1 ≤ cfg.maxSegmentCount)
    {s : RState} (hr : Router.Reachable cfg s) (hno : NoOverflow s) {id : Nat} {c : Conn} (hc : getConn s id = some c)
    (q : DataRequest) {fd : FilterData} (hfd : s.datalog.native[q.filterIdx]? = some fd)
    (hret : (CommitLog.logC fd.log).head ≤ (resumeCursor s.shared c.out.inflight q).1) :
    ∀ e ∈ c.out.inflight, e.2.1 = q.filterIdx → ∀ cur, e.2.2 = some cur →
      (resumeCursor s.shared c.out.inflight q).2 ≤ cur.2 := by
  intro e he hi cur hcur
  have hcs := CS.reachable h1 h2 hr hno
  have hiss : ∀ e' ∈ c.out.inflight, e'.2.1 = q.filterIdx → ∀ cur', e'.2.2 = some cur' →
      CommitLog.Issued (CommitLog.logC fd.log) cur' := fun e' he' hi' cur' hc' => by
    obtain ⟨fd', hfd', hi0⟩ := hcs.win e'.2.1 cur' ⟨id, c, hc, e', he', rfl, hc'⟩
    rw [hi', hfd] at hfd'; cases hfd'; exact hi0
  obtain ⟨hist, hrep⟩ := (reachable_inv h1 h2 hr).logs fd.log (List.mem_map.mpr ⟨fd, List.mem_of_getElem? hfd, rfl⟩)
  have hle := resume_point_is_least s.shared c.out.inflight q e he hi cur hcur
  cases ho : leastCursor q.filterIdx c.out.inflight with
  | none => have := (leastCursor_none_iff q.filterIdx c.out.inflight).mp ho e he hi; rw [hcur] at this; cases this
  | some cur0 =>
    have e0 := (resume_cursor_cases s.shared c.out.inflight q).1 cur0 ho
    obtain ⟨⟨e1, he1, hi1, hc1⟩, _⟩ := (leastCursor_some_iff q.filterIdx cur0 c.out.inflight).mp ho
    rw [e0] at hle hret ⊢
    exact offset_le_of_cursorLe hrep.wf (hiss e1 he1 hi1 cur0 hc1) (hiss e he hi cur hcur) hret hle

/-- C08 `every_unacked_entry_is_resent` — no hypothesis on the order of the window. In the setting
    of `resume_delivers_from_least_unacked` (non-shared subscription `q.filter`, run after the resume), for a
    connection that ended in a reachable state below the no-overflow bound with its resume point still
    retained: every forwarded and unacknowledged entry of the subscription's log — every window entry
    `(pkid, filter_idx, Some(cur))` — lies at or after the resume point and is forwarded again to the new
    connection as soon as the run has forwarded that far (its offset is one of the offsets forwarded,
    which are consecutive from the resume point). -/
theorem every_unacked_entry_is_resent {cfg : Config} (h1 : 1 ≤ cfg.maxSegmentSize) (h2 : 1 ≤ cfg.maxSegmentCount)
    (hpos : 0 < cfg.maxOutgoingPacketCount)
    (s s1 s2 s3 s4 : RState) (id id' : Nat) (c : Conn) (r : Option String) (spec : ConnectSpec)
    (hr : Router.Reachable cfg s) (hnos : NoOverflow s)
    (hc : getConn s id = some c) (hcl : c.clean = false) (hd : handleDisconnection s id r = .ok s1)
    (hgy : alookup c.clientId s2.graveyard = alookup c.clientId s1.graveyard)
    (hnew : alookup c.clientId s2.connectionMap = none)
    (hroom : ¬ s2.conns.len ≥ s2.config.maxConnections)
    (hid : spec.clientId = c.clientId) (hsc : spec.clean = false) (hv : validClientId spec.clientId = true)
    (hn : handleNewConnection s2 spec = .ok s3) (hr3 : Router.Reachable cfg s3)
    (hid' : alookup c.clientId s3.connectionMap = some id')
    (q : DataRequest) (hq : q ∈ c.tracker.requests ++ (datalogClean s.datalog id).2) (hplain : q.group = none)
    (ops : List (Op × List Choice)) (hrun : run s3 ops = .ok s4) (hno : NoOverflow s4)
    (hquiet : QuietRun id' c.clientId q.filter s3 ops)
    (fd : FilterData) (hfd : s.datalog.native[q.filterIdx]? = some fd)
    (hret : (CommitLog.logC fd.log).head ≤ (resumeCursor s.shared c.out.inflight q).1) :
    ∀ e ∈ c.out.inflight, e.2.1 = q.filterIdx → ∀ cur, e.2.2 = some cur →
      (resumeCursor s.shared c.out.inflight q).2 ≤ cur.2 ∧
      (cur.2 < (resumeCursor s.shared c.out.inflight q).2 + (runFwd id' q.filter s3 ops).length →
        cur.2 ∈ runFwd id' q.filter s3 ops) := by
  intro e he hi cur hcur
  have hle := resume_point_offset_is_least h1 h2 hr hnos hc q hfd hret e he hi cur hcur
  obtain ⟨hfw, _⟩ := resume_delivers_from_least_unacked h1 h2 hpos s s1 s2 s3 s4 id id' c r spec hc hcl hd hgy hnew
    hroom hid hsc hv hn hr3 hid' q hq hplain ops hrun hno hquiet
  refine ⟨hle, fun hlt => ?_⟩
  rw [hfw, List.mem_range'_1]
  exact ⟨hle, hlt⟩

/-! #### the window is not sorted in general (evaluated, not kernel-checked: accepting a publish needs
    `String.fromUTF8?`, which the kernel cannot reduce) -/

/-- persistent `a` and `b` share `$share/g/t` (QoS 1, round robin); three publishes `100, 101, 102` go to
    `a` (offset 0), `b` (offset 1), `a` (offset 2), nobody acknowledges; `a`'s link drops: the group's
    cursor is set back to `a`'s least unacknowledged offset 0 and `b`, now alone, is sent offsets 0, 1, 2;
    then `b`'s link drops and `b` resumes -/
def windowOrderOps : List (Op × List Choice) :=
  let pub (x : UInt8) : Op × List Choice := (.push 2 (.publish ⟨0, 0, false, false, "t".toUTF8.toList, [x], none, [], false⟩), [])
  let sweep : List (Op × List Choice) := List.replicate 6 (.consume, [])
  [(.connect ⟨0, "a", false, false, 0, none⟩, []), (.connect ⟨1, "b", false, false, 0, none⟩, []),
   (.connect ⟨2, "p", true, false, 0, none⟩, []),
   (.push 0 (.subscribe 1 none [⟨"$share/g/t", 1⟩]), []), (.event 0 .deviceData, []),
   (.push 1 (.subscribe 1 none [⟨"$share/g/t", 1⟩]), []), (.event 1 .deviceData, [])] ++ sweep ++
  [pub 100, (.event 2 .deviceData, [.matches [0]])] ++ sweep ++
  [pub 101, (.event 2 .deviceData, [.matches [0]])] ++ sweep ++
  [pub 102, (.event 2 .deviceData, [.matches [0]])] ++ sweep ++
  [(.event 0 .disconnect, [])] ++ sweep ++ [(.consume, []), (.consume, [])] ++
  [(.event 1 .disconnect, []), (.consume, []), (.consume, []),
   (.connect ⟨3, "b", false, false, 0, none⟩, [])] ++ sweep ++ [(.consume, []), (.consume, [])]

/-- what is checked: the offsets in `b`'s window (connection 1), in window order; the cursor saved for `b`
    in the graveyard; the payloads forwarded to `b`'s second link (3) after the resume -/
def windowOrderView (n : Nat) : Option (List Nat × Option (List Router.Cursor) × List (List UInt8)) :=
  match run (init ⟨10, 1024, 2, 10, .roundRobin⟩) (windowOrderOps.take n) with
  | .error _ => none
  | .ok s =>
    some (((getConn s 1).map (fun c => idxOffsets 0 c.out.inflight)).getD [],
      ((alookup "b" s.graveyard).bind (fun x => x)).map (fun ss => ss.tracker.requests.map (·.cursor)),
      (getLink s 3).obuf.filterMap (fun n => match n with | .forward p _ => some p.payload | _ => none))

-- before `a`'s disconnection `b`'s window holds offset 1
#guard windowOrderView 37 == some ([1], none, [])
-- after it `b` has been sent offsets 0, 1 (again), 2: the window is NOT sorted, its first entry is offset 1
#guard windowOrderView 46 == some ([1, 0, 1, 2], none, [])
-- `b`'s link drops: the request is saved at the LEAST window cursor, offset 0
-- (the first entry's cursor, offset 1, lies above the unacknowledged 0)
#guard windowOrderView 47 == some ([], some [(0, 0)], [])
-- `b` resumes: 100, 101 and 102 are all sent again
#guard windowOrderView 58 == some ([0, 1, 2], none, [[100], [101], [102]])

/-! non-vacuity of the resume theorems (hand-built states) -/

def resumeReq : DataRequest := ⟨"$share/g/t", 0, 1, (0, 3), false, some "g/t"⟩
def resumeReqX : DataRequest := ⟨"x", 1, 1, (0, 0), false, none⟩

/-- client `a` has a saved session (shared subscription `$share/g/t` whose group no longer exists,
    plain subscription `x`); nobody is connected -/
def resumeState : RState :=
  { config := ⟨10, 1024, 2, 10, .roundRobin⟩,
    graveyard := [("a", some ⟨{ id := "a", requests := [resumeReq, resumeReqX] }, ["$share/g/t", "x"], []⟩)],
    datalog := { native := [{ filter := "t", log := CLog.Log.new 1024 2 }, { filter := "x", log := CLog.Log.new 1024 2 }],
                 filterIndexes := [("t", 0), ("x", 1)] } }

def resumeSpec : ConnectSpec := ⟨0, "a", false, false, 0, none⟩

/-- non-vacuity (kernel-evaluated): the resume enters both subscriptions in `subscription_map` under the
    new id 0, re-creates the group `g/t` with `a` as its member at the restored request's cursor,
    and an UNSUBSCRIBE for the restored `x` is then answered `Success` -/
example : ∃ s', handleNewConnection resumeState resumeSpec = .ok s' ∧
    s'.subscriptionMap = [("$share/g/t", [0]), ("x", [0])] ∧
    s'.shared.map (fun p => (p.1, p.2.clients, p.2.cursor)) = [("g/t", ["a"], (0, 3))] ∧
    (getConn s' 0).map (fun c => (c.subscriptions, c.tracker.requests)) =
      some (["$share/g/t", "x"], [resumeReq, resumeReqX]) ∧
    (∃ s'', unsubscribeFilters s' 0 ["x"] [] = .ok (s'', [true])) :=
  ⟨_, rfl, by decide, by decide, by decide, _, rfl⟩

def leaveReq : DataRequest := ⟨"$share/g/t", 0, 1, (0, 0), false, some "g/t"⟩

/-- persistent `a` (id 0) and `b` share `$share/g/t`; the group has advanced to `(0, 5)` while the
    request in `a`'s tracker still stands at `(0, 0)` -/
def leaveState : RState :=
  { config := ⟨10, 1024, 2, 10, .roundRobin⟩, links := [{}, {}],
    conns := ⟨[some { clientId := "a", link := 0, clean := false, dynamicFilters := false,
                      subscriptions := ["$share/g/t"], tracker := { id := "a", requests := [leaveReq, resumeReqX] } },
               some { clientId := "b", link := 1, clean := true, dynamicFilters := false,
                      subscriptions := ["$share/g/t"], tracker := { id := "b" } }], []⟩,
    connectionMap := [("a", 0), ("b", 1)],
    subscriptionMap := [("$share/g/t", [0, 1])],
    shared := [("g/t", ⟨["a", "b"], 1, (0, 5), .roundRobin⟩)],
    datalog := { native := [{ filter := "t", log := CLog.Log.new 1024 2 }, { filter := "x", log := CLog.Log.new 1024 2 }],
                 filterIndexes := [("t", 0), ("x", 1)] } }

/-- non-vacuity (evaluated on the kernel-executable form): the saved request of the shared
    subscription continues at the group's cursor `(0, 5)`, the plain one is saved as it is -/
example : ∃ s', handleDisconnection leaveState 0 none = .ok s' ∧
    ((alookup "a" s'.graveyard).bind id).map (fun ss => ss.tracker.requests.map (fun r => (r.filter, r.cursor))) =
      some [("$share/g/t", (0, 5)), ("x", (0, 0))] :=
  ⟨_, (handleDisconnection_eqX _ _ _).trans rfl, by decide⟩

/-- persistent `a` (id 0) subscribed to `x` (log 1): its request stands at `(0, 4)`, its window holds a
    retained replay (no cursor) and two unacknowledged publishes of log 1 read at `(0, 2)` and `(0, 3)` -/
def windowState : RState :=
  { config := ⟨10, 1024, 2, 10, .roundRobin⟩, links := [{}],
    conns := ⟨[some { clientId := "a", link := 0, clean := false, dynamicFilters := false,
                      subscriptions := ["x"], out := { inflight := [(1, 1, none), (2, 1, some (0, 2)), (3, 1, some (0, 3))], lastPkid := 3 },
                      tracker := { id := "a", requests := [⟨"x", 1, 1, (0, 4), false, none⟩] } }], []⟩,
    connectionMap := [("a", 0)],
    subscriptionMap := [("x", [0])],
    datalog := { native := [{ filter := "t", log := CLog.Log.new 1024 2 }, { filter := "x", log := CLog.Log.new 1024 2 }],
                 filterIndexes := [("t", 0), ("x", 1)] } }

/-- non-vacuity (kernel-evaluated): the least cursor of log 1 in that window is `(0, 2)`, and the
    request saved at the disconnection stands there -/
example : leastCursor 1 [(1, 1, none), (2, 1, some (0, 2)), (3, 1, some (0, 3))] = some (0, 2) ∧
    ∃ s', handleDisconnection windowState 0 none = .ok s' ∧
    ((alookup "a" s'.graveyard).bind id).map (fun ss => ss.tracker.requests.map (fun r => (r.filter, r.cursor))) =
      some [("x", (0, 2))] :=
  ⟨by decide, _, (handleDisconnection_eqX _ _ _).trans rfl, by decide⟩

end C08
