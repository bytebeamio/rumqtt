/-
C04 — Codecs round-trip and interoperate.
"For every well-formed MQTT 3.1.1 or MQTT 5 packet value, encoding and then decoding yields an
equal packet, consumes exactly the bytes produced, and the size the packet reports equals the
number of bytes written. Bytes produced by the client library's encoder decode in the broker to
the same packet content, and bytes produced by the broker decode in the client to the same
content, for both protocol versions."

Property theorems only (helper lemmas: Proofs/Lemmas/Codec/*.lean). Models: Model/Codec/V4.lean
(MQTT 3.1.1, copy parameter `k`), Model/Codec/V5.lean (MQTT 5). `decode k max (out ++ r)` is the
model of `Packet::read` / `Protocol::read_mut` on a stream that starts with the produced bytes and
continues with arbitrary bytes `r`; returning `.packet p r` says: equal packet, exactly the
produced bytes consumed.

Strings are byte lists; `validUtf8` (Model/Codec/Wire.lean) is the acceptance predicate of
`String::from_utf8`, used by the theorems only through the hypothesis inside `wf`.

WELL-FORMEDNESS `V4.wf k p` — every exclusion and why (k = copy):
 * a length-prefixed field longer than 65535 bytes: `write_mqtt_bytes` casts the length `as u16`
   (silent truncation) — not a value of the protocol;
 * a `String` field that is not UTF-8: cannot exist in Rust; for the broker's `Bytes`-typed
   PUBLISH topic / will topic no UTF-8 demand is made (k = broker), it is made for k = client;
 * keep-alive, packet ids ≥ 65536: not values of `u16`;
 * PUBLISH with `qos = 0 ∧ pkid ≠ 0`: the id is not on the wire, reads back as 0 (second
   representation of the same wire value); with `qos > 0 ∧ pkid = 0`: `write` answers
   `Err(PacketIdZero)`;
 * remaining length > 268 435 455: `write` answers `Err(PayloadTooLong)` (theorem
   `v4_encode_rejects_oversize`);
 * SUBSCRIBE / SUBACK with an empty list: the readers answer `EmptySubscription` / `MalformedPacket`;
 * `Login` with both strings empty: written as "no login", reads back as `None`;
 * values that are not MQTT 3.1.1 values but fit the broker's shared v4/v5 enum: any properties
   (`V4::write` → `unreachable!()`, except ConnAck whose properties are dropped), ack reason ≠
   Success, UnsubAck reasons, Disconnect reason ≠ NormalDisconnection (not written), v5 filter
   options (not written), return codes outside the six v3 codes (`connect_code` →
   `unreachable!()`), SubAck codes other than `Success(q)` / `Failure` (`QoS0..2` read back as
   `Success(q)`, the v5 codes are written as bytes no v4 reader accepts);
 * CONNECT protocol level: client {4, 5} (its `Protocol` enum), broker 4.

WELL-FORMEDNESS, MQTT 5: `V5.wf k p`, one predicate, used as the precondition of the theorems and
(the same function, evaluated by the driver) of the monitor of the correspondence run. Exclusions:
 * field widths / UTF-8 / publish id rule / non-empty SUBSCRIBE, SUBACK, UNSUBACK lists /
   `Login` with both strings empty / remaining length ≤ 268 435 455: as for 3.1.1;
 * a properties struct with every field empty (`Some(default)`): written as length 0, read back
   as `None` (for DISCONNECT: `e0 02 <reason> 00`, read back as (reason, None)); a property value
   out of the range of its wire type; a subscription identifier > 268 435 455
   (`write_remaining_length` fails); properties not in the struct (not representable);
 * CONNACK codes `RefusedProtocolVersion`, `BadClientId`, `ServiceUnavailable` (3.1.1 codes that
   exist in the v5 enums; `connect_code` → `unreachable!()`);
 * SUBACK codes that are a second name of a wire value: `Failure` (written 0x80 = `Unspecified`),
   broker `Success(q)` (reads back as `QoS0/1/2`); the client enum has no `QoS0/1/2`;
 * CONNECT level ≠ 5; broker CONNECT with will properties but no will (dropped);
 * the `Auth` packet of the client (written only, `Packet::read` has no arm) is not modelled.
`v5_regression_*` are concrete vectors of the MQTT 5 codecs, the inputs of the `fixed:` entries of
KNOWN_FINDINGS: three subscription identifiers in one PUBLISH, DISCONNECT with a reason and no
properties, the plain `e0 00`, the broker reading its own CONNACK and UNSUBACK.
Labels: (1) round trip, (2) size and returned count, (3) client ↔ broker, (4) the remaining-length
limit and the widths of the length field, (5) code tables.
-/
import Proofs.Lemmas.Codec.V4
import Proofs.Lemmas.Codec.V5
import Generated.Consts
import Generated.Tables
import Model.Codec.Names
namespace C04
open Codec

/-- C04 (1)+(2), v4, both copies (`k`): a well-formed packet is encoded successfully; decoding the
    produced bytes followed by anything returns the same packet and exactly the rest; the number
    of bytes produced equals the value `write` returns and `1 + len_len(len) + len`. -/
theorem v4_roundtrip (k : Copy) (p : Packet) (h : V4.wf k p = true) :
    ∃ out, V4.encode k p = .ok out ∧ V4.writeReturn k p = .ok out.length ∧
      ∀ max r, out.length ≤ max → V4.decode k max (out ++ r) = .packet p r := by
  obtain ⟨out, h1, h2, _, h4⟩ := V4.roundTrips k p h
  exact ⟨out, h1, h2, h4⟩

/-- C04 (2), v4: the size the client's `Packet::size()` reports (and the same formula for the
    broker, which has no `size()`) equals the number of bytes written. -/
theorem v4_size (k : Copy) (p : Packet) (h : V4.wf k p = true) (out : Bytes)
    (henc : V4.encode k p = .ok out) : out.length = V4.size k p := by
  obtain ⟨out', h1, _, h3, _⟩ := V4.roundTrips k p h
  cases h1.symm.trans henc
  exact h3

/-- C04 (3), v4, client → broker: bytes written by the client decode in the broker to the same
    content (`toBroker` = identity except the name of return code 2). -/
theorem v4_interop_client_to_broker (p : Packet) (hc : V4.wf .client p = true)
    (hb : V4.wf .broker (V4.toBroker p) = true) :
    ∃ out, V4.encode .client p = .ok out ∧
      ∀ max r, out.length ≤ max → V4.decode .broker max (out ++ r) = .packet (V4.toBroker p) r := by
  obtain ⟨out, h1, _, h3⟩ := v4_roundtrip .broker (V4.toBroker p) hb
  exact ⟨out, (V4.encode_toBroker p hc hb).trans h1, h3⟩

/-- C04 (3), v4, broker → client. -/
theorem v4_interop_broker_to_client (q : Packet) (hb : V4.wf .broker q = true)
    (hc : V4.wf .client (V4.toClient q) = true) :
    ∃ out, V4.encode .broker q = .ok out ∧
      ∀ max r, out.length ≤ max → V4.decode .client max (out ++ r) = .packet (V4.toClient q) r := by
  obtain ⟨out, h1, _, h3⟩ := v4_roundtrip .client (V4.toClient q) hc
  exact ⟨out, (V4.encode_toClient q hb hc).trans h1, h3⟩

/-- every packet well-formed for the client, other than a CONNECT announcing level 5, is
    well-formed for the broker (so the hypothesis `hb` above is not an extra restriction) -/
theorem v4_wf_client_broker (p : Packet) (hc : V4.wf .client p = true)
    (hl : ∀ ka id cl pr w l, p ≠ .connect 5 ka id cl pr w l) :
    V4.wf .broker (V4.toBroker p) = true := by
  cases p
  case connack sp code props =>
    simp only [V4.wf, Bool.and_eq_true, Option.isNone_iff_eq_none] at hc
    obtain ⟨rfl, h⟩ := hc
    cases code <;> first | rfl | cases h
  case connect level ka id cl pr w l =>
    simp only [V4.toBroker, V4.wf, Bool.and_eq_true, decide_eq_true_eq] at hc ⊢
    obtain ⟨⟨⟨⟨⟨h1, h2⟩, h3⟩, h4⟩, h5⟩, h6⟩ := hc
    refine ⟨⟨⟨⟨⟨?_, h2⟩, h3⟩, h4⟩, ?_⟩, h6⟩
    · simp [V4.levelOk] at h1 ⊢
      rcases h1 with h | h
      · exact h
      · subst h; exact absurd rfl (hl _ _ _ _ _ _)
    · cases w with
      | none => rfl
      | some w =>
        simp only [V4.optAll, V4.willOk, Bool.and_eq_true] at h5 ⊢
        refine ⟨⟨?_, h5.1.2⟩, h5.2⟩
        have := h5.1.1
        simp [V4.strOk] at this ⊢; exact this.1
  case publish dup qos retain topic pkid payload props =>
    simp only [V4.toBroker, V4.wf, Bool.and_eq_true, decide_eq_true_eq] at hc ⊢
    obtain ⟨⟨⟨⟨h1, h2⟩, h3⟩, h4⟩, h5⟩ := hc
    refine ⟨⟨⟨⟨h1, h2⟩, h3⟩, ?_⟩, ?_⟩
    · simp [V4.strOk] at h4 ⊢; exact h4.1
    · rw [← V4.publishLen_copy qos topic pkid payload h3]; exact h5
  all_goals exact hc

/-- C04 (4), v4: a packet whose remaining length exceeds 268 435 455 is refused by the encoder
    (no bytes are reported as a packet). -/
theorem v4_encode_rejects_oversize (k : Copy) (p : Packet) (e : V4.Enc)
    (he : V4.encParts k p = .ok e) (h : e.len > remainingLimit) :
    V4.encode k p = .error .malformed := by
  rw [V4.encode_eq he, if_pos h]

/-- C04 (4): the variable-byte integer round-trips for every length up to the limit and occupies
    exactly `len_len` bytes — which covers the 127/128, 16383/16384, 2097151/2097152 boundaries.
    The theory is that of `Lemmas/VarInt.lean` (stated for the framing layer's copy of these functions
    as `C05.varint_roundtrip`), carried to the codec's copy by `encVarintLoop_eq_encodeDigits` and
    `decVarint_eq_length`. -/
theorem varint_roundtrip (n : Nat) (r : Bytes) (h : n ≤ remainingLimit) :
    encVarint n = .ok (encVarintLoop n) ∧ (encVarintLoop n).length = lenLen n ∧
      decVarint (encVarintLoop n ++ r) = .ok (n, lenLen n, r) :=
  ⟨encVarint_of_le n h, encVarintLoop_length n h, decVarint_enc n r h⟩

theorem varint_widths :
    lenLen 127 = 1 ∧ lenLen 128 = 2 ∧ lenLen 16383 = 2 ∧ lenLen 16384 = 3 ∧
    lenLen 2097151 = 3 ∧ lenLen 2097152 = 4 ∧ lenLen remainingLimit = 4 := by decide

/-- the constants the model uses are the ones in the four source files (regenerated from /repo
    by tools/extract.py on every run) -/
theorem constants_match_source :
    remainingLimit = Generated.REMAINING_LIMIT_C4 ∧ remainingLimit = Generated.REMAINING_LIMIT_C5 ∧
    remainingLimit = Generated.REMAINING_LIMIT_B4 ∧ remainingLimit = Generated.REMAINING_LIMIT_B5 ∧
    Generated.LEN_LEN_THRESHOLDS_C4 = [128, 16384, 2097152] ∧
    Generated.LEN_LEN_THRESHOLDS_C5 = [128, 16384, 2097152] ∧
    Generated.LEN_LEN_THRESHOLDS_B4 = [128, 16384, 2097152] ∧
    Generated.LEN_LEN_THRESHOLDS_B5 = [128, 16384, 2097152] := by decide

/-! non-vacuity: concrete well-formed packets of both copies -/
example : V4.wf .client (.publish true .q2 true [97, 47, 98] 65535 [1, 2, 3] none) = true := by decide
example : V4.wf .broker (.publish false .q0 false [0xff] 0 [] none) = true := by decide
example : V4.wf .client (.connect 4 10 [99] true none
    (some ⟨[116], [109], .q1, true, none⟩) (some ⟨[117], []⟩)) = true := by decide
example : V4.wf .broker (.suback 7 none [.Success .q2, .Failure]) = true := by decide
example : V4.wf .client (.subscribe 1 none [⟨[35], .q1, false, false, .OnEverySubscribe⟩]) = true := by
  decide

/-- C04 (1)+(2), v5, both copies, all 14 packet types with every property: a well-formed packet
    is encoded successfully; the value `write` returns and the value `size()` reports both equal
    the number of bytes produced; decoding the produced bytes followed by anything returns the
    same packet and exactly the rest. -/
theorem v5_roundtrip (k : Copy) (p : Packet) (h : V5.wf k p = true) :
    ∃ out, V5.encode k p = .ok out ∧ V5.writeReturn k p = .ok out.length ∧
      out.length = V5.size k p ∧
      ∀ max r, out.length ≤ max → V5.decode k max (out ++ r) = .packet p r :=
  V5.roundTrips k p h

/-- C04 (3), v5, client → broker. `toBroker` renames the granted-QoS SubAck codes
    `Success(q)` ↦ `QoS0/1/2` and is the identity otherwise. -/
theorem v5_interop_client_to_broker (p : Packet) (hc : V5.wf .client p = true)
    (hb : V5.wf .broker (V5.toBroker p) = true) :
    ∃ out, V5.encode .client p = .ok out ∧
      ∀ max r, out.length ≤ max → V5.decode .broker max (out ++ r) = .packet (V5.toBroker p) r := by
  obtain ⟨out, h1, _, _, h4⟩ := V5.roundTrips .broker (V5.toBroker p) hb
  exact ⟨out, (V5.encode_toBroker p hc).trans h1, h4⟩

/-- C04 (3), v5, broker → client. -/
theorem v5_interop_broker_to_client (q : Packet) (hb : V5.wf .broker q = true)
    (hc : V5.wf .client (V5.toClient q) = true) :
    ∃ out, V5.encode .broker q = .ok out ∧
      ∀ max r, out.length ≤ max → V5.decode .client max (out ++ r) = .packet (V5.toClient q) r := by
  obtain ⟨out, h1, _, _, h4⟩ := V5.roundTrips .client (V5.toClient q) hc
  exact ⟨out, (V5.encode_toClient q hb).trans h1, h4⟩

/-- every packet well-formed for the client is, after the renaming, well-formed for the broker
    and conversely (the second hypothesis of the interop theorems is no extra restriction) -/
theorem v5_wf_client_broker (p : Packet) :
    (V5.wf .client p = true → V5.wf .broker (V5.toBroker p) = true) ∧
    (V5.wf .broker p = true → V5.wf .client (V5.toClient p) = true) :=
  ⟨V5.wf_toBroker p, V5.wf_toClient p⟩

/-- C04 (4), v5: remaining length above the limit is refused. -/
theorem v5_encode_rejects_oversize (k : Copy) (p : Packet) (e : V4.Enc)
    (hnd : ∀ r pr, p ≠ .disconnect r pr) (he : V5.encParts k p = .ok e)
    (h : e.len > remainingLimit) : V5.encode k p = .error .malformed := by
  rw [V5.encode_eq he hnd, if_pos h]

/-- PUBLISH with three subscription identifiers (topic "a", ids [1,2,3], payload ff) is
    well-formed, is written as these 13 bytes and read back unchanged by both copies: a property
    reader adds to its cursor exactly the bytes it consumed. -/
theorem v5_regression_three_subscription_ids :
    let p := Packet.publish false .q0 false [97] 0 [0xff]
      (some [⟨11, .var 1⟩, ⟨11, .var 2⟩, ⟨11, .var 3⟩])
    let bytes : Bytes := [0x30, 0x0b, 0x00, 0x01, 0x61, 0x06, 0x0b, 0x01, 0x0b, 0x02, 0x0b, 0x03, 0xff]
    V5.wf .client p = true ∧ V5.wf .broker p = true ∧
    V5.encode .client p = .ok bytes ∧ V5.encode .broker p = .ok bytes ∧
    (∀ k, V5.decode k 100 bytes = .packet p []) := by
  have henc : ∀ k, V5.encode k (.publish false .q0 false [97] 0 [0xff]
      (some [⟨11, .var 1⟩, ⟨11, .var 2⟩, ⟨11, .var 3⟩]))
      = .ok [0x30, 0x0b, 0x00, 0x01, 0x61, 0x06, 0x0b, 0x01, 0x0b, 0x02, 0x0b, 0x03, 0xff] := by
    intro k
    simp [V5.encode, V5.encodeRet, V5.encParts, V5.encPublish, V5.encProps, V5.propListLen,
      V5.pvalLen, V5.varsFit, V5.publishLen, V5.propsLen, V5.encPropList, V5.encProperty, V5.encPVal,
      encVarint, encVarintLoop_lt128, lenLen, remainingLimit, V4.publishByte1, boolBit, QoS.toNat,
      encBytes16, encU16, u8]
  exact ⟨by decide, by decide, henc .client, henc .broker, fun k => by cases k <;> decide⟩

/-- DISCONNECT with a reason and no properties is `e0 02 89 00`; returned count and `size()` are 4;
    both copies read it back. The plain `e0 00` is read by both. -/
theorem v5_regression_disconnect (k : Copy) :
    V5.wf k (.disconnect .ServerBusy none) = true ∧
    V5.encodeRet k (.disconnect .ServerBusy none) = .ok ([0xE0, 0x02, 0x89, 0x00], 4) ∧
    V5.size k (.disconnect .ServerBusy none) = 4 ∧
    (∀ k', V5.decode k' 100 [0xE0, 0x02, 0x89, 0x00] = .packet (.disconnect .ServerBusy none) []) ∧
    V5.encodeRet k (.disconnect .NormalDisconnection none) = .ok ([0xE0, 0x00], 2) ∧
    (∀ k', V5.decode k' 100 [0xE0, 0x00] = .packet (.disconnect .NormalDisconnection none) []) := by
  refine ⟨by cases k <;> decide, ?_, by cases k <;> decide, by intro k'; cases k' <;> decide, ?_,
    by intro k'; cases k' <;> decide⟩
  · simp [V5.encodeRet, V5.encDisconnect, V5.disconnectLen, V5.disconnectPlain, encVarint,
      encVarintLoop_lt128, remainingLimit, V5.encProps, V5.discReasonByte, u8]
  · simp [V5.encodeRet, V5.encDisconnect, V5.disconnectLen, V5.disconnectPlain, u8]

/-- the broker reads the CONNACK and UNSUBACK it writes -/
theorem v5_regression_broker_reads_connack_and_unsuback :
    V5.decode .broker 100 [0x20, 0x03, 0x00, 0x00, 0x00] = .packet (.connack false .Success none) [] ∧
    V5.decode .broker 100 [0xB0, 0x04, 0x00, 0x01, 0x00, 0x00]
      = .packet (.unsuback 1 none [.Success]) [] := by
  decide

/-- where the two MQTT 5 readers differ (DEV at `V5.decodeFrame`): a zero-length DISCONNECT with
    non-zero flag bits (`e1 00`, reachable from raw bytes only) is refused by the client and read as
    NormalDisconnection by the broker -/
theorem v5_empty_disconnect_flags_deviation :
    V5.decode .client 100 [0xE1, 0x00] = .error .malformed ∧
    V5.decode .broker 100 [0xE1, 0x00] = .packet (.disconnect .NormalDisconnection none) [] := by
  decide

/-! non-vacuity for MQTT 5 -/
example : V5.wf .client (.publish true .q1 false [97, 47, 98] 7 [1, 2]
    (some [⟨1, .u8 1⟩, ⟨2, .u32 60⟩, ⟨35, .u16 9⟩, ⟨8, .str [114]⟩, ⟨9, .bin [0xff]⟩,
           ⟨38, .pair [107] [118]⟩, ⟨11, .var 268435455⟩, ⟨11, .var 1⟩, ⟨11, .var 7⟩,
           ⟨11, .var 128⟩, ⟨3, .str [116]⟩])) = true := by
  decide
example : V5.wf .broker (.subscribe 1 (some [⟨11, .var 5⟩, ⟨38, .pair [107] [118]⟩])
    [⟨[35], .q2, true, true, .Never⟩, ⟨[97], .q0, false, false, .OnEverySubscribe⟩]) = true := by decide
example : V5.wf .broker (.suback 9 none [.QoS1, .NotAuthorized]) = true ∧
    V5.wf .client (V5.toClient (.suback 9 none [.QoS1, .NotAuthorized])) = true := by decide
example : V5.wf .client (.connect 5 30 [99] true (some [⟨17, .u32 0⟩, ⟨38, .pair [] []⟩])
    (some ⟨[116], [109], .q2, true, some [⟨24, .u32 5⟩]⟩) (some ⟨[], [112]⟩)) = true := by decide
example : V5.wf .broker (.connack true .Banned (some [⟨36, .u8 1⟩, ⟨22, .bin [1]⟩])) = true := by decide
example : V5.wf .broker (.unsuback 3 (some [⟨31, .str [120]⟩]) [.Success, .NotAuthorized]) = true := by
  decide
example : V5.wf .client (.disconnect .ServerBusy (some [⟨31, .str [120]⟩])) = true := by decide
example : V5.wf .client (.disconnect .ServerBusy none) = true ∧
    V5.wf .client (.disconnect .NormalDisconnection none) = true := by decide

/-! ## C04 (5): code tables, machine-checked against the code
`Generated.Tables.*` is produced on every run by executing the real readers on all 256 byte values
and the real writers on every variant of the copy's enum (`vh tables`, harness/src/tables.rs;
`none` = `Err` for a reader, `unreachable!()` panic for a writer). The model's code functions —
for which the round-trip theorems above are proved — are these tables. -/

theorem table_qos :
    decTable QoS.name qosOfNat = Generated.Tables.qosDec_c4 ∧
    decTable QoS.name qosOfNat = Generated.Tables.qosDec_c5 ∧
    decTable QoS.name qosOfNat = Generated.Tables.qosDec_b := by decide +kernel

theorem table_connack_v4 :
    decTable ConnCode.name (V4.connCodeOfByte .client) = Generated.Tables.connackDec_c4 ∧
    decTable ConnCode.name (V4.connCodeOfByte .broker) = Generated.Tables.connackDec_b4 ∧
    encTable ConnCode.name connCodesC4 (V4.connCodeByte .client) = Generated.Tables.connackEnc_c4 ∧
    encTable ConnCode.name connCodesB (V4.connCodeByte .broker) = Generated.Tables.connackEnc_b4 := by
  decide +kernel

theorem table_connack_v5 :
    decTable ConnCode.name V5.connCodeOfByte = Generated.Tables.connackDec_c5 ∧
    decTable ConnCode.name V5.connCodeOfByte = Generated.Tables.connackDec_b5 ∧
    encTable ConnCode.name connCodesC5 V5.connCodeByte = Generated.Tables.connackEnc_c5 ∧
    encTable ConnCode.name connCodesB V5.connCodeByte = Generated.Tables.connackEnc_b5 := by
  decide +kernel

theorem table_suback_v4 :
    decTable SubCode.name V4.subCodeOfByte = Generated.Tables.subackDec_c4 ∧
    decTable SubCode.name V4.subCodeOfByte = Generated.Tables.subackDec_b4 ∧
    encTable SubCode.name subCodesC4 (V4.subCodeByte .client) = Generated.Tables.subackEnc_c4 ∧
    encTable SubCode.name subCodesB (V4.subCodeByte .broker) = Generated.Tables.subackEnc_b4 := by
  decide +kernel

theorem table_suback_v5 :
    decTable SubCode.name (V5.subCodeOfByte .client) = Generated.Tables.subackDec_c5 ∧
    decTable SubCode.name (V5.subCodeOfByte .broker) = Generated.Tables.subackDec_b5 ∧
    encTable SubCode.name subCodesC5 (V5.subCodeByte .client) = Generated.Tables.subackEnc_c5 ∧
    encTable SubCode.name subCodesB (V5.subCodeByte .broker) = Generated.Tables.subackEnc_b5 := by
  decide +kernel

theorem table_puback_pubrec_v5 :
    decTable AckReason.name V5.ackReasonOfByte = Generated.Tables.pubackDec_c5 ∧
    decTable AckReason.name V5.ackReasonOfByte = Generated.Tables.pubackDec_b5 ∧
    decTable AckReason.name V5.ackReasonOfByte = Generated.Tables.pubrecDec_c5 ∧
    decTable AckReason.name V5.ackReasonOfByte = Generated.Tables.pubrecDec_b5 ∧
    encTable AckReason.name allAckReasons (fun r => some (V5.ackReasonByte r)) = Generated.Tables.pubackEnc_c5 ∧
    encTable AckReason.name allAckReasons (fun r => some (V5.ackReasonByte r)) = Generated.Tables.pubackEnc_b5 ∧
    encTable AckReason.name allAckReasons (fun r => some (V5.ackReasonByte r)) = Generated.Tables.pubrecEnc_c5 ∧
    encTable AckReason.name allAckReasons (fun r => some (V5.ackReasonByte r)) = Generated.Tables.pubrecEnc_b5 := by
  decide +kernel

theorem table_pubrel_pubcomp_v5 :
    decTable RelReason.name V5.relReasonOfByte = Generated.Tables.pubrelDec_c5 ∧
    decTable RelReason.name V5.relReasonOfByte = Generated.Tables.pubrelDec_b5 ∧
    decTable RelReason.name V5.relReasonOfByte = Generated.Tables.pubcompDec_c5 ∧
    decTable RelReason.name V5.relReasonOfByte = Generated.Tables.pubcompDec_b5 ∧
    encTable RelReason.name allRelReasons (fun r => some (V5.relReasonByte r)) = Generated.Tables.pubrelEnc_c5 ∧
    encTable RelReason.name allRelReasons (fun r => some (V5.relReasonByte r)) = Generated.Tables.pubrelEnc_b5 ∧
    encTable RelReason.name allRelReasons (fun r => some (V5.relReasonByte r)) = Generated.Tables.pubcompEnc_c5 ∧
    encTable RelReason.name allRelReasons (fun r => some (V5.relReasonByte r)) = Generated.Tables.pubcompEnc_b5 := by
  decide +kernel

theorem table_unsuback_v5 :
    decTable UnsubReason.name V5.unsubReasonOfByte = Generated.Tables.unsubackDec_c5 ∧
    decTable UnsubReason.name V5.unsubReasonOfByte = Generated.Tables.unsubackDec_b5 ∧
    encTable UnsubReason.name allUnsubReasons (fun r => some (V5.unsubReasonByte r)) = Generated.Tables.unsubackEnc_c5 ∧
    encTable UnsubReason.name allUnsubReasons (fun r => some (V5.unsubReasonByte r)) = Generated.Tables.unsubackEnc_b5 := by
  decide +kernel

theorem table_disconnect_v5 :
    decTable DiscReason.name V5.discReasonOfByte = Generated.Tables.disconnectDec_c5 ∧
    decTable DiscReason.name V5.discReasonOfByte = Generated.Tables.disconnectDec_b5 ∧
    encTable DiscReason.name allDiscReasons (fun r => some (V5.discReasonByte r)) = Generated.Tables.disconnectEnc_c5 ∧
    encTable DiscReason.name allDiscReasons (fun r => some (V5.discReasonByte r)) = Generated.Tables.disconnectEnc_b5 := by
  decide +kernel

/-- on the encodable range every code function of the model (= of the code, by the tables above)
    is inverted by its reader -/
theorem codes_mutually_inverse :
    (∀ k c b, V4.connCodeByte k c = some b → V4.connCodeOfByte k b = some c) ∧
    (∀ c b, V5.connCodeByte c = some b → V5.connCodeOfByte b = some c) ∧
    (∀ r, V5.ackReasonOfByte (V5.ackReasonByte r) = some r) ∧
    (∀ r, V5.relReasonOfByte (V5.relReasonByte r) = some r) ∧
    (∀ r, V5.unsubReasonOfByte (V5.unsubReasonByte r) = some r) ∧
    (∀ r, V5.discReasonOfByte (V5.discReasonByte r) = some r) ∧
    (∀ q, qosOfNat q.toNat = some q) :=
  ⟨fun k c b h => (V4.connCode_rt k c b h).2, fun c b h => (V5.connCode_rt c b h).2,
   fun r => (V5.ackReason_rt r).2, fun r => (V5.relReason_rt r).2, fun r => (V5.unsubReason_rt r).2,
   fun r => (V5.discReason_rt r).2, fun q => by cases q <;> rfl⟩

end C04
