/-
C11 — Resume retransmits in original order, with original id and content (state-machine part:
what `clean()` returns and what a replayed request puts on the wire; that `poll()` writes
`pending` before any request queued afterwards belongs to the `cloop` slice).

`MqttState` stamps every publish it stores with a running send counter and `clean()` sorts by that
stamp, so the order does not depend on which ids are in use or on the order of acknowledgements.
-/
import Proofs.Lemmas.ClientTheorems
namespace C11
open Client Client.Spec

/-- max = 3, eight publishes with strictly in-order acks (ids wrap twice), a failure with a full
    window, replay, more in-order acks -/
def runWrap : List LOp :=
  [.user (.publish 1 1), .user (.publish 1 2), .user (.publish 1 3), .inc (.puback 1 0), .user (.publish 1 4),
   .inc (.puback 2 0), .inc (.puback 3 0), .user (.publish 1 5), .user (.publish 1 6), .fail, .pend, .pend, .pend,
   .inc (.puback 1 0), .user (.publish 1 7), .inc (.puback 2 0), .inc (.puback 3 0), .user (.publish 1 8)]
/-- max = 2: A(1); PUBACK 1; SUBSCRIBE takes id 2; B(1); C(2) (finding #19, repaired: `clean()` listed C before B) -/
def run19 : List LOp :=
  [.user (.publish 1 1), .inc (.puback 1 0), .user (.subscribe 1), .user (.publish 1 2), .user (.publish 1 3)]
/-- max = 3: 1,2,3; PUBACK 1, 2; D(1); failure; session not resumed (pending dropped); E(2), F(3)
    (finding #23, repaired: `clean()` listed F before E) -/
def run23 : List LOp :=
  [.user (.publish 1 1), .user (.publish 1 2), .user (.publish 1 3), .inc (.puback 1 0), .inc (.puback 2 0),
   .user (.publish 1 4), .fail, .newSession, .user (.publish 1 5), .user (.publish 1 6)]
/-- acknowledgements out of order and a QoS 2 flow in between: B(2) acked first, then A(1) received -/
def runAny : List LOp :=
  [.user (.publish 2 1), .user (.publish 1 2), .user (.publish 1 3), .inc (.puback 2 0), .user (.publish 1 4),
   .inc (.pubrec 1 0), .user (.publish 1 5)]

/-- C11.1 clean_order_v4 (full strength: every `max`, every op sequence of the loop, manual acks
    on/off): in the MQTT 3.1.1 client, as long as the broker acknowledged the QoS 1 publishes in the
    order they were sent (the monitor's `inOrder` flag: only QoS ≤ 1 publishes sent, every PUBACK was
    for the oldest unacknowledged id, no PUBREC/PUBCOMP), `clean()` returns the unacknowledged
    publishes in the order they were originally sent — across id wrap-around, SUBSCRIBE /
    UNSUBSCRIBE in between, sessions that were not resumed, failures during a replay -/
theorem clean_order_v4 (max : Nat) (m : Bool) (h1 : 1 ≤ max) (h2 : max ≤ u16Max) (ops : List LOp) :
    Along (fun _ _ o _ g' => C11.order g' o = true) (LState.new .v4 max m) (Ghost.init .v4 max m) ops :=
  (new_along_v4 max m h1 h2 ops).mono fun _ _ _ _ _ h => C11_order_ok h.1 h.2

/-- C11.1+ (full strength) the same without any assumption on the acknowledgements (any order,
    QoS 2 flows in between): at every step the stored publishes `clean()` would return are exactly
    the publishes on the wire without PUBACK / PUBREC, in the order in which they were put there -/
theorem clean_order_any_acks_v4 (max : Nat) (m : Bool) (h1 : 1 ≤ max) (h2 : max ≤ u16Max) (ops : List LOp) :
    Along (fun _ _ o _ g' => pubIds (sentPubs o.view) = g'.unacked.map (·.1) ∧ pubTags (sentPubs o.view) = g'.unacked.map (·.2))
      (LState.new .v4 max m) (Ghost.init .v4 max m) ops :=
  (new_along_v4 max m h1 h2 ops).mono fun _ _ _ _ _ h => by
    rw [h.1.fields.1, h.1.post.g0.view]; exact clean_order_state h.2 h.1.post

/-- C11.2 (full strength, both versions) a failure keeps the order: what `state.clean()` returns
    goes in front of what was still waiting in `pending` (it was sent, or re-sent, earlier), and
    the publish that was parked on a collision — never sent — comes last of what `clean()` returns -/
theorem failure_keeps_order (s : State) (pd : List Request) :
    (lstep ⟨s, pd⟩ .fail).1.pending = cleanPubs s ++ (relOnes s).map Request.pubrel ++ cleanParked s ++ pd := by
  simp [lstep, lop?, lpending, sstepObs, cleanPanics, mkObs, cleanRequests]

/-- C11.3 original_id_and_content (full strength, both versions, every state of the loop): a
    numbered request returned by `clean()` and replayed goes to the wire as the same publish — same
    id, QoS, content -/
theorem original_id_and_content (ver : Version) (max : Nat) (m : Bool) (ops : List LOp) :
    Along (fun _ _ o _ _ => C11.retransmitSame o = true) (LState.new ver max m) (Ghost.init ver max m) ops :=
  along_obs _ C11_retransmit_ok _ _ ops

/-- what `clean()` returns is what is stored: every returned request is a stored publish with its
    id, a pending release, or the publish that was parked on a collision (unnumbered) -/
theorem clean_returns_stored (s : State) (hs : SInv s) (r : Request) (h : r ∈ cleanRequests s) :
    (∃ p, r = .publish p ∧ some p ∈ s.outgoingPub) ∨ (∃ i, r = .pubrel i ∧ relContains s i = true) ∨
      (∃ c, s.collision = some c ∧ r = .publish { c with pkid := 0 }) :=
  (mem_cleanRequests hs r).mp h

/-- a second failure before `pending` is drained keeps the original order (regression: with the
    loop order before the repair — `pending ++ state.clean()` — this was `[2, 1]`) -/
theorem nested_failure_keeps_order :
    pubIds (lrun (LState.new .v4 3 false)
      [.user (.publish 1 1), .user (.publish 1 2), .fail, .pend, .fail]).pending = [1, 2] := by decide +kernel

/-- the executable monitor `C11.check` accepts every trace of the MQTT 3.1.1 model (full strength) -/
theorem monitor_passes_v4 (max : Nat) (m : Bool) (h1 : 1 ≤ max) (h2 : max ≤ u16Max) (ops : List LOp) :
    C11.check (Ghost.init .v4 max m) (ltrace (LState.new .v4 max m) ops) = .ok :=
  monitor_ok C11.checks (fun _ _ _ _ _ => C11_checks_ok) max m h1 h2 ops (avoids_unsafe_v4 _ rfl ops)

/-! regression examples: the runs of the repaired findings, and the order itself -/
example : C11.check (Ghost.init .v4 2 false) (ltrace (LState.new .v4 2 false) run19) = .ok :=
  monitor_passes_v4 2 false (by decide) (by decide) _
example : C11.check (Ghost.init .v4 3 false) (ltrace (LState.new .v4 3 false) run23) = .ok :=
  monitor_passes_v4 3 false (by decide) (by decide) _
example : pubTags (cleanRequests (lrun (LState.new .v4 2 false) run19).st) = [2, 3] := by decide +kernel
example : pubTags (cleanRequests (lrun (LState.new .v4 3 false) run23).st) = [5, 6] := by decide +kernel
example : pubTags (cleanRequests (lrun (LState.new .v4 3 false) runAny).st) = [3, 4] := by decide +kernel

/-! non-vacuity: a run with wrap-around, a failure with a full window and replay keeps the in-order
    flag to its end -/
example : alongB (fun _ _ g' => g'.inOrder && g'.gated) (LState.new .v4 3 false) (Ghost.init .v4 3 false) runWrap = true := by decide +kernel
example : pubIds (cleanRequests (lrun (LState.new .v4 3 false) (runWrap.take 5)).st) = [2, 3, 1] := by decide +kernel

end C11
