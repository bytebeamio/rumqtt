/-
C01 — Broker delivers each message to exactly the matching subscriptions, in order.
The clause numbers (C01.1, C01.2, …) are those of the theorem list for C01 in DESIGN §7.
-/
import Proofs.Lemmas.Router.Base.Local
import Proofs.Lemmas.Router.Rp3_ReqRun
import Proofs.Lemmas.Router.Rp5_Reach
import Proofs.Lemmas.Router.Rp7_Run
import Proofs.Lemmas.Router.Rp8_Reach
import Proofs.Props.C12
namespace C01
open Router Router.Rp3 CommitLog

/-- the router's notion of "topic matches filter" is the MQTT relation (C12) on valid inputs,
    including this code base's rule that `$`-topics match no filter -/
theorem router_matching_is_mqtt (topic filter : String)
    (ht : Topic.validTopic topic.toList = true) (hf : Topic.validFilterB filter.toList = true) :
    topicMatches topic filter = true ↔ Topic.MatchesSpec topic.toList filter.toList :=
  C12.matches_spec topic.toList filter.toList ht hf

/-- the set of logs a new topic is appended to is exactly the set of filters that match it, for
    every iteration order of the hash map (the order is an oracle, membership is checked) -/
theorem publish_goes_to_exactly_the_matching_filters (s s' : RState) (topic : String) (v : List Nat)
    (hcache : alookup topic s.datalog.publishFilters = none) (h : dlMatches s topic = .ok (s', v)) :
    ∀ idx, idx ∈ v ↔ idx ∈ (s.datalog.filterIndexes.filter (fun p => topicMatches topic p.1)).map (·.2) :=
  fun _ => (dlMatches_fresh hcache h).mem_iff


/-- C01.1 (invariant). In EVERY reachable state (any ops, any oracle choices; configuration with
    positive segment limits) the three maps of the data log are coherent (`MapsConsistent`):
    `filter_indexes` maps a filter to `i` exactly when slot `i` of `native` holds that filter (so
    indexes are valid and pairwise distinct); a cached `publish_filters` entry for a topic lists,
    without repetition, exactly the indexes of the filters that match the topic; and every filter
    log is a well-formed commit log representing an append history (C13 `Rep`). -/
theorem maps_consistent (cfg : Config) (h1 : 1 ≤ cfg.maxSegmentSize) (h2 : 1 ≤ cfg.maxSegmentCount)
    (s : RState) (hr : Reachable cfg s) :
    MapsConsistent s ∧
    (∀ f i, alookup f s.datalog.filterIndexes = some i ↔
        ∃ fd, s.datalog.native[i]? = some fd ∧ fd.filter = f) ∧
    (∀ topic v, alookup topic s.datalog.publishFilters = some v →
        v.Nodup ∧ ∀ i, i ∈ v ↔ ∃ fd, s.datalog.native[i]? = some fd ∧ topicMatches topic fd.filter = true) ∧
    (∀ fd ∈ s.datalog.native, ∃ hist : List Pub, Rep (logC fd.log) hist) := by
  have hi := reachable_inv h1 h2 hr
  refine ⟨hi.maps, ?_, fun topic v hv => hi.maps.cache_spec hv, ?_⟩
  · intro f i
    have := hi.maps.lookup_iff f i
    unfold DataLog.filterIdx? at this
    rw [this]
    cases s.datalog.native[i]? <;> simp
  · intro fd hfd
    exact hi.logs fd.log (List.mem_map.mpr ⟨fd, hfd, rfl⟩)

/-- C01.1 (the invariant also holds INSIDE steps). `DLInv` (= `MapsConsistent` + well-formed filter
    logs + positive segment limits) holds in every reachable state and is preserved by the handling
    of every single packet of a batch, so every call of `append_to_commitlog` / `forward_device_data`
    inside a step sees a coherent data log — which is the hypothesis of the theorems below. -/
theorem datalog_invariant (cfg : Config) (h1 : 1 ≤ cfg.maxSegmentSize) (h2 : 1 ≤ cfg.maxSegmentCount) :
    (∀ s, Reachable cfg s → DLInv s) ∧
    (∀ s s' id cid pkt fl fl', DLInv s → handlePacket s id cid pkt fl = .ok (s', fl') → DLInv s') ∧
    (∀ s s' op o, DLInv s → step s op = .ok (s', o) → DLInv s') :=
  ⟨fun _ hr => reachable_inv h1 h2 hr, fun _ _ _ _ _ _ _ hi h => handlePacket_inv hi h,
   fun _ _ _ _ hi h => step_inv hi h⟩

/-- C01.1 (inductive core, cache fill). `DataLog::matches` preserves coherence and answers with a
    permutation of the matching filters' indexes — from the cache or freshly computed, for every
    hash-map order the oracle supplies. -/
theorem matches_preserves_coherence (s s' : RState) (topic : String) (v : List Nat) (hi : DLInv s)
    (h : dlMatches s topic = .ok (s', v)) :
    DLInv s' ∧ v.Nodup ∧
    ∀ i, i ∈ v ↔ ∃ fd, s.datalog.native[i]? = some fd ∧ topicMatches topic fd.filter = true := by
  obtain ⟨h1, hp, _, _⟩ := dlMatches_inv hi h
  exact ⟨h1, hp.nodup_iff.mpr (expectedIdxs_nodup hi.maps topic),
    fun i => by rw [hp.mem_iff, mem_expectedIdxs hi.maps]⟩

/-- C01.1 (inductive core, new filter). `next_native_offset` preserves coherence: a new filter gets
    the next index and is added to every cached topic it matches. -/
theorem new_filter_preserves_coherence (s : RState) (filter : String) (hi : DLInv s) :
    DLInv (nextNativeOffset s filter).1 :=
  (nextNativeOffset_inv hi).1

/-- C01.1 `log_content`. In a state satisfying the invariant (every reachable state and every
    state inside a step, `datalog_invariant`), when `append_to_commitlog` accepts a publish, the
    publish (retain flag cleared, same payload and QoS, the topic it was sent with — or the topic
    its alias resolves to) is appended to the log of EVERY filter that matches the topic, exactly
    once, and to no other log; also when the answer comes from the `publish_filters` cache. -/
theorem log_content (s s' : RState) (hi : DLInv s) (id : Nat) (p : Pub)
    (h : appendToCommitlog s id p = .ok (s', none)) :
    ∃ (p1 : Pub) (topic : String), utf8? p1.topic = some topic ∧ p1.payload = p.payload ∧ p1.qos = p.qos ∧
      (p.alias = none ∨ p.topic.isEmpty = false → p1.topic = p.topic) ∧
      ∀ (i : Nat), s'.datalog.native[i]? = (s.datalog.native[i]?).map (fun fd =>
        if topicMatches topic fd.filter then
          { fd with log := (fd.log.append { p1 with retain := false } (pubSize p1)).1, waiters := [] }
        else fd) := by
  obtain ⟨c, s1, p1, topic, _, _, hres, htop, hdel⟩ := appendToCommitlog_accepted h
  obtain ⟨hi0, hn, _⟩ := accepted_start hi hres topic (some id)
  obtain ⟨_, _, _, e4, e5, _, _, e8⟩ := resolveAlias_spec hres
  refine ⟨p1, topic, htop, e4, e5, e8, fun i => ?_⟩
  rw [(deliver_spec hi0 hdel).1 i, hn]
  rfl

/-- C01.1 with C12: for a valid topic and valid filters the logs that receive the publish are
    exactly those whose filter matches the topic in the MQTT sense. -/
theorem log_content_mqtt (s s' : RState) (hi : DLInv s) (id : Nat) (p : Pub)
    (h : appendToCommitlog s id p = .ok (s', none)) :
    ∃ (p1 : Pub) (topic : String), utf8? p1.topic = some topic ∧ p1.payload = p.payload ∧
      ∀ (i : Nat) (fd : FilterData), s.datalog.native[i]? = some fd →
        Topic.validTopic topic.toList = true → Topic.validFilterB fd.filter.toList = true →
        (Topic.MatchesSpec topic.toList fd.filter.toList →
          s'.datalog.native[i]? = some { fd with log := (fd.log.append { p1 with retain := false } (pubSize p1)).1, waiters := [] }) ∧
        (¬ Topic.MatchesSpec topic.toList fd.filter.toList → s'.datalog.native[i]? = some fd) := by
  obtain ⟨p1, topic, ht, hp, _, _, hall⟩ := log_content s s' hi id p h
  refine ⟨p1, topic, ht, hp, ?_⟩
  intro i fd hfd hvt hvf
  have hm := router_matching_is_mqtt topic fd.filter hvt hvf
  rw [hall i, hfd]
  constructor
  · intro hs; simp [hm.mpr hs]
  · intro hs
    have : ¬ topicMatches topic fd.filter = true := fun e => hs (hm.mp e)
    simp [this]

/-- C01.1 (history form). The log of a matching filter then represents its old history extended by
    exactly this publish. -/
theorem log_content_history (fd : FilterData) (hist : List Pub) (hrep : Rep (logC fd.log) hist) (p : Pub) :
    Rep (logC (fd.log.append p (pubSize p)).1) (hist ++ [p]) :=
  (clog_append fd.log hist hrep p (pubSize p)).1


/-- C01.2 (a sweep forwards exactly what it reads). One `forward_device_data` for a non-shared
    request that is not stopped by a full inflight window: it reads `n` entries from the request's
    cursor in the filter's log — after the retained replay if the request still owes one — and
    pushes to the connection's link, and to no other link, exactly one `Forward` per publish, in
    log order (packet ids aside; `Unschedule` follows if the buffer is now full); the request comes
    back with the continuation cursor; the logs are untouched. -/
theorem sweep_forwards_exactly_the_read (s s' : RState) (id : Nat) (c : Conn) (req req' : DataRequest)
    (st : ConsumeStatus) (hc : getConn s id = some c) (hplain : req.group = none)
    (h : forwardDeviceData s id req = .ok (s', req', st)) (hst : st ≠ .inflightFull) :
    ∃ (replay : List Pub) (n : Nat) (fd : FilterData),
      s.datalog.native[req.filterIdx]? = some fd ∧
      (req.forwardRetained = false → replay = []) ∧
      replay.length + n = (if req.qos ≠ 0 then c.out.freeSlots else s.config.maxOutgoingPacketCount) ∧
      (getLink s' c.link).obuf.map Notif.noPkid =
        (getLink s c.link).obuf.map Notif.noPkid ++
        (replay.map (fun p => (p, none)) ++ (fd.log.readv req.cursor n).1.map (fun e : Pub × Router.Cursor => (e.1, some e.2))).map
          (fwdOf req.qos (sweepAlias c req.filter).2
            ((aliasesFor c req.filter).bind (fun b => alookup req.filter b.aliases)).isSome
            (alookup req.filter c.subscriptionIds)) ++
        (if st = .bufferFull then [Notif.unschedule] else []) ∧
      (∀ l, l ≠ c.link → getLink s' l = getLink s l) ∧
      req' = { req with forwardRetained := false, cursor := (posNext (fd.log.readv req.cursor n).2).1 } ∧
      s'.datalog = s.datalog := by
  have hg := fdGrp_plain s hplain
  obtain ⟨replay, n, fd, _, _, hP⟩ := sweep_pushes hc h hst (by rw [hg]; rfl)
  rw [fdCur_none hg, hg] at hP
  rw [sweepAlias_eq]
  exact ⟨replay, n, fd, hP.log, hP.noReplay, hP.slots, hP.obuf, hP.others, hP.next, hP.datalog⟩

/-- C01.2 (content of a forward). The forward built for a log entry keeps its payload, retain and
    dup flags, carries the subscription's granted QoS and the entry's own cursor, and the entry's
    topic — except that the topic is left empty when a broker topic alias for this filter was
    already established (the client resolves the alias). -/
theorem forward_carries_entry (qos : Nat) (alias : Option Nat) (existed : Bool) (subId : Option Nat)
    (p : Pub) (cur : Option Router.Cursor) :
    ∃ p', fwdOf qos alias existed subId (p, cur) = .forward p' cur ∧ p'.payload = p.payload ∧ p'.qos = qos ∧
      p'.retain = p.retain ∧ p'.dup = p.dup ∧ p'.topic = (if existed then [] else p.topic) := by
  obtain ⟨a, b, c, d, e⟩ := mkForward_fields qos alias existed subId p
  exact ⟨_, rfl, a, b, c, d, e⟩

/-- C01.2 with C13 `readv_spec` (through the bridge to the router's copy of the commit log). The
    entries a sweep reads from an issued cursor are the next `≤ n` entries of the filter log's
    history from the cursor's position `a`: values `take n (drop a hist)`, offsets `a, a+1, …`
    (contiguous: no gap, no repeat); the continuation stands right behind them, is issued again,
    and `Done` is reported iff nothing remains. -/
theorem sweep_reads_next_entries (fd : FilterData) (hist : List Pub) (hrep : Rep (logC fd.log) hist)
    (cur : Router.Cursor) (n : Nat) (hi : Issued (logC fd.log) cur) (hU : hist.length + n < U64) :
    (fd.log.readv cur n).1.map (·.1) = (hist.drop (cursorAbs (logC fd.log) cur)).take n ∧
    (fd.log.readv cur n).1.map (·.2.2) =
      List.range' (cursorAbs (logC fd.log) cur) (fd.log.readv cur n).1.length ∧
    (posNext (fd.log.readv cur n).2).1.2 = cursorAbs (logC fd.log) cur + (fd.log.readv cur n).1.length ∧
    Issued (logC fd.log) (posNext (fd.log.readv cur n).2).1 ∧
    ((posNext (fd.log.readv cur n).2).2 = true ↔
      cursorAbs (logC fd.log) cur + (fd.log.readv cur n).1.length = hist.length) := by
  obtain ⟨e1, e2, e3, _, e5⟩ := clog_readv_spec fd.log hist hrep cur n hi hU
  obtain ⟨v1, v2, _⟩ := clog_readv_entries fd.log hist hrep cur n hi hU
  rw [e1] at *
  exact ⟨v1, v2, e2, e3, e5⟩

/-- C01.2 (two consecutive sweeps compose, C13 `readv_compose`). The sweep that starts from the
    continuation cursor of the previous one reads exactly what follows: together they are one
    read of `n + m` entries. -/
theorem consecutive_sweeps_compose (fd : FilterData) (hist : List Pub) (hrep : Rep (logC fd.log) hist)
    (cur : Router.Cursor) (n m : Nat) (hi : Issued (logC fd.log) cur) (hU : hist.length + (n + m) < U64) :
    (fd.log.readv cur n).1 ++ (fd.log.readv (posNext (fd.log.readv cur n).2).1 m).1 =
      (fd.log.readv cur (n + m)).1 :=
  clog_readv_compose fd.log hist hrep cur n m hi hU

/-- C01.2 (later sweep, after more publishes). A cursor handed back by a sweep is not stale; as
    long as its segment has not been evicted, a later sweep of the (grown) log starts exactly at
    the cursor's offset: the offsets it forwards are `cur.2, cur.2+1, …`. -/
theorem later_sweep_continues_at_cursor (fd' : FilterData) (hist' : List Pub) (hrep : Rep (logC fd'.log) hist')
    (cur : Router.Cursor) (m : Nat) (hi : Issued (logC fd'.log) cur) (hfresh : (logC fd'.log).head ≤ cur.1)
    (hU : hist'.length + m < U64) :
    (fd'.log.readv cur m).1.map (·.2.2) = List.range' cur.2 (fd'.log.readv cur m).1.length := by
  obtain ⟨_, v2, _⟩ := clog_readv_entries fd'.log hist' hrep cur m hi hU
  rw [cursorAbs_of_le hfresh] at v2
  exact v2

/-- C01.2 (parking). A non-shared request is parked — status `FilterCaughtup` — exactly when the
    read reported `Done` (the cursor reached the end of the log), unless the sweep ended with a
    full link buffer (then the request stays scheduled). -/
theorem parked_iff_caught_up (s s' : RState) (id : Nat) (c : Conn) (req req' : DataRequest)
    (st : ConsumeStatus) (hc : getConn s id = some c) (hplain : req.group = none)
    (h : forwardDeviceData s id req = .ok (s', req', st)) (hst : st ≠ .inflightFull) (hbf : st ≠ .bufferFull)
    (hpos : 0 < s.config.maxOutgoingPacketCount)
    (hlog : ∀ fd, s.datalog.native[req.filterIdx]? = some fd → ∃ hist, Rep (logC fd.log) hist ∧
      Issued (logC fd.log) req.cursor ∧ hist.length + (MAX_INFLIGHT + s.config.maxOutgoingPacketCount) < U64) :
    ∃ (n : Nat) (fd : FilterData), s.datalog.native[req.filterIdx]? = some fd ∧
      req'.cursor = (posNext (fd.log.readv req.cursor n).2).1 ∧
      (st = .filterCaughtup ↔ (posNext (fd.log.readv req.cursor n).2).2 = true) := by
  have hg := fdGrp_plain s hplain
  have hcur := fdCur_none hg
  obtain ⟨n, fd, hfd, _, e, hiff⟩ := sweep_done_iff hc h hst hbf (by rw [hg]; rfl) hpos (by rw [hcur]; exact hlog)
  rw [hcur] at e hiff
  exact ⟨n, fd, hfd, e, hiff⟩

/-- C01.2 (waking, one log). `Data::append` on a filter moves every request parked on that filter
    to `notifications` (from where `handle_device_payload` re-tracks it and reschedules the
    connection) and leaves none parked. -/
theorem append_wakes_parked_waiters (s s' : RState) (idx : Nat) (p : Pub)
    (h : appendToFilter s idx p = .ok s') :
    ∃ fd fd', s.datalog.native[idx]? = some fd ∧ s'.notifications = s.notifications ++ fd.waiters ∧
      s'.datalog.native[idx]? = some fd' ∧ fd'.waiters = [] := by
  obtain ⟨fd, h1, h2, h3⟩ := appendToFilter_wakes h
  exact ⟨fd, _, h1, h2, h3, rfl⟩

/-- C01.2 (a subscriber that caught up is woken by the next matching publish). In a state
    satisfying the invariant, if request `r` of connection `cid` is parked on a filter and a publish whose topic
    matches that filter is accepted, then `(cid, r)` is in `notifications` afterwards, and the
    only requests woken are those parked on matching filters. -/
theorem caught_up_subscriber_is_woken (s s' : RState) (hi : DLInv s) (id : Nat) (p : Pub) (t : String)
    (halias : p.alias = none) (ht : utf8? p.topic = some t)
    (h : appendToCommitlog s id p = .ok (s', none)) (w : Nat × DataRequest) :
    w ∈ s'.notifications ↔ w ∈ s.notifications ∨
      ∃ (i : Nat) (fd : FilterData), s.datalog.native[i]? = some fd ∧ topicMatches t fd.filter = true ∧ w ∈ fd.waiters := by
  obtain ⟨s0, hi0, hn, hno, hdel⟩ := appendToCommitlog_accept_plain hi halias ht h
  rw [(deliver_spec hi0 hdel).2 w, hn, hno]

/-- the hypotheses are satisfiable: the initial state of a legal configuration is reachable -/
example : Reachable ⟨10, 1024, 2, 10, .roundRobin⟩ (init ⟨10, 1024, 2, 10, .roundRobin⟩) ∧
    1 ≤ (⟨10, 1024, 2, 10, .roundRobin⟩ : Config).maxSegmentSize ∧
    1 ≤ (⟨10, 1024, 2, 10, .roundRobin⟩ : Config).maxSegmentCount :=
  ⟨Reachable.init _, by decide, by decide⟩


/-- C01 "after that subscription took effect". The cursor `next_native_offset` hands to a new
    subscription is an issued, retained cursor of the filter's (well-formed) log standing right
    behind everything appended so far: the subscription will see exactly the later appends. -/
theorem subscription_starts_at_tail (s : RState) (filter : String) (hi : DLInv s) :
    ∃ fd hist, (nextNativeOffset s filter).1.datalog.native[(nextNativeOffset s filter).2.1]? = some fd ∧
      fd.filter = filter ∧ Rep (logC fd.log) hist ∧
      Issued (logC fd.log) (nextNativeOffset s filter).2.2 ∧
      (logC fd.log).head ≤ (nextNativeOffset s filter).2.2.1 ∧
      (nextNativeOffset s filter).2.2.2 = hist.length :=
  nextNativeOffset_tail hi

/-- C01.2 (publishes are harmless `other` steps). Accepting a publish keeps every issued cursor of
    every filter log issued and every log well formed; the log's history grows by exactly this
    publish if the filter matches, else not at all. (So between two sweeps of a request the
    premise of `delivery_is_prefix_partial` can only fail through eviction of the cursor's segment
    — the retention proviso — or through the 2^64 bound.) -/
theorem publish_keeps_cursors_issued (s s' : RState) (hi : DLInv s) (id : Nat) (p : Pub) (t : String)
    (halias : p.alias = none) (ht : utf8? p.topic = some t)
    (h : appendToCommitlog s id p = .ok (s', none))
    (idx : Nat) (fd : FilterData) (hist : List Pub) (cur : Router.Cursor)
    (hfd : s.datalog.native[idx]? = some fd) (hrep : Rep (logC fd.log) hist) (hiss : Issued (logC fd.log) cur) :
    ∃ fd' hist', s'.datalog.native[idx]? = some fd' ∧ fd'.filter = fd.filter ∧ Rep (logC fd'.log) hist' ∧
      Issued (logC fd'.log) cur ∧
      hist' = (if topicMatches t fd.filter then hist ++ [{ p with alias := none, retain := false }] else hist) := by
  obtain ⟨s0, hi0, hn, _, hdel⟩ := appendToCommitlog_accept_plain hi halias ht h
  exact deliver_keeps_issued hi0 hdel idx fd hist cur (by rw [hn]; exact hfd) hrep hiss

/-- C01.2 `delivery_is_prefix` per data request, over any number of sweeps. Follow one
    non-shared data request over any stretch of a run (`ReqRun`): sweeps — each started with the
    request the previous sweep handed back, each contributing the log offsets it appended to the
    connection's link buffer (`linkOffsets`, an observable) — interleaved with arbitrary other
    router steps during which the request's cursor stays an issued, retained cursor of its filter
    log (appends of new publishes are such steps unless they evict the cursor's segment — the
    retention proviso). If the request starts from such a cursor (a new subscription does:
    `subscription_starts_at_tail`), then the offsets forwarded for it are EXACTLY the consecutive
    log offsets from the starting cursor — in order, no gap, no repeat, across all the sweeps — and
    the request ends up right behind them. With `log_content` (each accepted matching publish is
    one log entry) and `forward_carries_entry` this is "exactly the matching messages accepted
    after the subscription took effect, once, in acceptance order". -/
theorem delivery_is_prefix_partial (idx : Nat) (s s2 : RState) (req req2 : DataRequest) (offs : List Nat)
    (hat : ReqAt idx s req.cursor) (hrun : ReqRun idx s req offs s2 req2) :
    offs = List.range' req.cursor.2 offs.length ∧ req2.cursor.2 = req.cursor.2 + offs.length ∧
    ReqAt idx s2 req2.cursor :=
  let ⟨⟨a, b⟩, c⟩ := reqRun_contiguous hrun hat
  ⟨a, b, c⟩


/-- C01 / C17, cursor soundness (`CursorSound` in DESIGN; the invariant `Rp3.CS`). In every reachable state whose filter logs are below the no-overflow
    bound of the C13 read theorems (`NoOverflow`: no log is within `MAX_INFLIGHT +
    max_outgoing_packet_count` entries of `2^64`; the logs only grow, so the bound then held all
    along the run), every cursor the router holds is a cursor ISSUED (C13) by the log it is used on:
    * the cursor of every data request — tracked, parked in a waiter list, notified — for the log
      `native[filter_idx]`, and a request of a shared subscription has the filter index of its
      group's path (`gpath`: `<share>/<path>` ↦ `<path>`);
    * every cursor recorded in an outgoing window entry `(pkid, filter_idx, Some cursor)`;
    * the cursor of every request of a saved session;
    * the cursor of every shared group, for the log of the group's path (which exists).
    Sources: the tail cursor of a new subscription, the continuation of a read, the entry tags of a
    read (window), `atGroupCursor` / `rejoinGroups` / `rewindRequests` copying such cursors between
    requests, groups and windows; appends and evictions keep issued cursors issued. -/
theorem cursor_sound {cfg : Config} (h1 : 1 ≤ cfg.maxSegmentSize) (h2 : 1 ≤ cfg.maxSegmentCount) {s : RState}
    (hr : Reachable cfg s) (hno : NoOverflow s) :
    (∀ r, allReqs s r →
      (∃ fd, s.datalog.native[r.filterIdx]? = some fd ∧ Issued (logC fd.log) r.cursor) ∧
      ∀ g, r.group = some g → s.datalog.filterIdx? (gpath g) = some r.filterIdx) ∧
    (∀ id c, getConn s id = some c → ∀ e ∈ c.out.inflight, ∀ cur, e.2.2 = some cur →
      ∃ fd, s.datalog.native[e.2.1]? = some fd ∧ Issued (logC fd.log) cur) ∧
    (∀ cid ss, (cid, some ss) ∈ s.graveyard → ∀ r ∈ ss.tracker.requests,
      ∃ fd, s.datalog.native[r.filterIdx]? = some fd ∧ Issued (logC fd.log) r.cursor) ∧
    (∀ g grp, (g, grp) ∈ s.shared →
      ∃ i fd, s.datalog.filterIdx? (gpath g) = some i ∧ s.datalog.native[i]? = some fd ∧ Issued (logC fd.log) grp.cursor) := by
  have h := CS.reachable h1 h2 hr hno
  refine ⟨fun r hr' => h.req r hr', fun id c hc e he cur hcur => h.win e.2.1 cur ⟨id, c, hc, e, he, rfl, hcur⟩,
    fun cid ss hm r hr' => (h.grv (cid, some ss) hm ss rfl r hr').1, fun g grp hm => ?_⟩
  obtain ⟨i, a, fd, b, c⟩ := h.grp (g, grp) hm
  exact ⟨i, fd, a, b, c⟩

theorem allReqs_noOverflow_spec (s : RState) (r : DataRequest) :
    (allReqs s r ↔
      (∃ id c, getConn s id = some c ∧ r ∈ c.tracker.requests) ∨
      (∃ fd ∈ s.datalog.native, ∃ w ∈ fd.waiters, w.2 = r) ∨ (∃ n ∈ s.notifications, n.2 = r)) ∧
    (NoOverflow s ↔ ∀ fd ∈ s.datalog.native, ∀ hist, Rep (logC fd.log) hist →
      hist.length + (MAX_INFLIGHT + s.config.maxOutgoingPacketCount) < U64) := ⟨Iff.rfl, Iff.rfl⟩

/-- C01.2 `sweep_reads_next_entries` for reachable states, WITHOUT the `Issued` hypothesis: for a
    request `req` in the tracker of a live connection, the log `native[req.filter_idx]` exists, is
    well formed (represents an append history `hist`) and a read of `n ≤ MAX_INFLIGHT +
    max_outgoing_packet_count` entries from `req.cursor` returns the next entries of `hist` from
    the cursor's position, with contiguous offsets, and an issued continuation. -/
theorem sweep_reads_next_entries_reachable {cfg : Config} (h1 : 1 ≤ cfg.maxSegmentSize) (h2 : 1 ≤ cfg.maxSegmentCount)
    {s : RState} (hr : Reachable cfg s) (hno : NoOverflow s) {id : Nat} {c : Conn} {req : DataRequest}
    (hc : getConn s id = some c) (hreq : req ∈ c.tracker.requests) (n : Nat)
    (hn : n ≤ MAX_INFLIGHT + s.config.maxOutgoingPacketCount) :
    ∃ fd hist, s.datalog.native[req.filterIdx]? = some fd ∧ Rep (logC fd.log) hist ∧
      (fd.log.readv req.cursor n).1.map (·.1) = (hist.drop (cursorAbs (logC fd.log) req.cursor)).take n ∧
      (fd.log.readv req.cursor n).1.map (·.2.2) =
        List.range' (cursorAbs (logC fd.log) req.cursor) (fd.log.readv req.cursor n).1.length ∧
      (posNext (fd.log.readv req.cursor n).2).1.2 =
        cursorAbs (logC fd.log) req.cursor + (fd.log.readv req.cursor n).1.length ∧
      Issued (logC fd.log) (posNext (fd.log.readv req.cursor n).2).1 ∧
      ((posNext (fd.log.readv req.cursor n).2).2 = true ↔
        cursorAbs (logC fd.log) req.cursor + (fd.log.readv req.cursor n).1.length = hist.length) := by
  obtain ⟨fd, hist, hfd, hrep, hiss, hU, _⟩ := tracked_request_sound h1 h2 hr hno hc hreq
  exact ⟨fd, hist, hfd, hrep, sweep_reads_next_entries fd hist hrep req.cursor n hiss (by omega)⟩

/-- C01.2 `parked_iff_caught_up` for reachable states, without the `Issued` / well-formedness
    hypothesis on the log: for a non-shared request taken from the tracker of a live connection -/
theorem parked_iff_caught_up_reachable {cfg : Config} (h1 : 1 ≤ cfg.maxSegmentSize) (h2 : 1 ≤ cfg.maxSegmentCount)
    {s : RState} (hr : Reachable cfg s) (hno : NoOverflow s) (s' : RState) (id : Nat) (c : Conn) (req req' : DataRequest)
    (st : ConsumeStatus) (hc : getConn s id = some c) (hreq : req ∈ c.tracker.requests) (hplain : req.group = none)
    (h : forwardDeviceData s id req = .ok (s', req', st)) (hst : st ≠ .inflightFull) (hbf : st ≠ .bufferFull)
    (hpos : 0 < s.config.maxOutgoingPacketCount) :
    ∃ (n : Nat) (fd : FilterData), s.datalog.native[req.filterIdx]? = some fd ∧
      req'.cursor = (posNext (fd.log.readv req.cursor n).2).1 ∧
      (st = .filterCaughtup ↔ (posNext (fd.log.readv req.cursor n).2).2 = true) := by
  obtain ⟨fd, hist, hfd, hrep, hiss, hU, _⟩ := tracked_request_sound h1 h2 hr hno hc hreq
  refine parked_iff_caught_up s s' id c req req' st hc hplain h hst hbf hpos fun fd' hfd' => ?_
  rw [hfd] at hfd'; cases hfd'
  exact ⟨hist, hrep, hiss, hU⟩

/-- C01.2: the start premise `ReqAt` of `delivery_is_prefix_partial` holds for every tracked request of
    a reachable state whose cursor's segment is still retained (the retention proviso is the only
    premise left) -/
theorem req_at_of_reachable {cfg : Config} (h1 : 1 ≤ cfg.maxSegmentSize) (h2 : 1 ≤ cfg.maxSegmentCount)
    {s : RState} (hr : Reachable cfg s) (hno : NoOverflow s) {id : Nat} {c : Conn} {req : DataRequest}
    (hc : getConn s id = some c) (hreq : req ∈ c.tracker.requests)
    (hret : ∀ fd, s.datalog.native[req.filterIdx]? = some fd → (logC fd.log).head ≤ req.cursor.1) :
    ReqAt req.filterIdx s req.cursor := by
  obtain ⟨fd, hist, hfd, hrep, hiss, hU, _⟩ := tracked_request_sound h1 h2 hr hno hc hreq
  exact ⟨fd, hist, hfd, hrep, hiss, hret fd hfd, hU⟩


/-- what the vocabulary of the theorems below says: connection `j` OWNS request `r` when `r` is in
    `j`'s tracker, parked for `j` in a filter log's waiter list, or in `notifications` for `j`; a
    cursor is `AtEnd` of a log when its segment is retained and its offset is the log's next offset -/
theorem own_atEnd_spec (s : RState) (j : Nat) (r : DataRequest) (fd : FilterData) (cur : Router.Cursor) :
    (Own s j r ↔ (∃ c, getConn s j = some c ∧ r ∈ c.tracker.requests) ∨
      (∃ (i : Nat) (fd' : FilterData), s.datalog.native[i]? = some fd' ∧ (j, r) ∈ fd'.waiters) ∨ (j, r) ∈ s.notifications) ∧
    (AtEnd fd cur ↔ (logC fd.log).head ≤ cur.1 ∧ cur.2 = (logC fd.log).nextAbs) := ⟨Iff.rfl, Iff.rfl⟩

/-- C01, a parked request stands at the end of its log (`ParkedAtEnd` in DESIGN; clause `pe` of the invariant `QI`), and
    its companions. In every reachable state below the no-overflow
    bound, for `max_outgoing_packet_count > 0` (with 0 a QoS-0 sweep reads nothing and parks the
    request wherever it stands — a degenerate configuration):
    * every subscription of every live connection has a data request that the connection owns;
    * a request's group is the group of its filter (`$share/<g>/<p>` ↦ `<g>/<p>`, none otherwise);
    * every PARKED request of a non-shared subscription stands AT THE END of its filter's log: `park`
      is only called after a sweep that reported `FilterCaughtup`, whose continuation cursor is the
      `Done` position of the read; every append to a log moves all its waiters to `notifications`;
      eviction happens only inside an append. -/
theorem parked_at_end {cfg : Config} (h1 : 1 ≤ cfg.maxSegmentSize) (h2 : 1 ≤ cfg.maxSegmentCount)
    (hpos : 0 < cfg.maxOutgoingPacketCount) {s : RState} (hr : Reachable cfg s) (hno : NoOverflow s) :
    (∀ id c, getConn s id = some c → ∀ f ∈ c.subscriptions, ∃ r, Own s id r ∧ r.filter = f) ∧
    (∀ id r, Own s id r → r.group = (extractGroup r.filter).map (·.1)) ∧
    (∀ (i : Nat) fd, s.datalog.native[i]? = some fd → ∀ w ∈ fd.waiters, w.2.group = none → AtEnd fd w.2.cursor) := by
  have hq := QI.reachable h1 h2 hpos hr hno
  refine ⟨fun id c hc f hf => hq.cover id f (subsOf_live hc ▸ hf), fun id r ho => hq.gt id r ho, hq.pe⟩

/-- C01 `quiescent_complete` (last sentence of the property; C09 "resumes … without further
    stimulus"). Let `s` be a reachable state (between two router steps, so `notifications` is empty)
    and `id` a live connection whose tracker holds no data request — the broker has gone idle for
    that client: nothing is scheduled for it. Then every subscription `f` of the connection has its
    request PARKED in the waiter list of the log of `f`'s path (so the next matching publish wakes
    it: `caught_up_subscriber_is_woken`), with an issued cursor; and for a non-shared subscription
    the cursor stands at the END of that log: a read from it returns nothing — the broker holds no
    entry of the log which it has not already handed to the connection's link buffer or window. -/
theorem quiescent_complete {cfg : Config} (h1 : 1 ≤ cfg.maxSegmentSize) (h2 : 1 ≤ cfg.maxSegmentCount)
    (hpos : 0 < cfg.maxOutgoingPacketCount) {s : RState} (hr : Reachable cfg s) (hno : NoOverflow s)
    {id : Nat} {c : Conn} (hc : getConn s id = some c) (hidle : c.tracker.requests = [])
    {f : String} (hf : f ∈ c.subscriptions) :
    s.notifications = [] ∧
    ∃ (i : Nat) (fd : FilterData) (hist : List Pub) (r : DataRequest),
      s.datalog.filterIdx? (logPath f) = some i ∧ s.datalog.native[i]? = some fd ∧ Rep (logC fd.log) hist ∧
      (id, r) ∈ fd.waiters ∧ r.filter = f ∧ r.filterIdx = i ∧ r.group = (extractGroup f).map (·.1) ∧
      Issued (logC fd.log) r.cursor ∧
      (extractGroup f = none →
        (logC fd.log).head ≤ r.cursor.1 ∧ r.cursor.2 = hist.length ∧
        ∀ n, n ≤ MAX_INFLIGHT + s.config.maxOutgoingPacketCount → (fd.log.readv r.cursor n).1 = []) :=
  ⟨(Inv3.reachable hr).inv2.binv.2,
    (subscription_state h1 h2 hpos hr hno hc hf).resolve_left fun ⟨_, hm, _⟩ => by rw [hidle] at hm; cases hm⟩

/-- C01 / C09 (scheduler status, invariant). In every reachable state, for every live connection:
    `Paused(Caughtup)` → its tracker holds no data request; `Paused(InflightFull)` → its outgoing
    window is full (`MAX_INFLIGHT` unacknowledged publishes: it waits for its client's acks, and an ack
    reschedules it); `Ready` → it is in the ready queue (a `consume` call will serve it). The fourth
    status, `Paused(Busy)`, is left by the link's `Ready` event (after the link drained its buffer)
    or at registration. -/
theorem scheduler_status_facts {cfg : Config} {s : RState} (hr : Reachable cfg s) {id : Nat} {c : Conn}
    (hc : getConn s id = some c) :
    (c.tracker.status = .paused .caughtup → c.tracker.requests = []) ∧
    (c.tracker.status = .paused .inflightFull → c.out.inflight.length = MAX_INFLIGHT) ∧
    (c.tracker.status = .ready → id ∈ s.readyqueue) := by
  have hs := SI.reachable hr
  have hout := (Inv1.reachable hr).out id c hc
  exact ⟨(hs.ci id c hc).1, fun e => Nat.le_antisymm hout.1 ((hs.ci id c hc).2 e), hs.rq id c hc⟩

/-- C01 `quiescent_complete`, stated with the scheduler status: a connection that is
    `Paused(Caughtup)` — idle, nothing scheduled for it — has every subscription's request parked, the
    non-shared ones at the end of their logs -/
theorem quiescent_complete_status {cfg : Config} (h1 : 1 ≤ cfg.maxSegmentSize) (h2 : 1 ≤ cfg.maxSegmentCount)
    (hpos : 0 < cfg.maxOutgoingPacketCount) {s : RState} (hr : Reachable cfg s) (hno : NoOverflow s)
    {id : Nat} {c : Conn} (hc : getConn s id = some c) (hidle : c.tracker.status = .paused .caughtup)
    {f : String} (hf : f ∈ c.subscriptions) :
    ∃ (i : Nat) (fd : FilterData) (hist : List Pub) (r : DataRequest),
      s.datalog.filterIdx? (logPath f) = some i ∧ s.datalog.native[i]? = some fd ∧ Rep (logC fd.log) hist ∧
      (id, r) ∈ fd.waiters ∧ r.filter = f ∧ r.filterIdx = i ∧ r.group = (extractGroup f).map (·.1) ∧
      Issued (logC fd.log) r.cursor ∧
      (extractGroup f = none →
        (logC fd.log).head ≤ r.cursor.1 ∧ r.cursor.2 = hist.length ∧
        ∀ n, n ≤ MAX_INFLIGHT + s.config.maxOutgoingPacketCount → (fd.log.readv r.cursor n).1 = []) :=
  (quiescent_complete h1 h2 hpos hr hno hc ((scheduler_status_facts hr hc).1 hidle) hf).2

/-- C01 / C09 "nothing is left undelivered at idle except what the client itself holds up" (the
    converse of `quiescent_complete`). In a reachable state, for every subscription `f` of a live
    connection: EITHER its request is parked on the log of `f`'s path (a non-shared one: at the end
    of the log — everything the broker holds has been handed over), OR the request is in the
    connection's tracker and the connection is `Ready` and queued for `consume` (the broker will
    sweep it without further stimulus), or `Paused(InflightFull)` with a full window (it waits for
    its own client's acknowledgements), or `Paused(Busy)` (it waits for its own link's `Ready`). -/
theorem undelivered_only_if_client_holds_up {cfg : Config} (h1 : 1 ≤ cfg.maxSegmentSize) (h2 : 1 ≤ cfg.maxSegmentCount)
    (hpos : 0 < cfg.maxOutgoingPacketCount) {s : RState} (hr : Reachable cfg s) (hno : NoOverflow s)
    {id : Nat} {c : Conn} (hc : getConn s id = some c) {f : String} (hf : f ∈ c.subscriptions) :
    (∃ (i : Nat) (fd : FilterData) (hist : List Pub) (r : DataRequest),
      s.datalog.filterIdx? (logPath f) = some i ∧ s.datalog.native[i]? = some fd ∧ Rep (logC fd.log) hist ∧
      (id, r) ∈ fd.waiters ∧ r.filter = f ∧ r.filterIdx = i ∧ r.group = (extractGroup f).map (·.1) ∧
      Issued (logC fd.log) r.cursor ∧
      (extractGroup f = none →
        (logC fd.log).head ≤ r.cursor.1 ∧ r.cursor.2 = hist.length ∧
        ∀ n, n ≤ MAX_INFLIGHT + s.config.maxOutgoingPacketCount → (fd.log.readv r.cursor n).1 = [])) ∨
    ((∃ r ∈ c.tracker.requests, r.filter = f) ∧
      ((c.tracker.status = .ready ∧ id ∈ s.readyqueue) ∨
       (c.tracker.status = .paused .inflightFull ∧ c.out.inflight.length = MAX_INFLIGHT) ∨
       c.tracker.status = .paused .busy)) := by
  rcases subscription_state h1 h2 hpos hr hno hc hf with ⟨r, hm, e⟩ | h
  · exact .inr ⟨⟨r, hm, e⟩, tracking_status hr hc (fun e' => by rw [e'] at hm; cases hm)⟩
  · exact .inl h

/-- how "the log offsets forwarded to connection `a` through its subscription `f` during a run" is
    defined (`runFwd`): the functions mirror `run` / `step` / `consume` and its request loop, and
    collect for every sweep (`forward_device_data`) of a request of connection `a` with filter `f` the
    log offsets of the forwards the sweep appended to the connection's link buffer (`sweepDelta`: the
    new part of `linkOffsets`, the offsets carried by the `Forward` notifications of the buffer) -/
theorem runFwd_spec (a : Nat) (f : String) (s : RState) (op : Op) (ch : List Choice) (rest : List (Op × List Choice))
    (id fuel : Nat) (req : DataRequest) (reqs skipped : List DataRequest) :
    runFwd a f s [] = [] ∧
    runFwd a f s ((op, ch) :: rest) =
      (match step { s with oracle := ch } op with
       | .error _ => []
       | .ok (s', _) => stepFwd a f { s with oracle := ch } op ++ runFwd a f s' rest) ∧
    stepFwd a f s .consume = consumeFwd a f s ∧ (∀ l p, stepFwd a f s (.push l p) = []) ∧
    (∀ l, stepFwd a f s (.drain l) = []) ∧ (∀ j e, stepFwd a f s (.event j e) = []) ∧
    (∀ spec, stepFwd a f s (.connect spec) = []) ∧
    consumeFwd a f s =
      (match s.readyqueue.dropWhile (fun id => (s.conns.get? id).isNone) with
       | [] => []
       | id :: rq =>
         if id ≠ a then [] else
         match getConn { s with readyqueue := rq } id with
         | none => []
         | some c =>
           loopFwd f id MAX_SCHEDULE_ITERATIONS
             (ackDeviceData { setConn { s with readyqueue := rq } id { c with tracker := { c.tracker with requests := [] } } with
               readyqueue := (setConn { s with readyqueue := rq } id { c with tracker := { c.tracker with requests := [] } }).readyqueue ++ [id] } id)
             c.tracker.requests []) ∧
    loopFwd f id 0 s reqs skipped = [] ∧ loopFwd f id (fuel + 1) s [] skipped = [] ∧
    loopFwd f id (fuel + 1) s (req :: reqs) skipped =
      (match forwardDeviceData s id req with
       | .error _ => []
       | .ok (s1, req1, st) =>
         let d := if req.filter = f then sweepDelta s s1 id else []
         let s2 := noteTurn s s1 req1
         match st with
         | .bufferFull => d
         | .inflightFull => d
         | .filterCaughtup =>
           match park s2 id req1 with
           | .error _ => d
           | .ok s3 => d ++ loopFwd f id fuel s3 reqs skipped
         | .partialRead => d ++ loopFwd f id fuel s2 (reqs ++ [req1]) skipped
         | .skipRequest => d ++ loopFwd f id fuel s2 reqs (skipped ++ [req1])) ∧
    sweepDelta s s id = (match getConn s id with
      | some c => (linkOffsets s c.link).drop (linkOffsets s c.link).length
      | none => []) :=
  ⟨rfl, rfl, rfl, fun _ _ => rfl, fun _ => rfl, fun _ _ => rfl, fun _ => rfl, rfl, rfl, rfl, rfl, rfl⟩

/-- the assumptions of `delivery_is_prefix` on a run (`QuietRun`): in every state of the run
    connection `a` is live and belongs to client `cid`, and the cursor of its request for `f` points
    into a retained segment ("within the configured log retention"); no op of the run is a CONNECT of
    client `cid` (a takeover), and no batch of packets of connection `a` contains an UNSUBSCRIBE
    naming `f` -/
theorem quietRun_spec (a : Nat) (cid f : String) (s : RState) (op : Op) (ch : List Choice) (rest : List (Op × List Choice)) :
    (QuietRun a cid f s [] ↔ Stays a cid f s) ∧
    (QuietRun a cid f s ((op, ch) :: rest) ↔ Stays a cid f s ∧ QuietOp a cid f s op ∧
      ∀ s' out, step { s with oracle := ch } op = .ok (s', out) → QuietRun a cid f s' rest) ∧
    (Stays a cid f s ↔ (∃ c, getConn s a = some c ∧ c.clientId = cid) ∧
      ∀ r, Own s a r → r.filter = f → ∀ fd, s.datalog.native[r.filterIdx]? = some fd → (logC fd.log).head ≤ r.cursor.1) ∧
    (∀ spec, QuietOp a cid f s (.connect spec) ↔ spec.clientId ≠ cid) ∧
    (∀ id, QuietOp a cid f s (.event id .deviceData) ↔
      (id = a → ∀ c, getConn s a = some c → ∀ p ∈ (getLink s c.link).ibuf, f ∉ pktUnsubs p)) ∧
    QuietOp a cid f s .consume ∧ (∀ l p, QuietOp a cid f s (.push l p)) ∧ (∀ l, QuietOp a cid f s (.drain l)) ∧
    (∀ id, QuietOp a cid f s (.event id .disconnect)) ∧ (∀ id, QuietOp a cid f s (.event id .ready)) :=
  ⟨Iff.rfl, Iff.rfl, Iff.rfl, fun _ => Iff.rfl, fun _ => Iff.rfl, trivial, fun _ _ => trivial, fun _ => trivial,
   fun _ => trivial, fun _ => trivial⟩

/-- C01.2 `delivery_is_prefix`, over WHOLE RUNS. Take any run — any
    list of ops with their oracles: publishes and other traffic of any client, consume calls, link
    drains, connects and disconnects of OTHER clients — from a reachable state in which connection `a`
    owns the request `r` of its non-shared subscription `f`, during which the connection stays and keeps
    the subscription, within the log retention (`QuietRun`), ending below the no-overflow bound. Then
    the log offsets forwarded to `a`'s link buffer through `f` during the run (`runFwd`) are EXACTLY the
    consecutive offsets from the request's cursor at the start — in order, no gap, no repeat, across
    all sweeps of all consume calls — and the connection's request for `f` at the end stands right
    behind them. With `log_content` (one log entry per accepted matching publish) and
    `forward_carries_entry`: exactly the matching messages, once each, in acceptance order.
    Ingredients: request conservation (C03: THE request of `(a, f)` is in exactly one of tracker /
    waiter list / notifications), `cursor_sound` (its cursor is issued at every step), ownership is
    kept by every step except UNSUBSCRIBE / removal, and `consume` threads the request from sweep to
    sweep (`delivery_is_prefix_partial` for each consume call). -/
theorem delivery_is_prefix {cfg : Config} (h1 : 1 ≤ cfg.maxSegmentSize) (h2 : 1 ≤ cfg.maxSegmentCount)
    (hpos : 0 < cfg.maxOutgoingPacketCount) {a : Nat} {cid f : String} (ops : List (Op × List Choice))
    {s s2 : RState} {r : DataRequest} (hr : Reachable cfg s) (hrun : run s ops = .ok s2) (hno : NoOverflow s2)
    (hquiet : QuietRun a cid f s ops) (hown : Own s a r) (hf : r.filter = f) (hplain : r.group = none) :
    ∃ r2, Own s2 a r2 ∧ r2.filter = f ∧ r2.group = none ∧ r2.filterIdx = r.filterIdx ∧
      runFwd a f s ops = List.range' r.cursor.2 (runFwd a f s ops).length ∧
      r2.cursor.2 = r.cursor.2 + (runFwd a f s ops).length :=
  run_thread h1 h2 hpos ops hr hrun hno hquiet hown hf hplain

/-- C01.2 `no_gap_no_duplicate_over_runs`: the same, spelled out — the `k`-th offset forwarded through
    the subscription during the run is the start offset plus `k`; in particular the offsets are
    strictly increasing (none twice) and contiguous (none skipped) -/
theorem no_gap_no_duplicate_over_runs {cfg : Config} (h1 : 1 ≤ cfg.maxSegmentSize) (h2 : 1 ≤ cfg.maxSegmentCount)
    (hpos : 0 < cfg.maxOutgoingPacketCount) {a : Nat} {cid f : String} (ops : List (Op × List Choice))
    {s s2 : RState} {r : DataRequest} (hr : Reachable cfg s) (hrun : run s ops = .ok s2) (hno : NoOverflow s2)
    (hquiet : QuietRun a cid f s ops) (hown : Own s a r) (hf : r.filter = f) (hplain : r.group = none) :
    (∀ k (hk : k < (runFwd a f s ops).length), (runFwd a f s ops)[k] = r.cursor.2 + k) ∧
    (runFwd a f s ops).Pairwise (· < ·) := by
  obtain ⟨_, _, _, _, _, e, _⟩ := delivery_is_prefix h1 h2 hpos ops hr hrun hno hquiet hown hf hplain
  constructor
  · intro k hk
    have : (List.range' r.cursor.2 (runFwd a f s ops).length)[k]'(by simpa using hk) = r.cursor.2 + k := by
      simp [List.getElem_range']
    rw [← this]
    congr 1
  · rw [e]; exact List.pairwise_lt_range'

/-- C01 `exact_delivery_at_idle` (the property as a whole, for one subscription): if moreover at the
    end of the run the broker has gone idle for the connection (its tracker holds no request), then
    what was forwarded through the subscription during the run is EXACTLY the stretch of the filter's
    log from the request's start cursor to the END of the log as it is then — every entry appended to
    the log since, once each, in order, none missing. When the run starts right after the SUBSCRIBE,
    the start cursor is the log's tail at that moment (`subscription_starts_at_tail`): exactly the
    matching messages accepted after the subscription took effect. -/
theorem exact_delivery_at_idle {cfg : Config} (h1 : 1 ≤ cfg.maxSegmentSize) (h2 : 1 ≤ cfg.maxSegmentCount)
    (hpos : 0 < cfg.maxOutgoingPacketCount) {a : Nat} {cid f : String} (ops : List (Op × List Choice))
    {s s2 : RState} {r : DataRequest} (hr : Reachable cfg s) (hrun : run s ops = .ok s2) (hno : NoOverflow s2)
    (hquiet : QuietRun a cid f s ops) (hown : Own s a r) (hf : r.filter = f) (hplain : r.group = none)
    (hidle : ∀ c2, getConn s2 a = some c2 → c2.tracker.requests = []) :
    ∃ fd hist, s2.datalog.native[r.filterIdx]? = some fd ∧ Rep (logC fd.log) hist ∧
      r.cursor.2 ≤ hist.length ∧ runFwd a f s ops = List.range' r.cursor.2 (hist.length - r.cursor.2) := by
  obtain ⟨r2, o2, f2, g2, i2, e, ec⟩ := delivery_is_prefix h1 h2 hpos ops hr hrun hno hquiet hown hf hplain
  have hr2 : Reachable cfg s2 := by
    obtain ⟨ops0, h0⟩ := hr
    exact ⟨ops0 ++ ops, by rw [run_append ops0 ops _ _ h0]; exact hrun⟩
  rcases own_tracked_or_parked h1 h2 hpos hr2 hno o2 with ⟨c2, hc2, hm⟩ | ⟨fd, hist, _, hfd, hrep, _, _, _, hend⟩
  · rw [hidle c2 hc2] at hm; cases hm
  · have hlen : r2.cursor.2 = hist.length := by rw [(hend g2).2, hrep.nextAbs_eq]
    refine ⟨fd, hist, by rw [← i2]; exact hfd, hrep, by omega, ?_⟩
    rw [show hist.length - r.cursor.2 = (runFwd a f s ops).length by omega]; exact e

/-- C01 "after that subscription took effect", the request: the data request `prepare_filter` tracks
    for a NEW subscription `f` of connection `id` (how the SUBSCRIBE loop calls it: with the index and
    cursor `next_native_offset` returned for the filter's path) is owned by the connection afterwards,
    and its cursor is the tail of the filter's log at that moment: retained, at offset
    `hist.length`. This is the request — and the start cursor — `delivery_is_prefix` and
    `exact_delivery_at_idle` speak about for a run that starts here. -/
theorem subscribe_request_starts_at_tail (s s' : RState) (hi : DLInv s) (id : Nat) (f : SubFilter) (subId : Option Nat)
    (hnew : ∀ c, getConn s id = some c → f.path ∉ c.subscriptions)
    (h : prepareFilter (nextNativeOffset s (sfFilter f.path)).1 id (nextNativeOffset s (sfFilter f.path)).2.2
      (nextNativeOffset s (sfFilter f.path)).2.1 f (sfGroup f.path) subId = .ok s') :
    ∃ r fd hist, Own s' id r ∧ r.filter = f.path ∧ r.group = (extractGroup f.path).map (·.1) ∧
      s'.datalog.native[r.filterIdx]? = some fd ∧ fd.filter = sfFilter f.path ∧ Rep (logC fd.log) hist ∧
      Issued (logC fd.log) r.cursor ∧ (logC fd.log).head ≤ r.cursor.1 ∧ r.cursor.2 = hist.length := by
  obtain ⟨o, n, _, _, _⟩ := prepareFilter_own h
  obtain ⟨fd, hist, hfd, hff, hrep, hiss, hhead, hlen⟩ := subscription_starts_at_tail s (sfFilter f.path) hi
  have hsub : f.path ∉ subsOf (nextNativeOffset s (sfFilter f.path)).1 id := by
    rw [(nextNativeOffset_oeq s (sfFilter f.path)).subs]
    exact fun h => let ⟨c, hc, hf⟩ := mem_subsOf.mp h; hnew c hc hf
  refine ⟨pfReq (nextNativeOffset s (sfFilter f.path)).2.1 f (nextNativeOffset s (sfFilter f.path)).2.2 (sfGroup f.path),
    fd, hist, (o id _).mpr (.inr ⟨rfl, rfl, hsub⟩), rfl, rfl, by rw [n]; exact hfd, hff, hrep, hiss, hhead, hlen⟩

/-- the no-overflow bound follows from small next offsets (what one checks on a concrete state) -/
theorem noOverflow_of_nextAbs {s : RState}
    (h : ∀ fd ∈ s.datalog.native, (logC fd.log).nextAbs + (MAX_INFLIGHT + s.config.maxOutgoingPacketCount) < U64) :
    NoOverflow s := fun fd hfd hist hrep => by rw [← hrep.nextAbs_eq]; exact h fd hfd

/-- non-vacuity of the `_reachable` theorems: a reachable state below the bound in which a connection
    tracks a request (CONNECT, SUBSCRIBE `t`, DeviceData) -/
example : ∃ s, Reachable ⟨10, 1024, 2, 10, .roundRobin⟩ s ∧ NoOverflow s ∧
    ∃ c req, getConn s 0 = some c ∧ req ∈ c.tracker.requests :=
  ⟨_, Reachable.ofX [(.connect ⟨0, "a", true, false, 0, none⟩, []), (.push 0 (.subscribe 1 none [⟨"t", 0⟩]), []),
         (.event 0 .deviceData, [])] rfl,
    noOverflow_of_nextAbs (by decide), _, ⟨"t", 0, 0, (0, 0), true, none⟩, rfl, by decide⟩

/-- non-vacuity of `quiescent_complete` / `parked_at_end` (kernel-evaluated): after CONNECT, SUBSCRIBE `t`,
    DeviceData and one `consume` (the sweep finds the log empty, reports `FilterCaughtup`, the
    request is parked, the connection pauses `Caughtup`) the state is reachable, below the bound, the
    connection is subscribed to `t`, its tracker is empty and the request is parked on log 0 at the
    log's end `(0, 0)` -/
example : ∃ s, Reachable ⟨10, 1024, 2, 10, .roundRobin⟩ s ∧ NoOverflow s ∧
    ∃ c, getConn s 0 = some c ∧ c.tracker.requests = [] ∧ c.tracker.status = .paused .caughtup ∧ "t" ∈ c.subscriptions ∧
      (s.datalog.native.map (fun fd => fd.waiters.map (fun w => (w.1, w.2.filter, w.2.cursor)))) = [[(0, "t", (0, 0))]] :=
  ⟨_, Reachable.ofX [(.connect ⟨0, "a", true, false, 0, none⟩, []), (.push 0 (.subscribe 1 none [⟨"t", 0⟩]), []),
         (.event 0 .deviceData, []), (.consume, [.retained []])] rfl,
    noOverflow_of_nextAbs (by decide), _, rfl, by decide, by decide, by decide, by decide⟩

/-- non-vacuity of `delivery_is_prefix`: its assumptions on a run (`QuietRun`) reduce, for the empty run,
    to `Stays` in the start state; longer runs add the per-op conditions (`quietRun_spec`). Runs that
    forward log entries cannot be kernel-evaluated (accepting a publish needs `String.fromUTF8?`); the
    theorem quantifies over all runs. -/
example (a : Nat) (cid f : String) (s : RState) (h : Stays a cid f s) : QuietRun a cid f s [] := h

/-- non-vacuity on a concrete state (kernel-evaluated): client `a` holds a non-shared request for
    filter `t` at cursor `(0, 0)`; the filter's log has one entry. The sweep forwards exactly that
    entry to `a`'s link, hands back the continuation cursor `(0, 1)` and reports `FilterCaughtup`.
    (Runs that accept a publish cannot be kernel-evaluated: `String.fromUTF8?` does not reduce in
    the kernel within reasonable memory.) -/
example :
    (match forwardDeviceData
        { config := ⟨10, 1024, 2, 10, .roundRobin⟩, links := [{}],
          conns := ⟨[some { clientId := "a", link := 0, clean := true, dynamicFilters := false, tracker := { id := "a" } }], []⟩,
          datalog := { native := [{ filter := "t", log := ((CLog.Log.new 1024 2).append (⟨0, 0, false, false, [116], [1], none, [], false⟩ : Pub) 6).1 }],
                       filterIndexes := [("t", 0)] } }
        0 ⟨"t", 0, 0, (0, 0), false, none⟩ with
     | .ok (s', r', st) => decide (st = .filterCaughtup ∧ (getLink s' 0).obuf.length = 1 ∧ r'.cursor = (0, 1))
     | .error _ => false) = true := by decide

/-- non-vacuity on a concrete reachable run (kernel-evaluated): after CONNECT, SUBSCRIBE `t` and the
    handling of the packet, the filter `t` has log index 0 and the connection tracks one request
    standing at the log's tail -/
example :
    (match run (init ⟨10, 1024, 2, 10, .roundRobin⟩)
        [(.connect ⟨0, "a", true, false, 0, none⟩, []), (.push 0 (.subscribe 1 none [⟨"t", 0⟩]), []),
         (.event 0 .deviceData, [])] with
     | .ok s =>
       (match getConn s 0 with
        | some c => decide (s.datalog.filterIndexes = [("t", 0)] ∧ s.datalog.native.length = 1 ∧
            c.tracker.requests.map (fun r => (r.filter, r.filterIdx, r.cursor, r.group)) = [("t", 0, (0, 0), none)])
        | none => false)
     | .error _ => false) = true := by rw [run_eq_runX]; decide


def exCfg : Config := ⟨10, 1024, 2, 10, .roundRobin⟩
def exOps0 : List (Op × List Choice) :=
  [(.connect ⟨0, "a", true, false, 0, none⟩, []), (.push 0 (.subscribe 1 none [⟨"t", 0⟩]), []), (.event 0 .deviceData, [])]
/-- the state after CONNECT, SUBSCRIBE `t`, DeviceData -/
def exS : RState := match runX (init exCfg) exOps0 with | .ok s => s | .error _ => init exCfg
/-- and after one `consume` -/
def exS2 : RState := match stepX { exS with oracle := [.retained []] } .consume with | .ok (s, _) => s | .error _ => init exCfg

theorem exS_run : runX (init exCfg) exOps0 = .ok exS := by rfl
theorem exS2_step : ∃ out, stepX { exS with oracle := [.retained []] } .consume = .ok (exS2, out) := ⟨_, by rfl⟩

theorem stays_of_heads {a : Nat} {cid f : String} {t : RState} (hl : (getConn t a).map (·.clientId) = some cid)
    (hh : t.datalog.native.all (fun fd => fd.log.head == 0) = true) : Stays a cid f t := by
  refine ⟨?_, fun r _ _ fd hfd => ?_⟩
  · cases hc : getConn t a with
    | none => rw [hc] at hl; cases hl
    | some c => rw [hc] at hl; exact ⟨c, rfl, by simpa using hl⟩
  · have := List.all_eq_true.mp hh fd (List.mem_of_getElem? hfd)
    have e : (logC fd.log).head = 0 := by
      have : fd.log.head = 0 := by simpa using this
      exact this
    rw [e]; exact Nat.zero_le _

/-- the assumptions of `delivery_is_prefix` hold for the run `[consume]` from the reachable state `exS`,
    in which connection 0 (client `a`) owns the request of its subscription `t`; the run ends below
    the no-overflow bound -/
example : Reachable exCfg exS ∧ QuietRun 0 "a" "t" exS [(.consume, [.retained []])] ∧
    (∃ r, Own exS 0 r ∧ r.filter = "t" ∧ r.group = none) ∧
    ∃ s2, run exS [(.consume, [.retained []])] = .ok s2 ∧ NoOverflow s2 := by
  obtain ⟨out, hstep⟩ := exS2_step
  refine ⟨Reachable.ofX exOps0 exS_run, ⟨stays_of_heads (by decide) (by decide), trivial, fun s' o h => ?_⟩,
    ⟨⟨"t", 0, 0, (0, 0), true, none⟩, .inl ⟨_, rfl, by decide⟩, rfl, rfl⟩, exS2, ?_, noOverflow_of_nextAbs (by decide)⟩
  · rw [step_eqX, hstep] at h
    simp only [Except.ok.injEq, Prod.mk.injEq] at h
    obtain ⟨rfl, _⟩ := h
    exact stays_of_heads (by decide) (by decide)
  · simp only [run, step_eqX, hstep]

end C01
