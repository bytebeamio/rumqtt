/-
C12 — Topic-filter matching and validation follow the MQTT rules in every copy.
The model (`Model/Topic.lean`) follows the Rust text; the spec (`Model/TopicSpec.lean`) is
written on level lists independently of it. The three Rust copies are each compared with
this one model by the correspondence check (`vh topic`), so agreement of the copies follows.
-/
import Proofs.Lemmas.Topic
namespace C12
open Topic

/-- C12.1 On every valid topic and valid filter, `matches` returns exactly the MQTT answer
    (with the `$` house rule). All strings, any Unicode. -/
theorem matches_spec (t f : Str) (ht : validTopic t = true) (hf : validFilterB f = true) :
    matchesImpl t f = true ↔ MatchesSpec t f := by
  have hT := (validTopic_iff t).mp ht
  have hF := ((validFilterB_iff f).mp hf).2
  unfold matchesImpl MatchesSpec
  by_cases hd : t.head? = some '$'
  · simp [hd]
  · simp only [hd, if_false, ne_eq, not_false_eq_true, true_and]
    exact matchLoop_iff _ _ hT hF

/-- C12.2a The broker's validator accepts exactly the valid filters. -/
theorem validFilter_broker_spec (f : Str) : validFilterB f = true ↔ ValidFilter f :=
  validFilterB_iff f

/-- C12.2b The client's validator (written differently: reverse iteration) computes the same
    function as the broker's, hence also the spec. -/
theorem validFilter_copies_agree (f : Str) : validFilterC f = validFilterB f :=
  validFilterC_eq_B f

theorem validFilter_client_spec (f : Str) : validFilterC f = true ↔ ValidFilter f := by
  rw [validFilterC_eq_B]; exact validFilterB_iff f

/-- C12.2c Topic names contain no wildcard in any level. -/
theorem validTopic_spec (t : Str) : validTopic t = true ↔ ValidTopic t := validTopic_iff t

/-- `has_wildcards` is the negation of `valid_topic`. -/
theorem hasWildcards_spec (t : Str) : hasWildcards t = !validTopic t := by
  simp [hasWildcards, validTopic]

/-- C12.4 A topic whose first character is `$` is matched by no filter whatsoever. -/
theorem dollar_rule (t f : Str) (h : t.head? = some '$') : matchesImpl t f = false := by
  simp [matchesImpl, h]

/-- consequences read off the spec: `+` is exactly one level, `#` matches the parent too -/
theorem plus_exactly_one_level (t : Level) (ts : List Level) :
    Matches (t :: ts) [['+']] ↔ ts = [] := by
  constructor
  · intro h
    cases h with
    | plus h => cases h; rfl
    | lit h _ _ => exact absurd rfl h
  · intro h; subst h; exact Matches.plus Matches.nil

theorem hash_matches_parent_and_below (p rest : List Level) (hp : ∀ l ∈ p, LevelPlain l) :
    Matches (p ++ rest) (p ++ [['#']]) := by
  induction p with
  | nil => exact Matches.hash _
  | cons a as ih =>
    have ha : LevelPlain a := hp a (by simp)
    exact Matches.lit (plain_ne_plus ha) (plain_ne_hash ha) (ih (fun l hl => hp l (by simp [hl])))

/-- C12.3 `preFixPanics` describes the byte slice `topic[..1]`: a `$` test written with it panics
    exactly on topics whose first character is multi-byte, such as `é/a`; `matches` tests
    `starts_with('$')`. The model is a total function, so "never panics" for the Rust is decided by
    the correspondence check. -/
theorem prefix_panic_witness : preFixPanics "é/a".toList = true := by decide +kernel

/- non-vacuity: concrete valid inputs on both sides of the iff -/
example : validTopic "a/é/c".toList = true ∧ validFilterB "a/+/#".toList = true ∧
    matchesImpl "a/é/c".toList "a/+/#".toList = true := by decide +kernel
example : validTopic "a/b".toList = true ∧ validFilterB "a/+/c".toList = true ∧
    matchesImpl "a/b".toList "a/+/c".toList = false := by decide +kernel
example : validFilterB "a/#/c".toList = false ∧ validFilterC "a+/b".toList = false := by decide +kernel

end C12
