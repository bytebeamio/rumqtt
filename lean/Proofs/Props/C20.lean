/-
C20 — "A message published through a listener of one protocol version is delivered to matching
subscribers connected through a listener of the other version with the same topic and payload;
MQTT 5 properties are dropped towards 3.1.1 subscribers and preserved towards MQTT 5 subscribers.
Every notification the routing core emits towards a connection can be encoded by that connection's
protocol without error or panic."
Model: `Model/Encode.lean` (`Notification → Packet → Protocol::write`) over the codec models
(`Model/Codec/V4.lean`, `V5.lean`, tied to the four codec copies by C04) and the router model's
forward construction (`Router.mkForward`, alias gate of `Router.forwardDeviceData`). `Emittable v extra n`: `n` is a notification form the
router model puts into the buffer of a connection of version `v`, with the value ranges of the
Rust field types; `extra` = the pass-through properties of the stored publish.
-/
import Proofs.Lemmas.Encode
import Proofs.Props.C04
import Proofs.Lemmas.Router.Rp16_Emittable
import Proofs.Lemmas.Router.Rp17_EmittableInv
import Proofs.Lemmas.Router.Rp18_IbufInv
namespace C20
open Encode Codec Admission

/-- C20 clause 1 towards an MQTT 5 subscriber: the bytes decode, in the CLIENT crate's v5 codec, to
    a PUBLISH with the forward's topic and payload and exactly the forward's properties — the
    publisher's pass-through properties, the broker's alias, the subscription identifiers (an
    all-empty properties struct is the same wire value as none). -/
theorem cross_version_content_v5 (extra : Props) (p : Router.Pub) (c : Option Router.Cursor)
    (h : Emittable .v5 extra (.forward p c) = true) :
    ∃ out, write .v5 (ofNotif extra (.forward p c)) = .ok out ∧
      ∀ max r, out.length ≤ max →
        V5.decode .client max (out ++ r) =
          .packet (.publish p.dup (qosOf p.qos) p.retain p.topic (if p.qos = 0 then 0 else p.pkid)
                    p.payload (match forwardProps p extra with | some [] => none | x => x)) r := by
  simp only [Emittable, Bool.and_true] at h
  have hf := pubOk_facts h
  have hn : (match forwardProps p extra with | some [] => none | x => x)
      = normProps (forwardProps p extra) := by
    cases forwardProps p extra with
    | none => rfl
    | some ps => cases ps <;> rfl
  rw [hn]
  obtain ⟨out, h1, h2⟩ := C04.v5_interop_broker_to_client _ (forward_wf_v5 .broker hf)
    (forward_wf_v5 .client hf)
  refine ⟨out, ?_, h2⟩
  simp only [ofNotif, write, DNotif.toPacket, protocolWrite]
  rw [v5_encode_publish_norm, pkid_norm]
  exact h1

/-- C20 clause 2, MQTT 5 connections: every notification the routing core emits towards a v5
    connection is written without error or panic (forwards with any subset of the publish
    properties, broker topic alias, subscription identifiers; every acknowledgement; every
    disconnect reason; `Unschedule` and `Shadow` produce no packet). -/
theorem router_emits_encodable_v5 (extra : Props) (n : Router.Notif)
    (h : Emittable .v5 extra n = true) : encodable .v5 (ofNotif extra n) = true := by
  cases n with
  | forward p c =>
    obtain ⟨out, h1, _⟩ := cross_version_content_v5 extra p c h
    exact encodable_of_ok (out := out) h1
  | ack a =>
    -- `write .v5` of an ack unfolds to `V5.encode .broker` of its packet (likewise below, and for v4)
    obtain ⟨out, h1⟩ := ack_ok_v5 a h
    exact encodable_of_ok (out := out) h1
  | unschedule => rfl
  | disconnect r =>
    obtain ⟨out, h1⟩ := disconnect_ok_v5 .broker (discReasonOf r)
    exact encodable_of_ok (out := out) h1
  | shadow t m => rfl

/-- C20 clause 2, MQTT 3.1.1 connections, full strength: every notification the routing core emits
    towards a v4 connection is written without error or panic — also a forward whose stored publish
    carries MQTT 5 properties (published through a v5 listener, or a will with will properties):
    `V4::write` drops them. -/
theorem router_emits_encodable_v4 (extra : Props) (n : Router.Notif)
    (h : Emittable .v4 extra n = true) : encodable .v4 (ofNotif extra n) = true := by
  cases n with
  | forward p c =>
    simp only [Emittable, Bool.and_eq_true] at h
    have hf := pubOk_facts h.1
    obtain ⟨out, h1, _⟩ := C04.v4_roundtrip .broker _ (forward_wf_v4 .broker hf (by intro hk; cases hk))
    apply encodable_of_ok (out := out)
    rw [v4_write_forward]
    exact h1
  | ack a =>
    obtain ⟨out, h1⟩ := ack_ok_v4 a h
    exact encodable_of_ok (out := out) h1
  | unschedule => rfl
  | disconnect r =>
    obtain ⟨out, h1⟩ := disconnect_ok_v4 .broker (discReasonOf r)
    exact encodable_of_ok (out := out) h1
  | shadow t m => rfl

/-- a stored publish with properties towards a v4 connection is written as the plain 3.1.1 PUBLISH
    (`V4::write` has an arm for `Packet::Publish(publish, Some(_))` and drops the properties) -/
example :
    Emittable .v4 [] (.forward { qos := 0, pkid := 0, retain := false, dup := false,
                                  topic := [116], payload := [109], hasProps := true } none) = true ∧
    (write .v4 (ofNotif [] (.forward { qos := 0, pkid := 0, retain := false, dup := false,
                                       topic := [116], payload := [109], hasProps := true } none))).toOption
      = some [0x30, 4, 0, 1, 116, 109] := by
  refine ⟨by decide, ?_⟩
  rw [v4_write_forward]
  simp [qosOf, V4.encode, V4.encParts, V4.encPublish, V4.publishLen, V4.publishByte1, boolBit,
    QoS.toNat, encBytes16, frame, encVarint, encVarintLoop_lt128, remainingLimit, encU16, u8,
    Except.toOption]

/-- what a forward looks like when the router has built it from the stored publish `p0`
    (`forward_device_data`): payload, retain flag and dup flag of the stored publish, the
    subscription's QoS, the stored topic unless an existing broker alias replaces it -/
theorem forward_keeps_content (qos : Nat) (alias : Option Nat) (existed : Bool) (subId : Option Nat)
    (p0 : Router.Pub) :
    (Router.mkForward qos alias existed subId p0).payload = p0.payload ∧
    (Router.mkForward qos alias existed subId p0).topic = (if existed then [] else p0.topic) ∧
    (Router.mkForward qos alias existed subId p0).hasProps
      = (p0.hasProps || alias.isSome || subId.isSome) ∧
    (Router.mkForward qos none false none p0).topic = p0.topic := by
  rw [Router.mkForward_eq, Router.mkForward_eq]; exact ⟨rfl, rfl, rfl, rfl⟩

/-- C20 clause 1 towards a 3.1.1 subscriber: the bytes a v4 link writes for a forward — whether or
    not the stored publish carries MQTT 5 properties — decode, in the CLIENT crate's v4 codec, to a
    PUBLISH with the forward's topic and payload; the properties are dropped (that packet format
    has none). Composed with `forward_keeps_content` these are the publisher's topic and payload.
    The topic is UTF-8 (the router checked it). -/
theorem cross_version_content_v4 (extra : Props) (p : Router.Pub) (c : Option Router.Cursor)
    (h : Emittable .v4 extra (.forward p c) = true) (hutf : validUtf8 p.topic = true) :
    ∃ out, write .v4 (ofNotif extra (.forward p c)) = .ok out ∧
      ∀ max r, out.length ≤ max →
        V4.decode .client max (out ++ r) =
          .packet (.publish p.dup (qosOf p.qos) p.retain p.topic (if p.qos = 0 then 0 else p.pkid)
                    p.payload none) r := by
  simp only [Emittable, Bool.and_eq_true] at h
  have hf := pubOk_facts h.1
  obtain ⟨out, h1, h2⟩ := C04.v4_interop_broker_to_client _
    (forward_wf_v4 .broker hf (by intro hk; cases hk)) (forward_wf_v4 .client hf (fun _ => hutf))
  refine ⟨out, ?_, h2⟩
  rw [v4_write_forward]
  exact h1

/-- the pass-through properties survive towards v5: every property of the stored publish is among
    the forward's properties, and the only additions are the alias (35) and subscription ids (11) -/
theorem v5_properties_preserved (extra : Props) (p : Router.Pub) (hx : extraOk extra = true)
    (hp : p.hasProps = true) :
    ∃ ps, forwardProps p extra = some ps ∧ (∀ q ∈ extra, q ∈ ps) ∧
      (∀ q ∈ ps, q ∈ extra ∨ q.id = 35 ∨ q.id = 11) := by
  refine ⟨V5.normalize V5.publishSpec (fwdList p extra), by simp [forwardProps_eq, hp], ?_, ?_⟩
  · intro q hq
    exact extra_mem_normalize hx hq
  · intro q hq
    exact mem_fwdList (V5.mem_normalize hq).1

/-- a filter without wildcards is matched by exactly one topic -/
theorem no_wildcard_filter_one_topic (t1 t2 f : Topic.Str) (hf : Topic.hasWildcards f = false)
    (h1 : Topic.matchesImpl t1 f = true) (h2 : Topic.matchesImpl t2 f = true) : t1 = t2 := by
  rw [Topic.matchesImpl_no_wildcards hf h1, Topic.matchesImpl_no_wildcards hf h2]

/-- C20 clause 1 with the broker's topic aliases, full strength. The router gives a subscription a
    broker alias only if its filter has no wildcards (`forward_device_data`:
    `has_wildcards(&request.filter)`; model: `Router.forwardDeviceData`), and everything it forwards
    for a subscription matches the filter. Then for two consecutive forwards of ONE subscription
    (the first sweep sets the new alias `a` and sends the topic, a later sweep finds the alias and
    clears the topic) the topic an MQTT 5 client resolves for the second one is the second
    publish's topic. -/
theorem aliased_forwards_keep_topic (filter : String) (qos a : Nat) (subId : Option Nat)
    (p1 p2 : Router.Pub) (t1 t2 : String) (table : List (Nat × Bytes))
    (hgate : Topic.hasWildcards filter.toList = false)
    (hu1 : Router.utf8? p1.topic = some t1) (hu2 : Router.utf8? p2.topic = some t2)
    (hm1 : Router.topicMatches t1 filter = true) (hm2 : Router.topicMatches t2 filter = true)
    (h1 : p1.topic ≠ []) :
    let f1 := Router.mkForward qos (some a) false subId p1
    let f2 := Router.mkForward qos (some a) true subId p2
    (resolveTopic (resolveTopic table f1.topic f1.alias).2 f2.topic f2.alias).1 = some p2.topic := by
  have ht : t1 = t2 :=
    String.toList_inj.mp (no_wildcard_filter_one_topic t1.toList t2.toList filter.toList hgate hm1 hm2)
  subst ht
  have hsame : p1.topic = p2.topic := Router.utf8?_inj hu1 hu2
  simp only [Router.mkForward_eq, Bool.false_eq_true, if_false, if_true, resolveTopic]
  have hne : p1.topic.isEmpty = false := by
    cases h : p1.topic with
    | nil => exact absurd h h1
    | cons _ _ => rfl
  simp only [hne, Bool.false_eq_true, if_false, List.isEmpty_nil, if_true]
  rw [← hsame]
  exact Router.nlookup_ninsert_same a p1.topic table

/-- with the wildcard filter `t/#` the gate is closed — no alias, both messages go out with their full topics — although an
    alias keyed by that filter would confuse `t/a` and `t/b` -/
example :
    Topic.hasWildcards "t/#".toList = true ∧ Topic.hasWildcards "t/a".toList = false ∧
    Topic.matchesImpl "t/a".toList "t/#".toList = true ∧ Topic.matchesImpl "t/b".toList "t/#".toList = true := by
  decide

example : Emittable .v5 [⟨1, .u8 1⟩, ⟨38, .pair [107] [118]⟩]
    (.forward { qos := 1, pkid := 3, retain := false, dup := false, topic := [116], payload := [109],
                alias := some 1, subIds := [7], hasProps := true } none) = true := by decide
example : Emittable .v4 [] (.ack (.suback 3 [0, 1, 2])) = true ∧
    write .v4 (ofNotif [] (.ack (.suback 3 [0, 1, 2]))) = .ok [0x90, 5, 0, 3, 0, 1, 2] := by
  refine ⟨by decide, ?_⟩
  simp [write, ofNotif, ofAck, DNotif.toPacket, DAck.toPacket, protocolWrite, V4.encode, V4.encParts,
    V4.encSubAck, V4.encCodes, V4.subCodeByte, subCodeOf, frame, encVarint, encVarintLoop_lt128,
    remainingLimit, encU16, u8]
example : write .v5 (ofNotif [] (.disconnect "ProtocolError")) = .ok [0xe0, 2, 0x82, 0] := by
  simp [write, ofNotif, discReasonOf, DNotif.toPacket, protocolWrite, V5.encode, V5.encodeRet,
    V5.encDisconnect, V5.disconnectLen, V5.disconnectPlain, V5.encProps, V5.discReasonByte, encVarint,
    encVarintLoop_lt128, remainingLimit, u8]

/-! ### `Emittable` and the router model

Clause 2 of C20 is established for the three producers of link-buffer content one by one — the forwards a sweep builds,
the replies a packet registers together with the flush that writes them, the constant `Unschedule` / `Disconnect` /
`Shadow` — not as one invariant over every element of every reachable link buffer; the theorems whose names end in
`_partial` carry hypotheses that later theorems of this file discharge.

The router model does not record the protocol version of a connection; `Router.versionOf c` reads it off
what the version decides: `v4` iff the connection has no broker aliases (`topic_alias_max = 0` at CONNECT)
and no subscription identifiers. Input ranges: `Router.PacketOk` (u16 packet ids, QoS ≤ 2,
16-bit topic length, subscription identifier in variable-byte range, SUBSCRIBE / UNSUBSCRIBE whose ack fits a
frame), for an op `Router.OpOkC` (a pushed packet is `PacketOk`, a CONNECT has `topic_alias_max < 65536`) or
`Router.OpOkD n` (below); for stored publishes `Router.StoredOk` (no alias, no subscription ids — `append_to_commitlog` strips
/ rejects them —, u16 packet id, 16-bit topic length, properties flagged when there are pass-through
properties) and `Router.FitsForward` (the frame limit, for every forward that can be built from it).
The hypotheses of the sweep theorem are invariants of runs whose ops are in range: every publish a sweep reads — log
entries returned by `readv`, retained messages — is `StoredOk` (`stored_in_range_of_run`, `sweep_reads_stored`), and
`AliasesOk` and the subscription-id range hold of every connection (`ConnsOk`; they follow from `OpOkC` on CONNECT and
`PacketOk` on SUBSCRIBE: `connection_hypotheses_invariant`). -/

/-- C20 (forwards): every notification a sweep builds for connection `c` — `fdOut`, which
    `forward_device_data` pushes to `c`'s link as it is — is `Emittable` for `versionOf c`: packet ids are
    `1..MAX_INFLIGHT` for QoS > 0 and the stored (u16) id for QoS 0, the topic is the stored one or replaced by
    an existing alias ≤ `topic_alias_max`, and towards a v4-like connection no forward carries an alias or a
    subscription identifier -/
theorem sweep_forwards_emittable_partial {c : Router.Conn} {req : Router.DataRequest}
    {pubs : List (Router.Pub × Option Router.Cursor)} {extra : Props}
    (hsrc : ∀ pc ∈ pubs, Router.StoredOk pc.1 extra = true ∧ Router.FitsForward pc.1 extra) (hx : extraOk extra = true)
    (hq : req.qos ≤ 2) (hlast : c.out.lastPkid < Router.MAX_INFLIGHT) (hal : Router.AliasesOk c)
    (hsid : ∀ i, Router.alookup req.filter c.subscriptionIds = some i → i ≤ remainingLimit) :
    ∀ n ∈ (Router.fdOut c req pubs).2, Emittable (Router.versionOf c) extra n = true :=
  Router.fdOut_emittable hsrc hx hq hlast hal hsid

/-- hence they are written without error by the codec of that version -/
theorem sweep_forwards_encodable_partial {c : Router.Conn} {req : Router.DataRequest}
    {pubs : List (Router.Pub × Option Router.Cursor)} {extra : Props}
    (hsrc : ∀ pc ∈ pubs, Router.StoredOk pc.1 extra = true ∧ Router.FitsForward pc.1 extra) (hx : extraOk extra = true)
    (hq : req.qos ≤ 2) (hlast : c.out.lastPkid < Router.MAX_INFLIGHT) (hal : Router.AliasesOk c)
    (hsid : ∀ i, Router.alookup req.filter c.subscriptionIds = some i → i ≤ remainingLimit) :
    ∀ n ∈ (Router.fdOut c req pubs).2, encodable (Router.versionOf c) (ofNotif extra n) = true := by
  intro n hn
  have h := sweep_forwards_emittable_partial hsrc hx hq hlast hal hsid n hn
  cases hv : Router.versionOf c with
  | v4 => rw [hv] at h; exact router_emits_encodable_v4 extra n h
  | v5 => rw [hv] at h; exact router_emits_encodable_v5 extra n h

/-- C20 (acks): a packet in range (`PacketOk`) handled for a live connection leaves every link
    buffer untouched and every ack log in range (`AckLogsOk`: the replies registered are `ackOk`); and the
    flush `ack_device_data` appends exactly the ack log to the connection's own link, every element
    `Emittable` — hence encodable — for either version -/
theorem acks_emittable_partial {s s' : Router.RState} {id : Nat} {cid : String} {pkt : Router.Packet}
    {fl fl' : Router.Flags} (hp : Router.PacketOk pkt = true) (hi : Router.AckLogsOk s)
    (hlive : ∃ c, Router.getConn s id = some c) (h : Router.handlePacket s id cid pkt fl = .ok (s', fl')) :
    s'.links = s.links ∧ Router.AckLogsOk s' ∧
    ∀ j c (v : Admission.Version) (extra : Props), Router.getConn s' j = some c →
      (Router.getLink (Router.ackDeviceData s' j) c.link).obuf =
        (Router.getLink s' c.link).obuf ++ c.acks.committed.map Router.Notif.ack ∧
      ∀ n ∈ c.acks.committed.map Router.Notif.ack, Emittable v extra n = true ∧ encodable v (ofNotif extra n) = true := by
  obtain ⟨h1, h2⟩ := Router.handlePacket_acklogs hp hi hlive h
  refine ⟨h1, h2, fun j c v extra hc => ?_⟩
  obtain ⟨a, b, _⟩ := Router.ackDeviceData_emittable hc h2 v extra
  refine ⟨a, fun n hn => ⟨b n hn, ?_⟩⟩
  cases v with
  | v4 => exact router_emits_encodable_v4 extra n (b n hn)
  | v5 => exact router_emits_encodable_v5 extra n (b n hn)

/-- non-vacuity (kernel-evaluated): a reachable state with a non-empty link buffer — CONNECT, a PINGREQ,
    the DeviceData event and the sweep: the buffer holds the CONNACK and the PINGRESP — all of whose
    elements are `Emittable` for a v4 and for a v5 connection; the pushed packet satisfies `OpOk` -/
example : ∃ s, Router.Reachable ⟨10, 1024, 2, 10, .roundRobin⟩ s ∧
    (Router.getLink s 0).obuf.length = 2 ∧
    (Router.getLink s 0).obuf.all (fun n => Emittable .v4 [] n && Emittable .v5 [] n) = true ∧
    Router.OpOk (.push 0 .pingreq) = true :=
  ⟨_, Router.Reachable.ofX [(.connect ⟨0, "a", true, false, 0, none⟩, []), (.push 0 .pingreq, []),
      (.event 0 .deviceData, []), (.consume, [])] rfl, by decide, by decide, rfl⟩

/-- C20 (the connection-side hypotheses, step form): from a reachable state, one step whose op is in range (`Router.OpOkC`: a pushed
    packet is `PacketOk`, a CONNECT has `topic_alias_max < 65536`), taken while the packets waiting in the
    links' incoming buffers are in range (`Router.IbufOk`), keeps for EVERY connection the connection-side
    hypotheses of `sweep_forwards_emittable_partial` (`Router.ConnsOk`: broker aliases at most
    `topic_alias_max < 65536`, subscription identifiers within the variable-byte range) — through sweeps
    (new aliases), SUBSCRIBE (new subscription identifiers), UNSUBSCRIBE, CONNECT, takeover, disconnection,
    wake-ups. -/
theorem connection_hypotheses_preserved_partial {cfg : Router.Config} {s s' : Router.RState} {ch : List Router.Choice}
    {op : Router.Op} {out : Router.Out} (hr : Router.Reachable cfg s) (h : Router.ConnsOk s) (hib : Router.IbufOk s)
    (hop : Router.OpOkC op = true) (hs : Router.step { s with oracle := ch } op = .ok (s', out)) :
    Router.ConnsOk s' :=
  Router.step_connsOk hr h hib hop hs

/-- C20 (sweep, reachable form): in a reachable state in which the connections satisfy `ConnsOk`, the
    hypotheses of `sweep_forwards_emittable_partial` about the connection are discharged (`lastPkid <
    MAX_INFLIGHT` is an invariant of reachable states, `AliasesOk` and the subscription-id range come from
    `ConnsOk`); what remains is about the DATA: the publishes read are as the router stores them and fit a
    frame (`StoredOk`, `FitsForward` — from the commit-log-contents invariant: `stored_data_hypothesis`), the pass-through
    properties are well formed, the subscription's QoS is ≤ 2 -/
theorem sweep_forwards_emittable_reachable_partial {cfg : Router.Config} {s : Router.RState} (hr : Router.Reachable cfg s)
    (hok : Router.ConnsOk s) {id : Nat} {c : Router.Conn} (hc : Router.getConn s id = some c)
    {req : Router.DataRequest} {pubs : List (Router.Pub × Option Router.Cursor)} {extra : Props}
    (hsrc : ∀ pc ∈ pubs, Router.StoredOk pc.1 extra = true ∧ Router.FitsForward pc.1 extra) (hx : extraOk extra = true)
    (hq : req.qos ≤ 2) :
    ∀ n ∈ (Router.fdOut c req pubs).2,
      Emittable (Router.versionOf c) extra n = true ∧ encodable (Router.versionOf c) (ofNotif extra n) = true := by
  have hout := (Router.Inv1.reachable hr).out id c hc
  have hco := hok id c hc
  intro n hn
  exact ⟨sweep_forwards_emittable_partial hsrc hx hq hout.2.1 hco.1 (hco.sid req.filter) n hn,
    sweep_forwards_encodable_partial hsrc hx hq hout.2.1 hco.1 (hco.sid req.filter) n hn⟩

/-- non-vacuity: the initial state satisfies `ConnsOk` and `IbufOk`, and a CONNECT with `topic_alias_max = 10`
    is in range -/
example : Router.ConnsOk (Router.init ⟨10, 1024, 2, 10, .roundRobin⟩) ∧ Router.IbufOk (Router.init ⟨10, 1024, 2, 10, .roundRobin⟩) ∧
    Router.OpOkC (.connect ⟨0, "a", true, false, 10, none⟩) = true :=
  ⟨Router.ConnsOk.init _, Router.IbufOk.init _, rfl⟩

/-! ### the commit-log-contents invariant

`Router.LogsOk n s`: every publish stored in a commit log of `s.datalog`, every retained message
(`Router.StoredP n`: the `extra`-independent part `Router.StoredCore` of `StoredOk` — no alias, no subscription
identifiers, u16 packet id, 16-bit topic length —, QoS ≤ 2, payload length within the optional bound `n`), every
QoS 2 publish recorded in an ack log until its PUBREL (`Router.InP n`: in input range; the alias is still on it),
every topic in a connection's alias table (16-bit length: a later publish with an empty topic takes it), every
stored will (`Router.WillP n`). Input range: `Router.OpOkD n` = `OpOkC` + payload of a pushed PUBLISH within `n`
+ the will of a CONNECT in the range of its Rust field types (QoS ≤ 2, 16-bit topic length) with payload within
`n`. Beyond `OpOk` / `OpOkC`: the model does not bound payload sizes at `push`, so `FitsForward` cannot
be an invariant without the bound (`n = some m`); and `OpOkC` says nothing about wills. `n = none` drops the bound.
`extra` (the pass-through properties) is not in the model — `Pub.hasProps` records only whether there are any —,
so `StoredOk p extra` is obtained from `StoredP` under `p.hasProps = true ∨ extra = []`. -/

/-- C20 (what is stored, step form): one step whose op is in range, taken while the waiting packets are in range,
    keeps everything stored in range. No reachability hypothesis. -/
theorem stored_in_range_step {n : Option Nat} {s s' : Router.RState} {ch : List Router.Choice} {op : Router.Op}
    {out : Router.Out} (h : Router.LogsOk n s) (hib : Router.IbufOkD n s) (hop : Router.OpOkD n op = true)
    (hs : Router.step { s with oracle := ch } op = .ok (s', out)) : Router.LogsOk n s' ∧ Router.IbufOkD n s' :=
  ⟨Router.step_logsOk h hib hop hs, Router.step_ibufOkD hib hop hs⟩

/-- the same without a payload bound: the hypotheses are those of `connection_hypotheses_preserved_partial`
    (`IbufOk`, `OpOkC`) and the range of the will of a CONNECT -/
theorem stored_in_range_step_unbounded {s s' : Router.RState} {ch : List Router.Choice} {op : Router.Op}
    {out : Router.Out} (h : Router.LogsOk none s) (hib : Router.IbufOk s) (hop : Router.OpOkC op = true)
    (hwill : ∀ spec w, op = .connect spec → spec.will = some w → w.qos ≤ 2 ∧ w.topic.length ≤ 65535)
    (hs : Router.step { s with oracle := ch } op = .ok (s', out)) : Router.LogsOk none s' :=
  Router.step_logsOk_none h hib hop hwill hs

/-- C20 (what is stored and the connection-side hypotheses, over runs): after every error-free run from the initial state all of whose ops are in
    range, everything stored is in range (`LogsOk`), every waiting packet is in range (`IbufOkD`, hence
    `IbufOk` — the hypothesis `hib` of `connection_hypotheses_preserved_partial`), and every connection
    satisfies the connection-side hypotheses (`ConnsOk`) -/
theorem stored_in_range_of_run {n : Option Nat} {cfg : Router.Config} {ops : List (Router.Op × List Router.Choice)}
    {s : Router.RState} (hok : Router.OpsOkD n ops) (h : Router.run (Router.init cfg) ops = .ok s) :
    Router.Reachable cfg s ∧ Router.LogsOk n s ∧ Router.IbufOkD n s ∧ Router.ConnsOk s :=
  Router.inv_of_run hok h

/-- C20 (what a sweep reads): a sweep for a live connection either leaves every link buffer as it is, or is the
    push phase `fdPush` — which appends `(fdOut c req' pubs).2` (and possibly `Unschedule`) to the connection's
    link — for a list `pubs` (the retained replay, then the entries `readv` returned) of stored publishes -/
theorem sweep_reads_stored {n : Option Nat} {s s1 : Router.RState} {id : Nat} {c : Router.Conn}
    {req req1 : Router.DataRequest} {st : Router.ConsumeStatus} (h : Router.LogsOk n s)
    (hc : Router.getConn s id = some c) (hf : Router.forwardDeviceData s id req = .ok (s1, req1, st)) :
    s1.links = s.links ∨
    ∃ s0 req' grp pubs cu, s0 = { s with oracle := s0.oracle } ∧ req'.qos = req.qos ∧
      Router.fdPush s0 id c req' grp pubs cu = .ok (s1, req1, st) ∧ ∀ pc ∈ pubs, Router.StoredP n pc.1 :=
  Router.forwardDeviceData_pubs_stored h hc hf

/-- the DATA hypothesis `hsrc` of `sweep_forwards_emittable_reachable_partial` from `StoredP`: `StoredOk` when
    the publish is flagged as having properties or there are no pass-through properties, `FitsForward` from the
    payload bound `m` and a bound `k` on the encoded length of the pass-through properties -/
theorem stored_data_hypothesis {m k : Nat} {p : Router.Pub} (h : Router.StoredP (some m) p) {extra : Props}
    (hx : p.hasProps = true ∨ extra = []) (hk : V5.propListLen extra ≤ k) (hb : 65551 + k + m ≤ remainingLimit) :
    Router.StoredOk p extra = true ∧ Router.FitsForward p extra :=
  ⟨h.storedOk hx, h.fitsForward hk hb⟩

/-- C20 (sweep, over runs): in a state reached by a run whose ops are in range with payloads ≤ `m`, every
    notification a sweep pushes for a subscription of QoS ≤ 2 is `Emittable` for the version the model attributes
    to the connection, and encodable by that version's codec — no hypothesis about the data is left, except that
    the pass-through properties `extra` attributed to the publishes of the sweep are well formed, encode to ≤ `k`
    bytes, and are attributed only to publishes flagged as having properties -/
theorem sweep_forwards_emittable_of_run {m k : Nat} {cfg : Router.Config} {ops : List (Router.Op × List Router.Choice)}
    {s s1 : Router.RState} (hok : Router.OpsOkD (some m) ops) (hrun : Router.run (Router.init cfg) ops = .ok s)
    {id : Nat} {c : Router.Conn} (hc : Router.getConn s id = some c) {req req1 : Router.DataRequest}
    {st : Router.ConsumeStatus} (hf : Router.forwardDeviceData s id req = .ok (s1, req1, st)) (hq : req.qos ≤ 2)
    {extra : Props} (hx : extraOk extra = true) (hk : V5.propListLen extra ≤ k)
    (hb : 65551 + k + m ≤ remainingLimit) :
    s1.links = s.links ∨
    ∃ s0 req' grp pubs cu, Router.fdPush s0 id c req' grp pubs cu = .ok (s1, req1, st) ∧
      ((∀ pc ∈ pubs, pc.1.hasProps = true ∨ extra = []) →
        ∀ nt ∈ (Router.fdOut c req' pubs).2,
          Emittable (Router.versionOf c) extra nt = true ∧ encodable (Router.versionOf c) (ofNotif extra nt) = true) := by
  obtain ⟨hr, hl, _, hco⟩ := Router.inv_of_run hok hrun
  rcases Router.forwardDeviceData_pubs_stored hl hc hf with h | ⟨s0, req', grp, pubs, cu, _, hq', hp, hst⟩
  · exact .inl h
  · refine .inr ⟨s0, req', grp, pubs, cu, hp, fun hprops => ?_⟩
    exact sweep_forwards_emittable_reachable_partial hr hco hc
      (fun pc hpc => stored_data_hypothesis (hst pc hpc) (hprops pc hpc) hk hb) hx (by rw [hq']; exact hq)

/-- with no pass-through properties nothing is left but the QoS of the subscription -/
theorem sweep_forwards_emittable_of_run_plain {m : Nat} {cfg : Router.Config} {ops : List (Router.Op × List Router.Choice)}
    {s s1 : Router.RState} (hok : Router.OpsOkD (some m) ops) (hrun : Router.run (Router.init cfg) ops = .ok s)
    {id : Nat} {c : Router.Conn} (hc : Router.getConn s id = some c) {req req1 : Router.DataRequest}
    {st : Router.ConsumeStatus} (hf : Router.forwardDeviceData s id req = .ok (s1, req1, st)) (hq : req.qos ≤ 2)
    (hb : 65551 + m ≤ remainingLimit) :
    s1.links = s.links ∨
    ∃ s0 req' grp pubs cu, Router.fdPush s0 id c req' grp pubs cu = .ok (s1, req1, st) ∧
      ∀ nt ∈ (Router.fdOut c req' pubs).2,
        Emittable (Router.versionOf c) [] nt = true ∧ encodable (Router.versionOf c) (ofNotif [] nt) = true := by
  rcases sweep_forwards_emittable_of_run (k := 0) (extra := []) hok hrun hc hf hq (by decide) (by decide) (by omega) with h | ⟨s0, req', grp, pubs, cu, hp, h⟩
  · exact .inl h
  · exact .inr ⟨s0, req', grp, pubs, cu, hp, h fun _ _ => .inr rfl⟩

/-- non-vacuity (kernel-evaluated): a run whose ops are in range with payloads ≤ 1024 — a CONNECT with a will, a
    QoS 2 PUBLISH, the DeviceData event — after which the publish is recorded in the connection's ack log and the
    will is stored; by `stored_in_range_of_run` both are in range. (A publish reaching a filter log or the
    retained map goes through `String.fromUTF8?`, which the kernel cannot reduce; see the evaluated check below.) -/
example : ∃ s, Router.run (Router.init ⟨10, 1024, 2, 10, .roundRobin⟩)
      [(.connect ⟨0, "a", true, false, 0, some ⟨[119], [1], 1, false⟩⟩, []),
       (.push 0 (.publish ⟨2, 7, false, false, [116], [109], none, [], false⟩), []),
       (.event 0 .deviceData, [])] = .ok s ∧
    Router.OpsOkD (some 1024)
      [(.connect ⟨0, "a", true, false, 0, some ⟨[119], [1], 1, false⟩⟩, []),
       (.push 0 (.publish ⟨2, 7, false, false, [116], [109], none, [], false⟩), []),
       (.event 0 .deviceData, [])] ∧
    (Router.getConn s 0).map (fun c => c.acks.recorded) = some [⟨2, 7, false, false, [116], [109], none, [], false⟩] ∧
    s.lastWills = [("a", ⟨[119], [1], 1, false⟩)] :=
  ⟨_, by rw [Router.run_eq_runX]; rfl, by unfold Router.OpsOkD; decide, by decide, by decide⟩

/-- the run stores a publish in a filter log and in the retained map (evaluated, not kernel-checked) -/
def storeOps : List (Router.Op × List Router.Choice) :=
  [(.connect ⟨0, "a", true, false, 0, none⟩, []),
   (.push 0 (.subscribe 1 none [⟨"t", 1⟩]), []), (.event 0 .deviceData, []),
   (.push 0 (.publish ⟨0, 0, true, false, "t".toUTF8.toList, [109], none, [], false⟩), []),
   (.event 0 .deviceData, [.matches [0]])]

#guard storeOps.all (fun o => Router.OpOkD (some 1024) o.1)   -- `OpsOkD (some 1024) storeOps`
#guard match Router.run (Router.init ⟨10, 1024, 2, 10, .roundRobin⟩) storeOps with
  | .ok s => s.datalog.native.map (fun fd => Router.logItems fd.log) ==
               [[⟨0, 0, false, false, "t".toUTF8.toList, [109], none, [], false⟩]] &&
             s.datalog.retained.map (·.2) == [⟨0, 0, true, false, "t".toUTF8.toList, [109], none, [], false⟩]
  | .error _ => false

/-! ### the connection-side hypotheses as an invariant of runs in range

The incoming-buffer / connection invariants through the relation `IbufSub` (the frame pass over every function
reachable from `step`), with the producer statement `incoming_buffer_producer`. -/

/-- C20 (the incoming buffers, step form): a packet waiting in a link's incoming
    buffer after a step was waiting in that link's buffer before the step, or it is the packet this step pushed
    to that link (`Router.step (.push l p)` is the only producer; CONNECT starts from an empty link, DeviceData
    takes the batch out, nothing else touches an incoming buffer) -/
theorem incoming_buffer_producer {s s' : Router.RState} {op : Router.Op} {out : Router.Out}
    (hs : Router.step s op = .ok (s', out)) :
    ∀ l, ∀ p ∈ (Router.getLink s' l).ibuf, p ∈ (Router.getLink s l).ibuf ∨ op = .push l p :=
  Router.step_ibuf_cases hs

/-- C20 (the incoming buffers in range, step form): one step whose op is in range (`Router.OpOkC`) keeps the
    packets waiting in the links' incoming buffers in range (`Router.IbufOk`) — the hypothesis `hib` of
    `connection_hypotheses_preserved_partial` -/
theorem incoming_buffers_preserved {s s' : Router.RState} {ch : List Router.Choice} {op : Router.Op} {out : Router.Out}
    (hib : Router.IbufOk s) (hop : Router.OpOkC op = true)
    (hs : Router.step { s with oracle := ch } op = .ok (s', out)) : Router.IbufOk s' :=
  Router.step_ibufOk_oracle hib hop hs

/-- C20 (the connection-side hypotheses, run form): after EVERY error-free run from the initial state all of whose ops
    are in range (`Router.OpsOk`: every pushed packet is `PacketOk`, every CONNECT has `topic_alias_max < 65536`), the packets
    waiting in the links' incoming buffers are in range (`Router.IbufOk`) and every connection satisfies the
    connection-side hypotheses of `sweep_forwards_emittable_partial` (`Router.ConnsOk`: broker aliases at most
    `topic_alias_max < 65536`, subscription identifiers within the variable-byte range) -/
theorem connection_hypotheses_invariant {cfg : Router.Config} {ops : List (Router.Op × List Router.Choice)}
    {s : Router.RState} (hrun : Router.run (Router.init cfg) ops = .ok s) (hops : Router.OpsOk ops) :
    Router.IbufOk s ∧ Router.ConnsOk s :=
  Router.reachableOk_ibufOk_connsOk hrun hops

/-- the same for `Router.ReachableOk cfg s` (reachable by a run whose ops are all in range), which is closed
    under steps in range and implies `Router.Reachable cfg s` -/
theorem connection_hypotheses_reachableOk {cfg : Router.Config} {s : Router.RState} (hr : Router.ReachableOk cfg s) :
    Router.Reachable cfg s ∧ Router.IbufOk s ∧ Router.ConnsOk s :=
  ⟨hr.reachable, hr.ibufOk, hr.connsOk⟩

/-- C20 (sweep, run form for runs in range `OpsOk`, without a payload bound): after every error-free run whose ops
    are all in range, every notification a sweep builds for a live connection `c` (`fdOut`, which
    `forward_device_data` pushes to `c`'s link as it is) is `Emittable` for `versionOf c` and is written without error
    by the codec of that version, PROVIDED the publishes read are as the router stores them and fit a frame (`StoredOk`,
    `FitsForward`), the pass-through properties are well formed and the subscription's QoS is ≤ 2. No hypothesis about
    the connection or the state (`ConnsOk` by `connection_hypotheses_invariant`, `lastPkid < MAX_INFLIGHT` by
    `Inv1.reachable`). With a payload bound in the range of the ops, `sweep_forwards_emittable_of_run` above has no
    hypothesis about the data either. -/
theorem sweep_forwards_emittable_run_partial {cfg : Router.Config} {ops : List (Router.Op × List Router.Choice)}
    {s : Router.RState} (hrun : Router.run (Router.init cfg) ops = .ok s) (hops : Router.OpsOk ops)
    {id : Nat} {c : Router.Conn} (hc : Router.getConn s id = some c)
    {req : Router.DataRequest} {pubs : List (Router.Pub × Option Router.Cursor)} {extra : Props}
    (hsrc : ∀ pc ∈ pubs, Router.StoredOk pc.1 extra = true ∧ Router.FitsForward pc.1 extra) (hx : extraOk extra = true)
    (hq : req.qos ≤ 2) :
    ∀ n ∈ (Router.fdOut c req pubs).2,
      Emittable (Router.versionOf c) extra n = true ∧ encodable (Router.versionOf c) (ofNotif extra n) = true :=
  sweep_forwards_emittable_reachable_partial ⟨ops, hrun⟩ (connection_hypotheses_invariant hrun hops).2 hc hsrc hx hq

/-- non-vacuity (kernel-evaluated): a concrete non-empty error-free run whose ops are all in range — CONNECT
    with `topic_alias_max = 10`, a SUBSCRIBE with subscription identifier 5 and a PINGREQ pushed to the link
    (see the next example: two packets then wait in the incoming buffer), the DeviceData event (the buffer is
    empty again, the subscription identifier is recorded), the sweep (CONNACK, SUBACK, PINGRESP in the outgoing
    buffer) — so `connection_hypotheses_invariant` and `sweep_forwards_emittable_run_partial` apply to its end
    state, which has a live connection with broker aliases and a subscription identifier -/
example : ∃ s,
    Router.run (Router.init ⟨10, 1024, 2, 10, .roundRobin⟩)
      [(.connect ⟨0, "a", true, false, 10, none⟩, []), (.push 0 (.subscribe 1 (some 5) [⟨"t", 1⟩]), []),
       (.push 0 .pingreq, []), (.event 0 .deviceData, []), (.consume, [.retained []])] = .ok s ∧
    Router.OpsOk
      [(.connect ⟨0, "a", true, false, 10, none⟩, []), (.push 0 (.subscribe 1 (some 5) [⟨"t", 1⟩]), []),
       (.push 0 .pingreq, []), (.event 0 .deviceData, []), (.consume, [.retained []])] ∧
    (Router.getLink s 0).ibuf.length = 0 ∧ (Router.getLink s 0).obuf.length = 3 ∧
    ((Router.getConn s 0).map (fun c => (c.brokerAliases.map (·.max), c.subscriptionIds))) = some (some 10, [("t", 5)]) :=
  ⟨_, by rw [Router.run_eq_runX]; rfl, by decide, by decide, by decide, by decide⟩

/-- non-vacuity of `IbufOk` itself: after the first three ops of that run two packets wait in the link's
    incoming buffer (and `connection_hypotheses_invariant` says they are in range) -/
example : ∃ s,
    Router.run (Router.init ⟨10, 1024, 2, 10, .roundRobin⟩)
      [(.connect ⟨0, "a", true, false, 10, none⟩, []), (.push 0 (.subscribe 1 (some 5) [⟨"t", 1⟩]), []),
       (.push 0 .pingreq, [])] = .ok s ∧
    Router.OpsOk
      [(.connect ⟨0, "a", true, false, 10, none⟩, []), (.push 0 (.subscribe 1 (some 5) [⟨"t", 1⟩]), []),
       (.push 0 .pingreq, [])] ∧
    (Router.getLink s 0).ibuf.length = 2 :=
  ⟨_, by rw [Router.run_eq_runX]; rfl, by decide, by decide⟩

end C20
