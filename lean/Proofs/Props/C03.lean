/-
C03 — No client behaviour can crash or halt the broker's routing core.
The model makes every Rust panic site an explicit `Fail.panic`. The global theorems quantify over
every reachable state (`Reachable cfg s`: the state after any error-free list of ops — connect /
push / event / consume / drain for arbitrary ids, packets and oracles — from `init cfg`), every
next op and every oracle. Proved from the invariants of Proofs/Lemmas/Router/Rp1_*.lean
(slab / connection-map consistency, valid filter indexes everywhere, live ids in waiter lists,
`Paused(Busy)` saved trackers, non-empty shared groups, no pending notification between steps) and request conservation
(Rp4_NoPanic.lean).
Rust panic-freedom itself is additionally decided by the correspondence: every op of `vh router`
runs under catch_unwind.
-/
import Proofs.Lemmas.Router.Base.Local
import Proofs.Lemmas.Router.Rp1_DConnect
import Proofs.Lemmas.Router.Rp4_NoPanic
namespace C03
open Router

/-- a Disconnect event (or a router-initiated close) never panics, whatever the id: live,
    never registered or already removed — in every reachable state (under any oracle): the wake-up
    of the parked members of the shared groups whose turn passed on (`wake_parked`) finds the tracker
    of every parked request, because waiter lists hold live connection ids only (`DInv`) -/
theorem disconnect_never_panics {cfg : Config} {s : RState} (hr : Reachable cfg s) (o : List Choice)
    (id : Nat) (r : Option String) :
    ∃ s', handleDisconnection { s with oracle := o } id r = .ok s' := by
  have hb : BInv { s with oracle := o } := ((Inv2.reachable hr).oracle o).binv
  obtain ⟨s', e, _⟩ := handleDisconnection_total (id := id) (r := r) hb.1 hb.2
  exact ⟨s', e⟩

/-- a Disconnect for an id that is not registered changes nothing (late / duplicate signals) -/
theorem disconnect_of_missing_id_is_noop (s : RState) (id : Nat) (h : getConn s id = none) :
    events s id .disconnect = .ok s := by
  simp [events, handleDisconnection_missing s id none h]

/-- a Ready signal never panics: ignored for an unknown id, and for a known id it either wakes
    a connection paused as Busy or is ignored -/
theorem ready_never_panics (s : RState) (id : Nat) : ∃ s', events s id .ready = .ok s' := by
  unfold events
  cases h : getConn s id with
  | none => exact ⟨s, by simp⟩
  | some c =>
    simp only [Option.isSome_some, if_true]
    obtain ⟨⟨t, w⟩, hr⟩ := tryReady_ready_total c.tracker
    exact ⟨_, reschedule_of_tryReady h hr⟩

/-- a Shadow request never panics (unknown ids are ignored) -/
theorem shadow_never_panics (s : RState) (id : Nat) (f : String) : ∃ s', events s id (.shadow f) = .ok s' := by
  obtain ⟨ls, e⟩ := handleShadow_upd s id f
  exact ⟨_, e⟩

/-- DeviceData for an id that is not registered is ignored -/
theorem device_data_of_missing_id_is_noop (s : RState) (id : Nat) (h : getConn s id = none) :
    events s id .deviceData = .ok s := handleDevicePayload_none h

/-- metrics / alerts ticks are inert in the model -/
theorem ticks_never_panic (s : RState) (id : Nat) :
    events s id .sendMeters = .ok s ∧ events s id .sendAlerts = .ok s := ⟨rfl, rfl⟩

/-- C03 `router_never_panics`, in full: in every reachable state, whatever op comes next (any event
    for any id, any batch of decoded packets, any CONNECT, consume, link-side push / drain) and
    whatever the oracle, the step does not panic — no exception: the two dev-profile assertions
    `debug_assert!(check_tracker_duplicates(..).is_none())` are excluded by request conservation. -/
theorem router_never_panics {cfg : Config} {s : RState} (hr : Reachable cfg s) (op : Op) (o : List Choice)
    (msg : String) : step { s with oracle := o } op ≠ .error (.panic msg) :=
  step_no_panic ((Inv3.reachable hr).oracle o) op msg

/-- where a step from a reachable state could panic at all, were it to: only at one of the two dev-profile assertions
    `debug_assert!(check_tracker_duplicates(..).is_none())` — the one in `handle_new_connection` only
    on a CONNECT with `clean_session = false`, the one in `prepare_filter` only on a DeviceData event
    whose batch contains a SUBSCRIBE; every `unwrap`, slab / vector index, `assert_eq!` in
    `Scheduler::pause`, `try_ready` assertion, `% 0` / empty-range site is excluded. It says nothing beyond
    `router_never_panics`, of which it is a consequence: that excludes the two assertions as well (by request
    conservation), so the hypothesis `h` is never met. -/
theorem router_never_panics_partial {cfg : Config} {s : RState} (hr : Reachable cfg s) (op : Op)
    (o : List Choice) (msg : String) (h : step { s with oracle := o } op = .error (.panic msg)) :
    ((∃ spec, op = .connect spec ∧ spec.clean = false) ∧
        msg = "debug_assert check_tracker_duplicates (new connection)") ∨
    ((∃ id, op = .event id .deviceData ∧ batchHasSubscribe s id) ∧
        msg = "debug_assert check_tracker_duplicates (prepare_filter)") :=
  absurd h (router_never_panics hr op o msg)

/-- `consume()` never panics in a reachable state: the polled id is live, every request's filter
    index is valid (`forward_device_data`, `park`), shared groups are non-empty
    (`update_next_client`), and the polled id is still at the back of the ready queue when
    `Scheduler::pause` asserts it -/
theorem consume_never_panics {cfg : Config} {s : RState} (hr : Reachable cfg s) (o : List Choice) (msg : String) :
    step { s with oracle := o } .consume ≠ .error (.panic msg) :=
  router_never_panics hr .consume o msg

/-- no event other than DeviceData ever panics in a reachable state, for any id: Ready, Disconnect,
    Shadow, PublishWill (append + wake-up of parked subscribers), metrics / alerts ticks -/
theorem control_events_never_panic {cfg : Config} {s : RState} (hr : Reachable cfg s) (o : List Choice)
    (id : Nat) (ev : Event) (hev : ev ≠ .deviceData) (msg : String) :
    step { s with oracle := o } (.event id ev) ≠ .error (.panic msg) :=
  router_never_panics hr _ o msg

/-- a DeviceData event never panics, for any id and ANY batch of decoded packets that contains no
    SUBSCRIBE: PUBLISH (any QoS, topic alias, invalid UTF-8), PUBACK / PUBREC / PUBREL / PUBCOMP
    (solicited or not), UNSUBSCRIBE, PINGREQ, DISCONNECT, in any order and number -/
theorem device_data_without_subscribe_never_panics {cfg : Config} {s : RState} (hr : Reachable cfg s)
    (o : List Choice) (id : Nat)
    (hns : ∀ c, getConn s id = some c → ∀ p ∈ (getLink s c.link).ibuf, ∀ a b f, p ≠ Packet.subscribe a b f)
    (msg : String) :
    step { s with oracle := o } (.event id .deviceData) ≠ .error (.panic msg) :=
  router_never_panics hr _ o msg

/-- the only site a DeviceData event could panic at, were it to, is `prepare_filter`'s duplicate-tracker debug
    assertion; a consequence of `router_never_panics`, which excludes that site as well, so `h` is never met -/
theorem device_data_panics_only_in_duplicate_assertion {cfg : Config} {s : RState} (hr : Reachable cfg s)
    (o : List Choice) (id : Nat) (msg : String)
    (h : step { s with oracle := o } (.event id .deviceData) = .error (.panic msg)) :
    msg = "debug_assert check_tracker_duplicates (prepare_filter)" :=
  absurd h (router_never_panics hr _ o msg)

/-- a CONNECT with `clean_session = true` never panics in a reachable state (valid or invalid client id, takeover of
    a live connection, `max_connections` reached or not), and with `clean_session = false` the only
    site it could panic at is the duplicate-tracker debug assertion on the restored tracker; a
    consequence of `router_never_panics`, which excludes that site as well, so `h` is never met -/
theorem connect_never_panics_partial {cfg : Config} {s : RState} (hr : Reachable cfg s) (o : List Choice)
    (spec : ConnectSpec) (msg : String)
    (h : step { s with oracle := o } (.connect spec) = .error (.panic msg)) :
    spec.clean = false ∧ msg = "debug_assert check_tracker_duplicates (new connection)" :=
  absurd h (router_never_panics hr _ o msg)

/-- link-side pushes and drains never panic -/
theorem link_ops_never_panic {cfg : Config} {s : RState} (hr : Reachable cfg s) (o : List Choice) (op : Op)
    (hop : (∃ l p, op = .push l p) ∨ ∃ l, op = .drain l) (msg : String) :
    step { s with oracle := o } op ≠ .error (.panic msg) :=
  router_never_panics hr op o msg


/-- C03 (request conservation). In every reachable state, for every connection id: the data requests
    the connection owns — in its tracker, parked in the waiter lists of the filter logs, on their way
    back in `notifications` (`keysOf`, as `(filter, filter_idx)` pairs) — are at most one per filter,
    each for a filter the connection is subscribed to (so an id without connection owns none: a
    reused slot id finds no stale request), each carrying the index of the log its filter reads;
    a parked request sits in the waiter list of exactly that log; and the tracker saved for a
    persistent session has at most one request per filter, all for saved subscriptions. This is the
    invariant the two `debug_assert!(check_tracker_duplicates(..).is_none())` check. -/
theorem request_conservation {cfg : Config} {s : RState} (hr : Reachable cfg s) :
    (∀ id, ((keysOf s id).map (·.1)).Nodup) ∧
    (∀ id c, getConn s id = some c → ∀ k ∈ keysOf s id, k.1 ∈ c.subscriptions) ∧
    (∀ id, getConn s id = none → keysOf s id = []) ∧
    (∀ id, ∀ k ∈ keysOf s id, s.datalog.filterIdx? (logPath k.1) = some k.2) ∧
    (∀ (i : Nat) fd, s.datalog.native[i]? = some fd → ∀ w ∈ fd.waiters, w.2.filterIdx = i) ∧
    (∀ cid ss, (cid, some ss) ∈ s.graveyard →
      (ss.tracker.requests.map (·.filter)).Nodup ∧ ∀ r ∈ ss.tracker.requests, r.filter ∈ ss.subscriptions) := by
  obtain ⟨hK, hW, hG⟩ := (RC.iff s).mp (RC.reachable hr)
  refine ⟨hK.nodup, fun id c hc k hk => ?_, fun id hc => ?_, hK.idx, hW, fun cid ss hm => ?_⟩
  · exact subsOf_live hc ▸ hK.subs id k hk
  · cases hk : keysOf s id with
    | nil => rfl
    | cons k l =>
      have := hK.subs id k (by rw [hk]; simp)
      rw [subsOf_none hc] at this; cases this
  · obtain ⟨a, b⟩ := hG (cid, some ss) hm ss rfl
    exact ⟨a, fun r hr' => (b r hr').1⟩

theorem keysOf_spec (s : RState) (id : Nat) (k : String × Nat) :
    k ∈ keysOf s id ↔
      (∃ c, getConn s id = some c ∧ ∃ r ∈ c.tracker.requests, (r.filter, r.filterIdx) = k) ∨
      (∃ fd ∈ s.datalog.native, ∃ w ∈ fd.waiters, w.1 = id ∧ (w.2.filter, w.2.filterIdx) = k) ∨
      (∃ w ∈ s.notifications, w.1 = id ∧ (w.2.filter, w.2.filterIdx) = k) := by
  unfold keysOf
  simp only [List.mem_append, mem_waiterKeys, notifKeys, mem_pickK, or_assoc]
  refine or_congr ?_ Iff.rfl
  unfold trackerKeys
  cases hc : getConn s id with
  | none => simp
  | some c => simp [DataRequest.key]

/-- hence every tracker — of a live connection or saved in the graveyard — passes
    `check_tracker_duplicates`, in every reachable state -/
theorem trackers_have_no_duplicate_filters {cfg : Config} {s : RState} (hr : Reachable cfg s) :
    (∀ id c, getConn s id = some c → trackerNoDup c.tracker = true) ∧
    (∀ cid ss, (cid, some ss) ∈ s.graveyard → trackerNoDup ss.tracker = true) :=
  ⟨fun _ _ hc => (RC.reachable hr).tracker_nodup hc,
   fun cid ss hm => (trackerNoDup_iff _).mpr ((request_conservation hr).2.2.2.2.2 cid ss hm).1⟩

/-- a CONNECT never panics in a reachable state: clean or not, valid or invalid client id, takeover,
    resumed session, `max_connections` reached or not -/
theorem connect_never_panics {cfg : Config} {s : RState} (hr : Reachable cfg s) (o : List Choice)
    (spec : ConnectSpec) (msg : String) : step { s with oracle := o } (.connect spec) ≠ .error (.panic msg) :=
  router_never_panics hr _ o msg

/-- a DeviceData event never panics in a reachable state, for any id and ANY batch of decoded
    packets, SUBSCRIBE included -/
theorem device_data_never_panics {cfg : Config} {s : RState} (hr : Reachable cfg s) (o : List Choice)
    (id : Nat) (msg : String) : step { s with oracle := o } (.event id .deviceData) ≠ .error (.panic msg) :=
  router_never_panics hr _ o msg

/-- non-vacuity of the two assertion sites (kernel-evaluated on the executable form): a persistent
    client subscribes to `t` twice (the second SUBSCRIBE creates no second request), its link drops,
    it resumes (the restored tracker passes `check_tracker_duplicates`) and subscribes to `u` (the
    `prepare_filter` assertion looks at a tracker with two requests): no step fails, and the tracker
    holds one request per filter -/
example :
    (match runX (init ⟨10, 1024, 2, 10, .roundRobin⟩)
        [(.connect ⟨0, "a", false, false, 0, none⟩, []),
         (.push 0 (.subscribe 1 none [⟨"t", 1⟩]), []), (.push 0 (.subscribe 2 none [⟨"t", 1⟩]), []),
         (.event 0 .deviceData, []), (.event 0 .disconnect, []),
         (.connect ⟨1, "a", false, false, 0, none⟩, []),
         (.push 1 (.subscribe 3 none [⟨"u", 0⟩]), []), (.event 0 .deviceData, [])] with
     | .ok s =>
       (match getConn s 0 with
        | some c => decide (c.tracker.requests.map (fun r => r.filter) = ["t", "u"] ∧ trackerNoDup c.tracker = true)
        | none => false)
     | .error _ => false) = true := by decide

/-- non-vacuity: reachable states exist in which these ops do something: two registered
    connections, then a stale Disconnect for a removed id and a Ready for a never-used id -/
example : ∃ s, Reachable ⟨2, 1024, 2, 10, .roundRobin⟩ s ∧ (getConn s 0).isSome = true ∧ (getConn s 1).isSome = false :=
  ⟨_, Reachable.ofX [(.connect { link := 0, clientId := "a", clean := true, dynamicFilters := false, aliasMax := 0, will := none }, []),
        (.connect { link := 1, clientId := "b", clean := true, dynamicFilters := false, aliasMax := 0, will := none }, []),
        (.event 1 .disconnect, []), (.event 1 .disconnect, []), (.event 7 .ready, []), (.consume, [])] rfl, rfl, rfl⟩

end C03
