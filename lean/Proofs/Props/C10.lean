/-
C10 — The client answers inbound flows, reports packets in order and never panics
(state-machine part; batching in `readb` and what `poll()` yields belong to the `cloop` slice).
All broker packets of every type and id (unsolicited, repeated, above the limit), manual acks
on/off, v4 and v5 incl. reason codes, topic aliases, CONNACK properties and server DISCONNECT.
-/
import Proofs.Lemmas.ClientTheorems
namespace C10
open Client Client.Spec

/-- hostile broker: every packet type, ids 0 / in range / above the limit, repeats -/
def hostile : List LOp :=
  [.inc .connect, .inc (.connack true true none none), .inc (.publish ⟨1, 7, 1, false, none⟩),
   .inc (.publish ⟨2, 9, 2, false, none⟩), .inc (.publish ⟨2, 9, 2, false, none⟩), .inc (.pubrel 9 0), .inc (.pubrel 9 0),
   .inc (.puback 0 0), .inc (.puback 1 0), .inc (.puback 4 0), .inc (.puback 65535 0), .inc (.pubrec 1 0),
   .inc (.pubcomp 1 0), .inc (.pubcomp 65535 0), .inc .subscribe, .inc (.suback 3), .inc .unsubscribe,
   .inc (.unsuback 3), .inc .pingreq, .inc .pingresp, .inc (.disconnect 0), .user (.publish 1 5),
   .inc (.puback 1 0), .inc (.puback 1 0)]
/-- v5: PUBLISH with an empty topic and an alias nobody registered: protocol error, the DISCONNECT
    that is announced is also returned for the wire (finding #21, repaired) -/
def runAlias : List LOp := [.inc (.publish ⟨1, 5, 9, true, some 7⟩)]
/-- v5: QoS 2 publish id 9, then its release with reason 146: answered by PUBCOMP (finding #22, repaired) -/
def runRel : List LOp := [.inc (.publish ⟨2, 9, 1, false, none⟩), .inc (.pubrel 9 146)]
/-- v5: A(1), B(2); PUBACK 2; C parks on 1; unsolicited PUBCOMP 1: error, C untouched (finding #13, repaired) -/
def run13 : List LOp :=
  [.user (.publish 1 1), .user (.publish 1 2), .inc (.puback 2 0), .user (.publish 1 3), .inc (.pubcomp 1 0)]

/-- C10.5a no panic (full strength, ANY history — gated or not, any requests in between): under the
    structural invariant, which `C07.structural_invariant` shows to hold after every sequence of
    calls, no incoming packet of any type or id makes `handle_incoming_packet` panic -/
theorem never_panics (s : State) (h : SInv s) (p : Incoming) : (handleIncoming s p).2 ≠ .panic :=
  handleIncoming_noPanic h p

/-- `never_panics` along every run of the MQTT 3.1.1 loop (full strength) -/
theorem never_panics_run_v4 (max : Nat) (m : Bool) (h1 : 1 ≤ max) (h2 : max ≤ u16Max) (ops : List LOp) :
    Along (fun _ _ o _ _ => C10.noPanic o = true) (LState.new .v4 max m) (Ghost.init .v4 max m) ops :=
  (new_along_v4 max m h1 h2 ops).mono fun _ _ _ _ _ h => C10_noPanic_ok h.1

/-- `never_panics_run_v4` for both versions, along runs without #17 -/
theorem never_panics_run_partial (ver : Version) (max : Nat) (m : Bool) (h1 : 1 ≤ max) (h2 : max ≤ u16Max)
    (ops : List LOp) (hn : Avoids unsafeConnack (LState.new ver max m) ops) :
    Along (fun _ _ o _ _ => C10.noPanic o = true) (LState.new ver max m) (Ghost.init ver max m) ops :=
  (new_along ver max m h1 h2 ops hn).mono fun _ _ _ _ _ h => C10_noPanic_ok h.1

/-- C10.1 event_order (full strength, every state, both versions): `handle_incoming_packet` appends
    the received packet exactly once, first, followed only by `Outgoing` events -/
theorem event_order (s : State) (p : Incoming) :
    ∃ outs : List Event, (handleIncoming s p).1.events = s.events ++ .incoming p :: outs ∧
      ∀ e ∈ outs, isIncomingEv e = false := by
  obtain ⟨outs, h1, h2, _⟩ := shape_handleIncoming s p
  exact ⟨outs, h1, h2⟩

/-- a request appends no `Incoming` event at all -/
theorem event_order_outgoing (s : State) (r : Request) :
    ∃ outs : List Event, (handleOutgoing s r).1.events = s.events ++ outs ∧ ∀ e ∈ outs, isIncomingEv e = false := by
  obtain ⟨outs, h1, h2, _⟩ := shape_handleOutgoing s r
  exact ⟨outs, h1, h2⟩

/-- C10.2–4 ack_generation (full strength, both versions): QoS 0 → nothing; QoS 1 → PUBACK(id);
    QoS 2 → PUBREC(id); with manual acks neither; MQTT 5 protocol error (empty topic, alias never
    registered) → DISCONNECT with reason 0x82, returned for the wire -/
theorem ack_generation (s : State) (q : InPub) :
    (handleIncoming s (.publish q)).2 =
      if publishAlias s q = none then .ok (some (.disconnect 130))
      else if q.qos = 0 then .ok none
      else if s.manualAcks then .ok none
      else if q.qos = 1 then .ok (some (.puback q.pkid))
      else .ok (some (.pubrec q.pkid)) :=
  congrArg Prod.snd (handleIncoming_quiet s (.publish q) rfl)

/-- `publishAlias s q = none` spelled out -/
theorem protocol_error_iff (s : State) (q : InPub) :
    publishAlias s q = none ↔
      (s.ver = .v5 ∧ ∃ a, q.alias = some a ∧ q.topicEmpty = true ∧ s.aliases.contains a = false) :=
  publishAlias_none_iff s q

/-- the id of an incoming QoS 2 publish is remembered whether or not acks are manual -/
theorem qos2_id_recorded (s : State) (q : InPub) (h0 : q.qos ≠ 0) (h1 : q.qos ≠ 1) (hp : publishAlias s q ≠ none) :
    q.pkid ∈ (handleIncoming s (.publish q)).1.incomingPub := by
  have := handlePublish_incomingPub (s.pushEv (.incoming (.publish q))) q q.pkid
  rw [if_neg (mt (publishAlias_pushEv_none s _ q).mp hp), if_neg (by omega)] at this
  exact this.mpr (Or.inl rfl)

/-- C10.4 (full strength, both versions) release of a known id: PUBCOMP(id), whatever the MQTT 5
    reason code of the release ([MQTT-4.3.3-11]) -/
theorem release_answered (s : State) (i r : Nat) (hk : s.incomingPub.contains i = true) :
    (handleIncoming s (.pubrel i r)).2 = .ok (some (.pubcomp i)) :=
  handlePubrel_answer (s.pushEv (.incoming (.pubrel i r))) i hk

/-- C10.5b unsolicited_is_error_not_corruption: an acknowledgement the wire never solicited (id not
    outstanding, repeated, 0, above the limit) returns `Unsolicited(id)` and leaves `inflight()`,
    the collision slot and `clean()`-of-a-clone (as a multiset) unchanged — along runs without #17 -/
theorem unsolicited_is_error_not_corruption_partial (ver : Version) (max : Nat) (m : Bool) (h1 : 1 ≤ max)
    (h2 : max ≤ u16Max) (ops : List LOp) (hn : Avoids unsafeConnack (LState.new ver max m) ops) :
    Along (fun _ g o _ _ => C10.unsolicitedErr g o = true ∧ C10.unsolicitedKeeps g o = true)
      (LState.new ver max m) (Ghost.init ver max m) ops :=
  (new_along ver max m h1 h2 ops hn).mono fun _ _ _ _ _ h => C10_unsolicited_ok h.1

/-- `unsolicited_is_error_not_corruption_partial` for MQTT 3.1.1, where no run has an `unsafeConnack`: full strength -/
theorem unsolicited_is_error_not_corruption_v4 (max : Nat) (m : Bool) (h1 : 1 ≤ max) (h2 : max ≤ u16Max) (ops : List LOp) :
    Along (fun _ g o _ _ => C10.unsolicitedErr g o = true ∧ C10.unsolicitedKeeps g o = true)
      (LState.new .v4 max m) (Ghost.init .v4 max m) ops :=
  unsolicited_is_error_not_corruption_partial .v4 max m h1 h2 ops (avoids_unsafe_v4 _ rfl ops)

/-- `unsolicited_is_error_not_corruption_v4`, state form (full strength, every state, both versions): a PUBACK /
    PUBREC for an id under which nothing is stored, a PUBCOMP for an id whose release is not pending, returns
    `Unsolicited(id)` and changes nothing but the event queue -/
theorem unsolicited_state (s : State) (i r : Nat) :
    ((s.outgoingPub[i]? = none ∨ s.outgoingPub[i]? = some none) →
      (handleIncoming s (.puback i r)).2 = .err (.unsolicited i) ∧ (handleIncoming s (.puback i r)).1.core = s.core ∧
      (handleIncoming s (.pubrec i r)).2 = .err (.unsolicited i) ∧ (handleIncoming s (.pubrec i r)).1.core = s.core) ∧
    (relContains s i = false →
      (handleIncoming s (.pubcomp i r)).2 = .err (.unsolicited i) ∧ (handleIncoming s (.pubcomp i r)).1.core = s.core) :=
  ⟨fun h => by
      rw [handleIncoming_puback, handleIncoming_pubrec, handlePuback_unsol (s := s.pushEv _) h,
        handlePubrec_unsol (s := s.pushEv _) r h]
      exact ⟨rfl, rfl, rfl, rfl⟩,
    fun h => by
      rw [handleIncoming_pubcomp, handlePubcomp_unsol (s := s.pushEv _) h]
      exact ⟨rfl, rfl⟩⟩

/-- C10.6 outgoing_notification_exact for requests (full strength, both versions): every packet
    returned is announced by exactly one `Outgoing` event of the matching kind and id, nothing
    else is announced (the `AwaitAck` marker excepted) -/
theorem outgoing_notification_exact_requests (s : State) (r : Request) : Shape s (handleOutgoing s r) :=
  shape_handleOutgoing s r

/-- `outgoing_notification_exact_requests` for incoming packets (full strength, every state, both versions) -/
theorem outgoing_notification_exact (s : State) (p : Incoming) : InShape s p (handleIncoming s p) :=
  shape_handleIncoming s p

/-- the executable monitor `C10.check` accepts every model trace that avoids #17 -/
theorem monitor_passes_partial (ver : Version) (max : Nat) (m : Bool) (h1 : 1 ≤ max) (h2 : max ≤ u16Max) (ops : List LOp)
    (hn : Avoids unsafeConnack (LState.new ver max m) ops) :
    C10.check (Ghost.init ver max m) (ltrace (LState.new ver max m) ops) = .ok :=
  monitor_ok C10.checks (fun _ _ _ _ _ h _ => C10_checks_ok h) max m h1 h2 ops hn

/-- MQTT 3.1.1: every trace (full strength) -/
theorem monitor_passes_v4 (max : Nat) (m : Bool) (h1 : 1 ≤ max) (h2 : max ≤ u16Max) (ops : List LOp) :
    C10.check (Ghost.init .v4 max m) (ltrace (LState.new .v4 max m) ops) = .ok :=
  monitor_passes_partial .v4 max m h1 h2 ops (avoids_unsafe_v4 _ rfl ops)

/-! regression examples: the runs of the repaired findings -/
example : C10.check (Ghost.init .v5 3 false) (ltrace (LState.new .v5 3 false) runAlias) = .ok :=
  monitor_passes_partial .v5 3 false (by decide) (by decide) _ (by decide +kernel)
example : C10.check (Ghost.init .v5 3 false) (ltrace (LState.new .v5 3 false) runRel) = .ok :=
  monitor_passes_partial .v5 3 false (by decide) (by decide) _ (by decide +kernel)
example : C10.check (Ghost.init .v5 2 false) (ltrace (LState.new .v5 2 false) run13) = .ok :=
  monitor_passes_partial .v5 2 false (by decide) (by decide) _ (by decide +kernel)
example : (ltrace (LState.new .v5 3 false) runAlias).map (·.outcome) = [.ok (some (.disconnect 130))] := by decide +kernel
example : (ltrace (LState.new .v5 3 false) runRel).map (·.outcome) = [.ok (some (.pubrec 9)), .ok (some (.pubcomp 9))] := by decide +kernel

/-! non-vacuity -/
example : Avoids unsafeConnack (LState.new .v5 3 true) hostile := by decide +kernel
example : (ltrace (LState.new .v4 3 false) hostile).length = 24 := by decide +kernel

end C10
