/-
C19 (network part) — "A network connection becomes a session only if its first packet is a CONNECT
of the listener's protocol version with a non-zero keep-alive, a client id free of topic
metacharacters (non-empty unless clean-session), and, when the listener has credentials or an
authentication callback configured, credentials that the configuration accepts; otherwise it gets
no successful CONNACK and never reaches the routing core."
Model: `Model/Admission.lean` (`mqtt_connect`, `handle_auth`, `remote()` up to `RemoteLink::new`)
on top of the codec model of the listener's decoder; spec: `Model/AdmissionSpec.lean`.
The router clauses (one session per client id, connection limit) are in `Proofs/Props/C19.lean`.
-/
import Proofs.Lemmas.Admission
namespace C19net
open Admission Codec

/-- C19 clause 1 (only-if): `mqtt_connect` lets a connection proceed only if the listener's own
    decoder read a CONNECT from the first bytes, of the listener's protocol level, with a non-zero
    keep-alive, a client id that is non-empty unless clean-session, and credentials the
    configuration accepts. All byte strings, all configurations, any callback. -/
theorem admit_only_if (cfg : Config) (bytes : Bytes) (tail : Tail) (c : Connect)
    (h : admit cfg bytes tail = .proceed c) :
    (∃ rest, decodeFirst cfg bytes = .packet c.toPacket rest) ∧
    c.level = cfg.version.level ∧ c.keepAlive ≠ 0 ∧ (c.clientId ≠ [] ∨ c.clean = true) ∧
    AdmissionSpec.credentialsAccepted cfg.auth c.login c.clientId = true := by
  obtain ⟨⟨rest, hd⟩, ha, hk, hc⟩ := admit_proceed h
  refine ⟨⟨rest, hd⟩, ?_, hk, hc, handleAuth_imp_accepted _ _ _ ha⟩
  exact (decodeFirst_connect hd).2

/-- the same, against the executable rule the monitor evaluates on the implementation's answers:
    whatever `admit` lets through satisfies `AdmissionSpec.mayProceed` (this direction needs no
    assumption on the static table: `lookup u ps = some p` gives `(u, p) ∈ ps`) -/
theorem admit_meets_spec (cfg : Config) (bytes : Bytes) (tail : Tail) (c : Connect)
    (h : admit cfg bytes tail = .proceed c) : AdmissionSpec.mayProceed cfg bytes c = true := by
  obtain ⟨⟨rest, hd⟩, hl, hk', hc, hcr⟩ := admit_only_if cfg bytes tail c h
  have hs := (decodeFirst_connect hd).1
  have hc' : (!c.clientId.isEmpty || c.clean) = true := by
    rcases hc with hc | hc
    · simp [hc]
    · simp [hc]
  simp only [AdmissionSpec.mayProceed, Bool.and_eq_true]
  refine ⟨⟨⟨⟨hs, ?_⟩, ?_⟩, hc'⟩, hcr⟩
  · simpa using hl
  · simpa using hk'

/-- C19 clause 1 ("otherwise it … never reaches the routing core"): on `reject` no
    `Event::Connect` is sent — the router state is untouched, whatever follows on the stream -/
theorem reject_never_reaches_router (cfg : Config) (dyn : Bool) (assigned : String) (s : Router.RState)
    (link : Nat) (bytes : Bytes) (tail : Tail) (ck : Option ConnCode) (why : Reject)
    (h : admit cfg bytes tail = .reject ck why) :
    establish cfg dyn assigned s link bytes tail = .ok (s, .reject ck why, false) := by
  simp [establish, h]

/-- C19 clause 1 ("it gets no successful CONNACK"): the only CONNACK `mqtt_connect` ever writes is
    `ClientIdentifierNotValid`, and it goes with the reason `invalidClientId` (in `mqttConnect`: an
    authenticated CONNECT with keep-alive ≠ 0 whose client id is empty without clean-session);
    every other rejection writes nothing -/
theorem reject_connack (cfg : Config) (bytes : Bytes) (tail : Tail) (ck : Option ConnCode) (why : Reject)
    (h : admit cfg bytes tail = .reject ck why) :
    (ck = none ∧ why ≠ .invalidClientId) ∨ (ck = some .ClientIdentifierNotValid ∧ why = .invalidClientId) :=
  admit_reject h

/-- that CONNACK is encodable by both listeners (`20 02 00 02` / `20 03 00 85 00`) -/
theorem reject_connack_bytes :
    connackBytes .v4 .ClientIdentifierNotValid = some [0x20, 0x02, 0x00, 0x02] ∧
    connackBytes .v5 .ClientIdentifierNotValid = some [0x20, 0x03, 0x00, 0x85, 0x00] := by
  decide +kernel

/-- a session exists only after the router accepted the client id: it has none of `+ $ # /` -/
theorem session_only_if_valid_client_id (cfg : Config) (dyn : Bool) (assigned : String)
    (s s' : Router.RState) (link : Nat) (bytes : Bytes) (tail : Tail) (o : Outcome)
    (h : establish cfg dyn assigned s link bytes tail = .ok (s', o, true)) :
    ∃ c spec, o = .proceed c ∧ admit cfg bytes tail = .proceed c ∧
      toSpec link dyn assigned c = some spec ∧ Router.validClientId spec.clientId = true := by
  rcases establish_cases h with ⟨_, _, _, _, _, hb⟩ | ⟨c, hc, ho, ⟨_, _, hb⟩ | ⟨spec, hs, hn, hb⟩⟩
  · cases hb
  · cases hb
  · refine ⟨c, spec, ho, hc, hs, validClientId_of_registered hn ?_⟩
    rw [toSpec_link hs]; exact hb.symm

/-- C19 authentication, nothing configured: every login (also none) passes -/
theorem no_auth_decision (login : Option Login) (cid : Bytes) :
    handleAuth {} login cid = true :=
  handleAuth_eq {} login cid

/-- C19 authentication, static table only — the truth table stated outright:
    login absent → refused; user not in the table → refused; password differs → refused;
    user present with exactly the stored password → accepted. -/
theorem static_auth_decision (pairs : List (Bytes × Bytes)) (cid : Bytes) :
    handleAuth { static := some pairs } none cid = false ∧
    (∀ l : Login, lookup l.username pairs = none → handleAuth { static := some pairs } (some l) cid = false) ∧
    (∀ (l : Login) (stored : Bytes), lookup l.username pairs = some stored → stored ≠ l.password →
        handleAuth { static := some pairs } (some l) cid = false) ∧
    (∀ l : Login, lookup l.username pairs = some l.password →
        handleAuth { static := some pairs } (some l) cid = true) := by
  have key : ∀ l : Login, handleAuth { static := some pairs } (some l) cid =
      (lookup l.username pairs == some l.password) := fun l => handleAuth_eq _ _ _
  refine ⟨handleAuth_eq _ _ _, fun l hl => ?_, fun l stored hl hne => ?_, fun l hl => ?_⟩
  · rw [key, hl]; rfl
  · rw [key, hl]; exact beq_false_of_ne fun h => hne (Option.some.inj h)
  · rw [key, hl]; exact beq_self_eq_true _

/-- C19 authentication, external callback configured (with or without a static table): login
    absent → refused; otherwise the callback's answer on (client id, user, password) decides and
    the static table is not consulted -/
theorem external_auth_decision (f : Bytes → Bytes → Bytes → Bool) (static : Option (List (Bytes × Bytes)))
    (cid : Bytes) :
    handleAuth { static := static, external := some f } none cid = false ∧
    (∀ l : Login, handleAuth { static := static, external := some f } (some l) cid
        = f cid l.username l.password) := by
  cases static <;> exact ⟨handleAuth_eq _ _ _, fun l => handleAuth_eq _ _ _⟩

/-- `handle_auth` computes the independent rule (static tables as hash maps: distinct keys) -/
theorem auth_meets_spec (a : AuthConfig) (login : Option Login) (cid : Bytes)
    (hk : ∀ ps, a.static = some ps → (ps.map Prod.fst).Nodup) :
    handleAuth a login cid = AdmissionSpec.credentialsAccepted a login cid := by
  exact handleAuth_eq_accepted a login cid hk

/- non-vacuity: a CONNECT that is admitted, one refused for each reason -/
example : admit { version := .v4, maxPayload := 2048 }
    [0x10, 0x0d, 0, 4, 77, 81, 84, 84, 4, 2, 0, 10, 0, 1, 99] .eof
    = .proceed ⟨4, 10, [99], true, none, none, none⟩ := by decide
example : admit { version := .v4, maxPayload := 2048 }
    [0x10, 0x0d, 0, 4, 77, 81, 84, 84, 4, 2, 0, 0, 0, 1, 99] .eof = .reject none .zeroKeepAlive := by decide
example : admit { version := .v5, maxPayload := 2048 }
    [0x10, 0x0d, 0, 4, 77, 81, 84, 84, 4, 2, 0, 10, 0, 1, 99] .eof = .reject none .network := by decide
example : admit { version := .v4, maxPayload := 2048 }
    [0x10, 0x0c, 0, 4, 77, 81, 84, 84, 4, 0, 0, 10, 0, 0] .eof
    = .reject (some .ClientIdentifierNotValid) .invalidClientId := by decide
example : admit { version := .v4, auth := { static := some [([117], [112])] }, maxPayload := 2048 }
    [0x10, 0x0d, 0, 4, 77, 81, 84, 84, 4, 2, 0, 10, 0, 1, 99] .eof = .reject none .invalidAuth := by decide

end C19net
