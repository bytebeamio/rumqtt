/-
CLoop — the clauses of C02 / C07 / C10 / C11 that are about the event LOOP rather than about
`MqttState`.

Model: `Client.Loop` (Model/Client/Loop.lean): `pollConnected` = one `EventLoop::poll()` on a
live connection with the `select!` choice as an oracle, `loopClean` = `EventLoop::clean`,
`established` = the CONNACK handling of `poll()`, `readb` = `framed::Network::readb`.
Every theorem holds for an ARBITRARY state machine `ops : StateOps σ` (any `handleOutgoing`,
`handleIncoming`, `clean`, `inflight`, `collision`): nothing about `MqttState` is assumed, so they
apply to the client-state model (`Model/Client/State.lean`) once it is given as a `StateOps`. `taken` is
a ghost log of the requests handed to `handle_outgoing_packet`, `true` = came from `pending`.
-/
import Proofs.Lemmas.ClientLoop
namespace CLoop
open Client.Loop Client.LoopSpec

variable {σ : Type}

/-- C07 (select gate) "the event loop takes no new user request while the window is full or an
    id collision is unresolved": whichever branch `select!` picks, if this `poll()` hands a NEW
    request to the state machine — one read from the channel, or one that was carried over in
    `pending` without a packet id (it had only been queued when the connection failed) — then
    `inflight < max` and no collision was pending; a channel request moreover only with `pending`
    empty. The only requests served regardless of flow control are retransmissions
    (`isReplay`: publishes that own a packet id, pending releases). -/
theorem no_request_taken_when_blocked (ops : StateOps σ) (s : LState σ) (b : Branch)
    (r : LState σ × List Obs) (h : pollConnected ops s b = some r) (src : Bool) (q : Req)
    (hq : r.1.taken = s.taken ++ [(src, q)]) (hnew : src = false ∨ isReplay q = false) :
    ops.inflight s.st < ops.maxInflight s.st ∧ ops.collision s.st = false ∧
    (src = false → s.pending = []) := by
  obtain ⟨s1, hk, ht1, _⟩ := poll_kind ops h
  rw [ht1] at hq
  cases hk with
  | quiet ht _ =>
    rw [ht] at hq
    exact absurd (congrArg List.length hq) (by rw [List.length_append]; exact Nat.ne_of_lt (Nat.lt_succ_self _))
  | fromPending q' ps _ hr ht _ =>
    rw [ht] at hq
    cases List.append_cancel_left hq
    rcases hnew with hn | hn
    · cases hn
    · rcases hr with hr | hr
      · rw [hn] at hr; cases hr
      · exact ⟨((gateOpen_iff ops _).1 hr).1, ((gateOpen_iff ops _).1 hr).2, fun h => nomatch h⟩
  | fromChannel q' cs _ he hg _ _ =>
    exact ⟨((gateOpen_iff ops _).1 hg).1, ((gateOpen_iff ops _).1 hg).2, fun _ => he⟩

/-- C07 "and resumes as soon as an acknowledgement frees the window": on a live connection with
    nothing buffered, `pending` empty, a request waiting in the channel and the gate open, the
    request branch is enabled and takes exactly the oldest request of the channel. -/
theorem requests_resume_when_freed (ops : StateOps σ) (s : LState σ) (n : Net) (q : Req) (cs : List Req)
    (hn : s.net = some n) (he : s.events = []) (hp : s.pending = []) (hc : s.channel = q :: cs)
    (hg : ops.inflight s.st < ops.maxInflight s.st ∧ ops.collision s.st = false) :
    ∃ r, pollConnected ops s .req = some r ∧ r.1.taken = s.taken ++ [(false, q)] := by
  have hsel : selectEnabled ops s = true := by
    rw [selectEnabled_nil ops hp]; exact (gateOpen_iff ops _).2 hg
  obtain ⟨s1, err, outs, heq, ht⟩ := poll_req_channel ops hn he hp hc hsel
  exact ⟨_, heq, (finish_taken ops).trans ht⟩

/-- C11.2 / C02.3 (one step) "before it sends any request the user issued afterwards": while the
    head of `pending` is a retransmission the request branch is enabled WHATEVER the flow-control
    state is (a full window or a collision cannot block retransmission — this is what makes the
    gate deadlock-free, see `gate_cannot_deadlock`) and hands over that head, leaving the channel
    alone. -/
theorem retransmissions_never_blocked (ops : StateOps σ) (s : LState σ) (n : Net) (q : Req) (ps : List Req)
    (hn : s.net = some n) (he : s.events = []) (hp : s.pending = q :: ps) (hr : isReplay q = true) :
    ∃ r, pollConnected ops s .req = some r ∧ r.1.taken = s.taken ++ [(true, q)] ∧
      (r.1.net ≠ none → r.1.pending = ps ∧ r.1.channel = s.channel) := by
  have hsel : selectEnabled ops s = true := by rw [selectEnabled_cons ops hp, hr]; rfl
  obtain ⟨s1, err, outs, heq, ht, hp1, hc1⟩ := poll_req_pending ops hn he hp hsel
  refine ⟨_, heq, (finish_taken ops).trans ht, fun hl => ?_⟩
  have := finish_live ops hl
  exact ⟨this.1.trans hp1, this.2.trans hc1⟩

/-- … and a carried-over NEW request at the head of `pending` waits while the window is full or a
    collision is unresolved: the request branch is disabled (neither it nor anything behind it,
    nor the channel, is taken), so it can never be parked on top of another parked publish. -/
theorem carried_over_new_request_waits (ops : StateOps σ) (s : LState σ) (q : Req) (ps : List Req)
    (he : s.events = []) (hp : s.pending = q :: ps) (hr : isReplay q = false)
    (hg : ¬ (ops.inflight s.st < ops.maxInflight s.st ∧ ops.collision s.st = false)) :
    pollConnected ops s .req = none := by
  refine poll_req_none ops he ?_
  rw [selectEnabled_cons ops hp, hr, Bool.false_or]
  exact Bool.eq_false_iff.2 (mt (gateOpen_iff ops _).1 hg)

/-- the gate cannot deadlock the loop: whatever `pending` holds and however closed the gate is,
    the network branch stays enabled whenever a frame (or EOF) is there — the acknowledgement that
    frees the window or resolves the collision is read independently of the request branch — and
    a retransmission at the head of `pending` (on which such an acknowledgement may depend after a
    reconnect, since `MqttState.collision` survives `clean()`) is never held back. -/
theorem gate_cannot_deadlock (ops : StateOps σ) (s : LState σ) (n : Net)
    (hn : s.net = some n) (he : s.events = []) :
    (netReady n = true → (pollConnected ops s .net).isSome = true) ∧
    (∀ q ps, s.pending = q :: ps → isReplay q = true → (pollConnected ops s .req).isSome = true) := by
  constructor
  · intro hr
    obtain ⟨s1, heq, _⟩ := poll_net ops hn he hr
    rw [heq]; rfl
  · intro q ps hp hr
    obtain ⟨r, h, _⟩ := retransmissions_never_blocked ops s n q ps hn he hp hr
    simp [h]

/-- C11.2 "pending before channel", over whole runs: for every sequence of `select!` choices the
    requests handed to the state machine are a prefix of `pending` (in order), followed by
    requests from the channel — and a channel request appears only after ALL of `pending`. -/
theorem pending_before_channel (ops : StateOps σ) (s : LState σ) (bs : List Branch) :
    ∃ m chans, (polls ops s bs).taken =
        s.taken ++ (s.pending.take m).map (fun q => (true, q)) ++ chans.map (fun q => (false, q)) ∧
      (chans ≠ [] → s.pending.length ≤ m) := by
  obtain ⟨m, chans, h1, h2, _⟩ := polls_taken ops bs s
  exact ⟨m, chans, h1, h2⟩

/-- C02.2 / C11 `EventLoop::clean` after a failure at ANY point: the connection and the timer are
    gone, and `pending` is (what the state machine held: unacknowledged publishes and pending
    releases, `MqttState::clean` — they were sent before anything still waiting) ++ (what was
    still waiting in `pending`) ++ (the requests that were queued in the channel, minus
    PubAcks); the channel is empty. -/
theorem clean_moves_everything (ops : StateOps σ) (s : LState σ) :
    let f := loopClean ops s
    f.pending = (ops.clean s.st).2 ++ s.pending ++ s.channel.filter (fun r => !isPubAck r) ∧
    f.channel = [] ∧ f.net = none ∧ f.timer.connected = false ∧ f.timer.deadline = none ∧
    f.taken = s.taken := by
  simp [loopClean, Client.Timer.clean]

/-- every error path of a `poll()` on a live connection goes through `clean`: when an error is
    reported the connection, the channel and the timer are gone -/
theorem error_implies_clean (ops : StateOps σ) (s : LState σ) (b : Branch) (r : LState σ × List Obs)
    (h : pollConnected ops s b = some r) (e : Err) (he : Obs.error e ∈ r.2) :
    r.1.net = none ∧ r.1.channel = [] ∧ r.1.timer.connected = false :=
  poll_error_clean ops s b r h e he

/-- C02.3 / C11.2 "resume retransmits everything first": after a failure in any state `s` and a
    reconnect on which the broker reports the session as present, `pending` is exactly the
    list `clean` built, and for every sequence of `select!` choices the state machine is handed
    those requests first, in that order, before any request from the channel. -/
theorem resume_retransmits_all (ops : StateOps σ) (s : LState σ) (ska : Option Nat) (n : Net)
    (bs : List Branch) :
    let P := (ops.clean s.st).2 ++ s.pending ++ s.channel.filter (fun r => !isPubAck r)
    let e := (established ops (loopClean ops s) true ska n).1
    e.pending = P ∧
    ∃ m chans, (polls ops e bs).taken =
        s.taken ++ (P.take m).map (fun q => (true, q)) ++ chans.map (fun q => (false, q)) ∧
      (chans ≠ [] → P.length ≤ m) := by
  obtain ⟨hp, _, h⟩ := established_polls ops (loopClean ops s) true ska n bs
  exact ⟨hp, h⟩

/-- C11 under REPEATED failures "in the order they were originally sent": let a connection start
    with `pending = P` (e.g. right after a resume) and fail after any sequence of `select!`
    choices. Then exactly a prefix `P.take m` had been handed to the state machine (followed by
    channel requests only if all of `P` was), and `clean` builds
    `state.clean() ++ P.drop m ++ channel`: what the state machine holds goes in front of the
    not yet replayed rest, which keeps its order. In particular, if the state machine still
    holds exactly what was re-sent (`state.clean() = P.take m`: nothing acknowledged meanwhile)
    the next resume starts from `P` again followed by the newly queued requests — the original order. -/
theorem repeated_failure_keeps_order (ops : StateOps σ) (s : LState σ) (bs : List Branch)
    (hup : (polls ops s bs).net ≠ none) :
    let s' := polls ops s bs
    ∃ m chans, s'.taken = s.taken ++ (s.pending.take m).map (fun q => (true, q)) ++ chans.map (fun q => (false, q)) ∧
      (chans ≠ [] → s.pending.length ≤ m) ∧
      (loopClean ops s').pending =
        (ops.clean s'.st).2 ++ s.pending.drop m ++ s'.channel.filter (fun r => !isPubAck r) ∧
      ((ops.clean s'.st).2 = s.pending.take m →
        (loopClean ops s').pending = s.pending ++ s'.channel.filter (fun r => !isPubAck r)) := by
  intro s'
  obtain ⟨m, chans, h1, h2, h3⟩ := polls_taken ops bs s
  refine ⟨m, chans, h1, h2, ?_, ?_⟩
  · simp only [loopClean]; rw [h3 hup]
  · intro hc
    simp only [loopClean]; rw [h3 hup, hc, List.take_append_drop]

/-- C11.4 / C02.4 "if the broker reports no session, none of the carried-over requests is sent":
    `poll()` clears `pending` (which by then also contains the requests drained from the channel
    at failure time — they are dropped too), so everything handed to the state machine afterwards
    comes from the channel, i.e. was issued after the failure. -/
theorem no_session_drops_pending (ops : StateOps σ) (s : LState σ) (ska : Option Nat) (n : Net)
    (bs : List Branch) :
    let e := (established ops (loopClean ops s) false ska n).1
    e.pending = [] ∧ e.channel = [] ∧
    ∃ chans : List Req, (polls ops e bs).taken = s.taken ++ chans.map (fun q => (false, q)) := by
  obtain ⟨hp, hc, m, chans, h1, _⟩ := established_polls ops (loopClean ops s) false ska n bs
  exact ⟨hp, hc, chans, by simpa [loopClean_taken] using h1⟩

/-- C10.5 "surfaces a batch in wire order, replies written before the flush": with the peer still
    there and no packet rejected, one `readb` hands the first `batchMax` buffered frames to the
    state machine one after the other in wire order — its notifications and replies are the
    concatenation, in that order, of what each packet produced — and leaves the rest buffered. -/
theorem readb_batch_in_order (ops : StateOps σ) (n : Net) (st : σ) (f : Fold σ)
    (hc : n.peerClosed = false) (hf : foldIn ops st (n.rx.take batchMax) = some f) :
    let b := readb ops n st
    b.err = none ∧ b.rest = n.rx.drop batchMax ∧ b.st = f.st ∧ b.events = f.events ∧ b.replies = f.replies := by
  intro b
  have : b = _ := readbLoop_spec ops n hc batchMax maxReadbCount 1 st n.rx [] [] f
    (by decide) (by decide) (by decide) hf
  rw [this]
  exact ⟨rfl, rfl, rfl, rfl, rfl⟩

/-- the exact size of a batch: `max_readb_count` is 10, but the counter starts at 1 and the loop
    stops when it reaches the limit, so one `readb` surfaces at most 9 packets -/
theorem readb_batch_count (ops : StateOps σ) (n : Net) (st : σ) :
    batchMax = 9 ∧ n.rx.length ≤ (readb ops n st).rest.length + batchMax := by
  refine ⟨by decide, ?_⟩
  have := readbLoop_rest ops n maxReadbCount 1 st n.rx [] [] (by decide)
  simpa [readb, batchMax] using this

/-- … and the network branch of `poll()` puts all replies of the batch on the wire (one flush)
    before it returns the first notification -/
theorem batch_replies_flushed_before_first_event (ops : StateOps σ) (s : LState σ) (n : Net)
    (hn : s.net = some n) (he : s.events = []) (hr : netReady n = true)
    (hok : (readb ops n s.st).err = none) (hfl : flushOk n (readb ops n s.st).replies = true) :
    ∃ r, pollConnected ops s .net = some r ∧
      r.2 = (readb ops n s.st).replies.map Obs.wire ++
        (match (readb ops n s.st).events with
         | e :: _ => [Obs.event e]
         | [] => []) := by
  obtain ⟨s1, heq, hev⟩ := poll_net ops hn he hr
  refine ⟨_, heq, ?_⟩
  rw [finish_ok ops hok hfl, popEvent_snd, hev]; rfl

/-! ### two examples on a two-slot state machine

`slotOps`: window of 2 publishes, ONE collision slot (like `MqttState.collision`): a publish
handed over while the window is full is parked in the slot, replacing whatever was parked. -/

structure Slot where
  infl : List Req := []
  slot : Option Req := none
deriving DecidableEq, Repr

def slotOps : StateOps Slot where
  handleOutgoing := fun st r => match r with
    | .publish q id tag =>
      if st.infl.length ≥ 2 then { st := { st with slot := some r }, events := [.outgoing (.awaitAck id)] }
      else { st := { st with infl := st.infl ++ [r] }, events := [.outgoing (.publish id)],
             out := some (.publish q id false tag) }
    | _ => { st := st }
  handleIncoming := fun st p => { st := st, events := [.incoming p] }
  pingPre := fun st => (st, none)
  clean := fun st => ({ st with infl := [] }, st.infl)
  inflight := fun st => st.infl.length
  maxInflight := fun _ => 2
  collision := fun st => st.slot.isSome

def slotLoop (st : Slot) (pending channel : List Req) : LState Slot :=
  { ver := .v4, st := st, pending := pending, channel := channel, net := some {},
    timer := Client.Timer.fresh .v4 60000 0 }

/-- requests queued at disconnect time obey flow control on reconnect and are not lost: a failure with the window full (a, b unacknowledged) and two user requests
    c, d queued in the channel; `clean` carries all four over; on resume a and b — the
    retransmissions — refill the window and then the loop WAITS: c and d stay in `pending`
    (nothing is parked, nothing is overwritten) until an acknowledgement frees the window. -/
theorem carried_over_requests_respect_gate :
    let failed := loopClean slotOps (slotLoop { infl := [.publish 1 1 "a", .publish 1 2 "b"] } []
                    [.publish 1 0 "c", .publish 1 0 "d"])
    let resumed := (established slotOps failed true none {}).1
    let fin := polls slotOps resumed [.req, .req, .req, .req, .req, .req, .req, .req]
    resumed.pending = [.publish 1 1 "a", .publish 1 2 "b", .publish 1 0 "c", .publish 1 0 "d"] ∧
    fin.taken = [(true, .publish 1 1 "a"), (true, .publish 1 2 "b")] ∧
    fin.st = { infl := [.publish 1 1 "a", .publish 1 2 "b"], slot := none } ∧
    fin.pending = [.publish 1 0 "c", .publish 1 0 "d"] := by
  decide

/-- a second disconnect while resuming a session keeps unacknowledged publishes in order: a, b, c
    carried over; a re-sent; second failure ⇒ `pending` is
    a, b, c again. -/
theorem second_failure_keeps_order :
    let resumed := (established slotOps
        (loopClean slotOps (slotLoop {} [.publish 1 1 "a", .publish 1 2 "b", .publish 1 3 "c"] [])) true none {}).1
    let again := loopClean slotOps (polls slotOps resumed [.req])
    again.pending = [.publish 1 1 "a", .publish 1 2 "b", .publish 1 3 "c"] := by
  decide

/-! non-vacuity: a tiny state machine (a counter of inflight publishes, window 2) -/

def toyOps : StateOps Nat where
  handleOutgoing := fun st r => match r with
    | .publish q id tag => { st := st + 1, events := [.outgoing (.publish id)], out := some (.publish q id false tag) }
    | _ => { st := st }
  handleIncoming := fun st p => match p with
    | .puback id => { st := st - 1, events := [.incoming (.puback id)] }
    | .publish 1 id _ _ => { st := st, events := [.incoming p, .outgoing (.puback id)], out := some (.puback id) }
    | _ => { st := st, events := [.incoming p] }
  pingPre := fun st => (st, none)
  clean := fun st => (0, (List.range st).map (fun i => Req.publish 1 (i + 1) s!"m{i}"))
  inflight := id
  maxInflight := fun _ => 2
  collision := fun _ => false

def toy (st : Nat) (pending channel : List Req) : LState Nat :=
  { ver := .v4, st := st, pending := pending, channel := channel, net := some {},
    timer := Client.Timer.fresh .v4 5000 0 }

/-- window full (2 of 2): the request branch is disabled, the channel keeps its request -/
example : (pollConnected toyOps (toy 2 [] [.publish 1 0 "x"]) .req).isNone = true := by decide
/-- window free: taken -/
example : ((pollConnected toyOps (toy 1 [] [.publish 1 0 "x"]) .req).map (·.1.taken)) =
    some [(false, .publish 1 0 "x")] := by decide
/-- window full but a retransmission heads `pending`: served, from `pending` -/
example : ((pollConnected toyOps (toy 2 [.publish 1 1 "a"] [.publish 1 0 "x"]) .req).map (·.1.taken)) =
    some [(true, .publish 1 1 "a")] := by decide
/-- window full and a carried-over NEW request heads `pending`: it waits -/
example : (pollConnected toyOps (toy 2 [.publish 1 0 "n"] [.publish 1 0 "x"]) .req).isNone = true := by decide
/-- failure with two unacknowledged publishes and one queued request, resume: the two
    retransmissions fill the window, the queued request waits -/
example :
    let e := (established toyOps (loopClean toyOps (toy 2 [] [.publish 1 0 "x"])) true none {}).1
    e.pending = [.publish 1 1 "m0", .publish 1 2 "m1", .publish 1 0 "x"] ∧
    ((polls toyOps e [.req, .req, .req, .req, .req, .req]).taken.map (·.1)) = [true, true] := by decide
/-- a batch of 11 QoS 1 publishes: 9 surfaced, 2 left -/
example : ((readb toyOps { rx := (List.range 11).map (fun i => Pkt.publish 1 (i + 1) false "p") } 0).rest.length,
    (readb toyOps { rx := (List.range 11).map (fun i => Pkt.publish 1 (i + 1) false "p") } 0).replies.length) = (2, 9) := by
  decide

end CLoop
