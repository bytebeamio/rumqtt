/-
C16 (server part) — WHEN does the per-connection task `remote()` tell the router to publish a will.
"If a client registered a will and its connection ends for any reason other than the client
sending DISCONNECT, the broker publishes the will message … exactly once; if the client sent
DISCONNECT first, the will is never published; a client without a will never causes one."

Division of labour in the code (and in the models): the SERVER emits `Event::PublishWill(client id)`
after EVERY end of an established link — it does not know about wills or DISCONNECT packets — unless
a newer connection with the same client id and clean_session = false cancels it before the will
delay (`min(session expiry, will delay)` seconds) has elapsed; the ROUTER (`Proofs/Props/C16.lean`)
publishes on that event only if a will is registered, removes the will on a DISCONNECT packet and
consumes it when it fires. Model: `Model/ServerWill.lean`. All theorems are over every sequence of
admissions (any client ids, clean flags, delays, router verdicts), link ends (any cause), task
panics and clock advances.
-/
import Proofs.Lemmas.ServerWill
namespace C16srv
open ServerWill

/-- C16 server clause, exactly-once / exactly-when: in every reachable state the number of
    `PublishWill` events task `t` has sent is 1 if its will wait was ended by `Fire` or by the
    expiry of the delay, and 0 in every other case (not established,
    still running or waiting, cancelled) — never 2. -/
theorem will_event_emitted_exactly_when (ops : List Op) (t : Nat) :
    (World.run {} ops).publishedWill t =
      match ((World.run {} ops).task? t).bind (·.resolution) with
      | some r => if publishWillDecision r then 1 else 0
      | none => 0 := by
  rw [(run_counts ops t).1]
  cases ((World.run {} ops).task? t).bind (·.resolution) <;> rfl

/-- the will wait is over only for a task whose link was established and has ended, and such a
    task is no longer running -/
theorem resolution_only_after_link_end (ops : List Op) (t : Nat) (x : Task) (r : Resolution)
    (h : (World.run {} ops).task? t = some x) (hr : x.resolution = some r) :
    x.linked = true ∧ x.endedAt ≠ none ∧ (x.phase = .finished ∨ x.phase = .panicked) := by
  have hx := (InvA.run ops).task t x h
  have hn : x.resolution ≠ none := hr ▸ fun h => nomatch h
  refine ⟨(hx.resSome hn).1, (hx.resSome hn).2, ?_⟩
  cases hp : x.phase with
  | running => exact absurd (hx.resNone (.inl hp)) hn
  | waiting d => exact absurd (hx.resNone (.inr ⟨d, hp⟩)) hn
  | finished => exact .inl rfl
  | panicked => exact .inr rfl

/-- `Event::Disconnect` is sent exactly once when the link ends by anything but the router closing
    it (`Err(remote::Error::Link(_))`), never otherwise -/
theorem disconnect_event_emitted_exactly_when (ops : List Op) (t : Nat) :
    (World.run {} ops).sentDisconnect t =
      match ((World.run {} ops).task? t).bind (·.cause) with
      | some c => if c.sendDisconnect then 1 else 0
      | none => 0 := by
  rw [(run_counts ops t).2]
  cases ((World.run {} ops).task? t).bind (·.cause) <;> rfl

/-- reconnect logic: a will wait is ended by a signal only because a LATER connection with the
    same client id passed the handler step; the signal is `Fire` iff that connection asked for a
    clean session, `Cancel` iff it resumed the session -/
theorem signalled_only_by_reconnect (ops : List Op) (t : Nat) (x : Task) (s : Signal)
    (h : (World.run {} ops).task? t = some x) (hr : x.resolution = some (.signalled s)) :
    ∃ t' y, t < t' ∧ (World.run {} ops).task? t' = some y ∧ y.cid = x.cid ∧
      s = (if y.clean then Signal.fire else Signal.cancel) :=
  (InvB.run ops).later t x s h (.inr hr)

/-- will delay: the wait of a task that ended at time `e` with delay `d` seconds and no signal in
    its channel is over at once if `d = 0`, else it lasts until the clock reaches `e + 1000 d`.
    `hres` (the wait of a running task is not yet over) holds in every reachable state by
    `resolution_only_after_link_end`; the step lemma is over an arbitrary `World`, so it is stated. -/
theorem will_delay_spec (w : World) (t : Nat) (x : Task) (cause : Cause)
    (h : w.task? t = some x) (hrun : x.phase = .running) (hl : x.linked = true) (hin : x.inbox = none)
    (hres : x.resolution = none) :
    (x.delay = 0 → ∃ y, (w.endLink t cause).task? t = some y ∧
        (y.phase = .finished ∨ y.phase = .panicked)) ∧
    (x.delay ≠ 0 → ∃ y, (w.endLink t cause).task? t = some y ∧
        y.phase = .waiting (w.now + x.delay * 1000) ∧ y.resolution = none) := by
  rw [endLink_task w t x cause h hrun hl hin]
  constructor
  · intro hd
    rw [if_pos hd]
    exact ⟨_, rfl, .inl rfl⟩
  · intro hd
    rw [if_neg hd]
    exact ⟨_, rfl, rfl, hres⟩

/-- a task in its will wait times out under `advance ms` exactly if the deadline is reached.
    `hres` (a waiting task is not yet resolved) holds in every reachable state by
    `resolution_only_after_link_end`; the channel content (`_hin`) plays no role in `advance`. -/
theorem timeout_exactly_at_deadline (w : World) (t : Nat) (x : Task) (d ms : Nat)
    (h : w.task? t = some x) (hw : x.phase = .waiting d) (_hin : x.inbox = none)
    (hres : x.resolution = none) :
    ∃ y, (w.advance ms).task? t = some y ∧
      (y.resolution ≠ none ↔ d ≤ w.now + ms) := by
  have ht : t < w.tasks.length := Router.lt_of_getElem?_some h
  unfold World.advance
  simp only
  exact expire_at { w with now := w.now + ms } w.tasks.length t x d ht h hw hres

/-- the will bookkeeping itself never panics: in every reachable state a task has panicked only
    where the code it runs inside its link panicked (`taskPanic t`, an input of this model),
    whatever was refused, ended or panicked before. (Nothing is claimed about a will wait coming to
    an end: that takes a signal or the clock, which are inputs.) -/
theorem every_ended_link_resolves_properly (ops : List Op) (t : Nat) (x : Task)
    (h : (World.run {} ops).task? t = some x) :
    x.phase = .panicked → Op.taskPanic t ∈ ops := by
  intro hp
  rcases (run_moves_self {} ops).panicked t x h hp with h1 | ⟨x0, hx0, _⟩
  · exact h1
  · cases hx0

/-- a connection the router refuses (client id with `+ $ # /`, connection limit) leaves no will
    handler behind -/
theorem refused_link_leaves_no_handler (w : World) (cid : String) (clean : Bool) (delay : Nat) :
    Router.alookup cid (w.step (.admitted cid clean delay false)).handlers = none := by
  rw [step_admitted, wake_handlers,
    linkStep_false_handlers _ _ _ (handlerStep_task w cid clean delay) rfl]
  exact Router.alookup_aremove_same _ _

/-- a handler whose receiver is gone (its task panicked inside its link) does not stop the next
    connection with that client id: the handler step always yields a running task and registers it -/
theorem stale_handler_is_harmless (w : World) (cid : String) (clean : Bool) (delay : Nat) :
    ((w.handlerStep cid clean delay).1.task? (w.handlerStep cid clean delay).2).map (·.phase) = some .running ∧
    Router.alookup cid (w.handlerStep cid clean delay).1.handlers = some (w.handlerStep cid clean delay).2 := by
  rw [handlerStep_task]
  exact ⟨rfl, handlerStep_handlers w cid clean delay⟩

/-- the shape of the `vh stack` cases `stale*` / `poison*`: a refused CONNECT, the same client id
    again, another client, then the connected client goes away — everybody is served and the will
    event is sent -/
example :
    let w := World.run {}
      [.admitted "w" true 0 true, .admitted "a/b" true 0 false, .admitted "a/b" true 0 true,
       .admitted "c" true 0 true, .ended 0 .peerClosed]
    (w.task? 2).map (·.phase) = some .running ∧ (w.task? 3).map (·.phase) = some .running ∧
    (w.task? 0).bind (·.resolution) = some .timedOut ∧ w.publishedWill 0 = 1 := by
  decide

/- a will delay of 5 s, cancelled by a session-resuming reconnect after 1 s -/
example :
    let w := World.run {} [.admitted "w" false 5 true, .ended 0 .peerClosed, .advance 1000,
                           .admitted "w" false 5 true]
    w.publishedWill 0 = 0 ∧ (w.task? 0).bind (·.resolution) = some (.signalled .cancel) := by decide
/- a will delay of 5 s, fired by a clean reconnect after 1 s -/
example :
    let w := World.run {} [.admitted "w" true 5 true, .ended 0 .keepAlive, .advance 1000,
                           .admitted "w" true 0 true]
    w.publishedWill 0 = 1 ∧ w.log = [.connect 0 "w", .disconnect 0, .connect 1 "w", .publishWill 0 "w"] := by
  decide
/- a will delay of 5 s left to expire -/
example :
    let w := World.run {} [.admitted "w" true 5 true, .ended 0 .routerClosed, .advance 4999]
    w.publishedWill 0 = 0 ∧ (w.advance 1).publishedWill 0 = 1 ∧ w.sentDisconnect 0 = 0 := by decide

/- the hypotheses of `will_delay_spec` / `timeout_exactly_at_deadline` hold on reachable states -/
example :
    let w := World.run {} [.admitted "w" true 5 true]
    (w.task? 0).map (fun x => (x.phase, x.linked, x.inbox, x.resolution))
      = some (.running, true, none, none) := by decide
example :
    let w := World.run {} [.admitted "w" true 5 true, .ended 0 .peerClosed]
    (w.task? 0).map (fun x => (x.phase, x.inbox, x.resolution)) = some (.waiting 5000, none, none) := by
  decide

end C16srv
