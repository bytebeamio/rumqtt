/-
C17 — Shared subscriptions hand each message to exactly one group member.
-/
import Proofs.Lemmas.Router.Base.Local
import Proofs.Lemmas.Router.Rp3_ReqRun
import Proofs.Lemmas.Router.Rp1_WindowInv
import Proofs.Lemmas.Router.Rp2_Payload
import Proofs.Lemmas.Router.Rp5_Reach
import Proofs.Lemmas.Router.Rp9_Reach
import Proofs.Lemmas.Router.Rp10_Reach
import Proofs.Lemmas.Router.Rp12_Resume
namespace C17
open Router Router.Rp3 CommitLog

/-- the member whose turn it is is a member -/
theorem current_is_member (g : SharedGroup) (c : String) (h : g.current = some c) : c ∈ g.clients := by
  unfold SharedGroup.current at h
  exact List.mem_of_getElem? h

/-- when a member leaves and the group stays non-empty, the turn index still points into the member list -/
theorem remove_client_keeps_turn_valid (g : SharedGroup) (c : String)
    (hne : (g.removeClient c).clients ≠ []) : (g.removeClient c).idx < (g.removeClient c).clients.length :=
  removeClient_wf g c (by cases h : (g.removeClient c).clients with | nil => exact absurd h hne | cons _ _ => rfl)

/-- a client that left the group is not listed any more (every occurrence is removed) -/
theorem removed_client_is_no_member (g : SharedGroup) (c : String) : c ∉ (g.removeClient c).clients := by
  simp [SharedGroup.removeClient]

/-- advancing the turn never leaves the member list, for the three strategies and every random draw -/
theorem next_turn_stays_valid (s s' : RState) (g g' : SharedGroup) (hv : g.idx < g.clients.length)
    (h : updateNextClient s g = .ok (s', g')) : g'.clients = g.clients ∧ g'.idx < g'.clients.length :=
  ⟨(updateNextClient_spec h).2.1, updateNextClient_wf h hv⟩

/-- C17 "never to a non-member through the group" / the skip rule. A sweep for a shared request by
    a connection whose client id is NOT the group's current member pushes nothing: links, groups,
    connections and logs are exactly as before (only the oracle may have been consumed). -/
theorem non_current_member_pushes_nothing (s s' : RState) (id : Nat) (c : Conn) (req req' : DataRequest)
    (st : ConsumeStatus) (gname : String) (g : SharedGroup)
    (hc : getConn s id = some c) (hgn : req.group = some gname) (hg : alookup gname s.shared = some g)
    (hturn : some c.clientId ≠ g.current)
    (h : forwardDeviceData s id req = .ok (s', req', st)) :
    s'.links = s.links ∧ s'.shared = s.shared ∧ s'.conns = s.conns ∧ s'.datalog = s.datalog ∧
    (st = .inflightFull ∨ st = .filterCaughtup ∨ st = .skipRequest) := by
  have hgr : fdGrp s req = some g := fdGrp_of hgn hg
  have hsk : fdSkip c (fdGrp s req) = true := by rw [hgr]; simpa [fdSkip] using hturn
  cases forwardDeviceData_sweep_of hc h with
  | full => exact ⟨rfl, rfl, rfl, rfl, .inl rfl⟩
  | skip => exact ⟨rfl, rfl, rfl, rfl, by split <;> simp⟩
  | empty _ hs => rw [hsk] at hs; cases hs
  | push _ hs => rw [hsk] at hs; cases hs

/-- C17.3 `only_members`. A connection whose client id is not listed in `group.clients` never
    pushes anything through that group — in any state, for any request. -/
theorem only_members (s s' : RState) (id : Nat) (c : Conn) (req req' : DataRequest)
    (st : ConsumeStatus) (gname : String) (g : SharedGroup)
    (hc : getConn s id = some c) (hgn : req.group = some gname) (hg : alookup gname s.shared = some g)
    (hnot : c.clientId ∉ g.clients)
    (h : forwardDeviceData s id req = .ok (s', req', st)) :
    s'.links = s.links ∧ s'.shared = s.shared ∧ s'.conns = s.conns ∧ s'.datalog = s.datalog :=  by
  have hturn : some c.clientId ≠ g.current := fun e => hnot (current_is_member g c.clientId e.symm)
  obtain ⟨a, b, c', d, _⟩ := non_current_member_pushes_nothing s s' id c req req' st gname g hc hgn hg hturn h
  exact ⟨a, b, c', d⟩

/-- C17 (the current member's sweep). When it is this member's turn (and its inflight window is
    not full) the sweep reads from the GROUP's cursor, pushes to this member's link — and to no
    other link — the forwards of the entries read (after a retained replay, which shared
    requests never owe; the link buffer is compared up to the packet ids of the forwards, `Notif.noPkid`),
    and, whenever something was pushed — also when the sweep ends with
    `BufferFull` — stores the continuation as the group's cursor and advances the turn per
    strategy (sticky: same member; round robin: next member; random: any member, the oracle's
    draw); members, strategy and all other groups are unchanged. If nothing was pushed the group
    is unchanged. -/
theorem current_member_sweep_advances_group (s s' : RState) (id : Nat) (c : Conn) (req req' : DataRequest)
    (st : ConsumeStatus) (gname : String) (g : SharedGroup)
    (hc : getConn s id = some c) (hgn : req.group = some gname) (hg : alookup gname s.shared = some g)
    (hturn : some c.clientId = g.current)
    (h : forwardDeviceData s id req = .ok (s', req', st)) (hst : st ≠ .inflightFull) :
    ∃ (replay : List Pub) (n : Nat) (fd : FilterData),
      s.datalog.native[req.filterIdx]? = some fd ∧ s'.datalog = s.datalog ∧
      (req.forwardRetained = false → replay = []) ∧
      (getLink s' c.link).obuf.map Notif.noPkid =
        (getLink s c.link).obuf.map Notif.noPkid ++
        (replay.map (fun p => (p, none)) ++
          (fd.log.readv g.cursor n).1.map (fun e : Pub × Router.Cursor => (e.1, some e.2))).map
          (fwdOf req.qos (sweepAlias c req.filter).2
            ((aliasesFor c req.filter).bind (fun b => alookup req.filter b.aliases)).isSome
            (alookup req.filter c.subscriptionIds)) ++
        (if st = .bufferFull then [Notif.unschedule] else []) ∧
      (∀ l, l ≠ c.link → getLink s' l = getLink s l) ∧
      req'.cursor = (posNext (fd.log.readv g.cursor n).2).1 ∧
      ((replay = [] ∧ (fd.log.readv g.cursor n).1 = []) → s'.shared = s.shared) ∧
      (¬ (replay = [] ∧ (fd.log.readv g.cursor n).1 = []) →
        (∃ g', alookup gname s'.shared = some g' ∧ g'.cursor = (posNext (fd.log.readv g.cursor n).2).1 ∧
          g'.clients = g.clients ∧ g'.strategy = g.strategy ∧
          (g.strategy = .sticky → g'.idx = g.idx) ∧
          (g.strategy = .roundRobin → g'.idx = (g.idx + 1) % g.clients.length) ∧
          (g.strategy = .random → g'.idx < g.clients.length)) ∧
        (∀ other, other ≠ gname → alookup other s'.shared = alookup other s.shared)) := by
  have hgr : fdGrp s req = some g := fdGrp_of hgn hg
  obtain ⟨replay, n, fd, o, o', hP⟩ := sweep_pushes hc h hst (by rw [hgr]; simp [fdSkip, hturn])
  rw [fdCur_some hgr] at hP
  refine ⟨replay, n, fd, hP.log, hP.datalog, hP.noReplay, hP.obuf, hP.others, by rw [hP.next]; rfl,
    fun he => (hP.caughtUp he).1, fun hn => ?_⟩
  have := Turned.group (hP.turned hn).1 hgn hg
  rw [show req'.cursor = (posNext (fd.log.readv g.cursor n).2).1 from by rw [hP.next]; rfl] at this
  exact this

/-- C17.1 `at_most_one_member`, C17.2 `member_order` at sweep level. After a sweep by the current
    member that forwarded log entries, the group's cursor stands right behind them; therefore
    whatever the NEXT sweep through this group reads — by any member, with any window — has
    strictly larger log offsets than everything just forwarded: two consecutive group sweeps
    deliver disjoint, increasing offset ranges, and each sweep's own offsets are consecutive. -/
theorem at_most_one_member_sweeps (s s' : RState) (id : Nat) (c : Conn) (req req' : DataRequest)
    (st : ConsumeStatus) (gname : String) (g : SharedGroup)
    (hc : getConn s id = some c) (hgn : req.group = some gname) (hg : alookup gname s.shared = some g)
    (hturn : some c.clientId = g.current)
    (h : forwardDeviceData s id req = .ok (s', req', st)) (hst : st ≠ .inflightFull)
    (hlog : ∀ fd, s.datalog.native[req.filterIdx]? = some fd → ∃ hist, Rep (logC fd.log) hist ∧
      Issued (logC fd.log) g.cursor ∧ hist.length + (MAX_INFLIGHT + s.config.maxOutgoingPacketCount) < U64) :
    ∃ (n : Nat) (fd : FilterData),
      s.datalog.native[req.filterIdx]? = some fd ∧ s'.datalog.native[req.filterIdx]? = some fd ∧
      readOffsets fd g.cursor n = List.range' (cursorAbs (logC fd.log) g.cursor) (readOffsets fd g.cursor n).length ∧
      ((fd.log.readv g.cursor n).1 ≠ [] →
        ∃ g', alookup gname s'.shared = some g' ∧ Issued (logC fd.log) g'.cursor ∧
          ∀ (m : Nat), m ≤ MAX_INFLIGHT + s.config.maxOutgoingPacketCount →
            ∀ o1 ∈ readOffsets fd g.cursor n, ∀ o2 ∈ readOffsets fd g'.cursor m, o1 < o2) := by
  have hgr : fdGrp s req = some g := fdGrp_of hgn hg
  obtain ⟨replay, n, fd, o, o', hP⟩ := sweep_pushes hc h hst (by rw [hgr]; simp [fdSkip, hturn])
  rw [fdCur_some hgr] at hP
  have hlen := hP.slots
  obtain ⟨hist, hrep, hiss, hU⟩ := hlog fd hP.log
  have hslots := fdSlots_le_max s c req.qos (fdGrp s req)
  obtain ⟨_, v2, _⟩ := clog_readv_entries fd.log hist hrep g.cursor n hiss (by omega)
  obtain ⟨_, _, e3, _⟩ := clog_readv_spec fd.log hist hrep g.cursor n hiss (by omega)
  refine ⟨n, fd, hP.log, by rw [hP.datalog]; exact hP.log, ?_, ?_⟩
  · unfold readOffsets; rw [List.length_map]; exact v2
  · intro hent
    obtain ⟨⟨g', hl, hcur, _⟩, _⟩ := Turned.group (hP.turned fun e => hent e.2).1 hgn hg
    have hcur' : g'.cursor = (posNext (fd.log.readv g.cursor n).2).1 := by rw [hcur, hP.next]; rfl
    refine ⟨g', hl, by rw [hcur']; exact e3, ?_⟩
    intro m hm
    rw [hcur']
    exact consecutive_reads_disjoint fd hist hrep g.cursor n m hiss (by omega) (by omega)

/-- C17.1 / C17.2 at sweep level for reachable states, WITHOUT the `Issued` / well-formedness
    hypothesis (it is `Rp3.CS.reachable`, cursor soundness): the request is taken from the tracker of the
    connection that holds the turn, in a reachable state below the no-overflow bound. -/
theorem at_most_one_member_sweeps_reachable {cfg : Config} (h1 : 1 ≤ cfg.maxSegmentSize) (h2 : 1 ≤ cfg.maxSegmentCount)
    {s : RState} (hr : Reachable cfg s) (hno : NoOverflow s)
    (s' : RState) (id : Nat) (c : Conn) (req req' : DataRequest)
    (st : ConsumeStatus) (gname : String) (g : SharedGroup)
    (hc : getConn s id = some c) (hreq : req ∈ c.tracker.requests)
    (hgn : req.group = some gname) (hg : alookup gname s.shared = some g)
    (hturn : some c.clientId = g.current)
    (h : forwardDeviceData s id req = .ok (s', req', st)) (hst : st ≠ .inflightFull) :
    ∃ (n : Nat) (fd : FilterData),
      s.datalog.native[req.filterIdx]? = some fd ∧ s'.datalog.native[req.filterIdx]? = some fd ∧
      readOffsets fd g.cursor n = List.range' (cursorAbs (logC fd.log) g.cursor) (readOffsets fd g.cursor n).length ∧
      ((fd.log.readv g.cursor n).1 ≠ [] →
        ∃ g', alookup gname s'.shared = some g' ∧ Issued (logC fd.log) g'.cursor ∧
          ∀ (m : Nat), m ≤ MAX_INFLIGHT + s.config.maxOutgoingPacketCount →
            ∀ o1 ∈ readOffsets fd g.cursor n, ∀ o2 ∈ readOffsets fd g'.cursor m, o1 < o2) := by
  obtain ⟨fd, hist, hfd, hrep, _, hU, hgrp⟩ := tracked_request_sound h1 h2 hr hno hc hreq
  refine at_most_one_member_sweeps s s' id c req req' st gname g hc hgn hg hturn h hst fun fd' hfd' => ?_
  rw [hfd] at hfd'; cases hfd'
  exact ⟨hist, hrep, hgrp gname g hgn hg, hU⟩

/-- the start premise `GroupAt` of `at_most_one_member_partial` holds in every reachable state (below
    the no-overflow bound) for a group that a tracked request reads through, as long as the group
    cursor's segment is retained -/
theorem group_at_of_reachable {cfg : Config} (h1 : 1 ≤ cfg.maxSegmentSize) (h2 : 1 ≤ cfg.maxSegmentCount)
    {s : RState} (hr : Reachable cfg s) (hno : NoOverflow s) {id : Nat} {c : Conn} {req : DataRequest}
    {gname : String} {g : SharedGroup}
    (hc : getConn s id = some c) (hreq : req ∈ c.tracker.requests)
    (hgn : req.group = some gname) (hg : alookup gname s.shared = some g)
    (hret : ∀ fd, s.datalog.native[req.filterIdx]? = some fd → (logC fd.log).head ≤ g.cursor.1) :
    GroupAt gname req.filterIdx s g.cursor := by
  obtain ⟨fd, hist, hfd, hrep, _, hU, hgrp⟩ := tracked_request_sound h1 h2 hr hno hc hreq
  exact ⟨g, fd, hist, hg, rfl, hfd, hrep, hgrp gname g hgn hg, hret fd hfd, hU⟩

/-- C17.1 `at_most_one_member` + C17.2 `member_order`, history level, PARTIAL. Take any stretch of
    a run as seen from one group (`GroupRun`): sweeps of the group's requests by ANY connections,
    in any order and number, each contributing the log offsets it appended to its link's outgoing
    buffer (`linkOffsets`, an observable), interleaved with arbitrary other router steps that leave
    the group's cursor where it is and its log segment retained. If at the start the group's cursor
    is an issued, retained cursor of the (well-formed) filter log, then the offsets forwarded
    through the group, in push order and whoever the receiving member, are EXACTLY the consecutive
    log offsets from the starting cursor — strictly increasing, so no log entry is forwarded
    through the group twice, to the same or to different members, every member's share is
    increasing, and nothing in between is skipped.
    Missing for the unrestricted statement (every reachable run): a proof that each router step
    satisfies the `other` premise. It does not for (a) the disconnect of a persistent member with
    unacknowledged forwards of this filter — `handle_disconnection` rewinds the GROUP's cursor to
    the retransmission point, so those entries are forwarded again (to whoever is next: intended
    QoS 1/2 redelivery, but a second forward through the group); (b) removal of the last member
    and later re-creation of the group (fresh cursor at the log's tail: entries are skipped, none
    repeated); (c) eviction of the cursor's segment (C13: the read resumes at the oldest retained
    entry, later offsets only). -/
theorem at_most_one_member_partial (gname : String) (idx : Nat) (s s2 : RState) (offs : List Nat)
    (cur : Router.Cursor) (hat : GroupAt gname idx s cur) (hrun : GroupRun gname idx s offs s2) :
    offs = List.range' cur.2 offs.length ∧ offs.Pairwise (· < ·) ∧ offs.Nodup := by
  obtain ⟨h1, _, _⟩ := groupRun_increasing hrun hat
  exact ⟨(groupRun_contiguous hrun hat).1, h1, h1.imp (fun hlt => Nat.ne_of_lt hlt)⟩

/-- the full-strength history statement is NOT claimed, and is false for the code as it is: the
    rewind on disconnect re-forwards. What the rewind does to the group of one saved request `r` (model level):
    if the retransmission map `retx` has a cursor for the request's log, the group's cursor is set to it. (That the
    map holds the LEAST unacknowledged cursor is `retransmission_cursor_is_least_of_index` below; the saved request
    itself is `C08.restored_request_differs_in_cursor_only`.) -/
theorem rewind_moves_group_cursor_back (sh : List (String × SharedGroup)) (gname : String) (grp : SharedGroup)
    (r : DataRequest) (c : Router.Cursor) (retx : List (Nat × Router.Cursor))
    (hr : nlookup r.filterIdx retx = some c) (hg : r.group = some gname) (hs : alookup gname sh = some grp) :
    alookup gname (rewindRequests sh retx [r] []).1 = some { grp with cursor := c } := by
  simp [rewindRequests, hr, hg, hs, alookup_ainsert_same]

/-- the retransmission cursor of a filter index is the LEAST cursor (tuple order) among the window entries
    with that index — whichever of the connection's requests on that log (a plain subscription, this
    group, another group on the same path) the entries were forwarded for: window entries do not record
    it, the minimum is taken over all of them. -/
theorem retransmission_cursor_is_least_of_index (fi : Nat) (w : List (Nat × Nat × Option Router.Cursor)) (c : Router.Cursor) :
    nlookup fi (retransmissionMap w []) = some c ↔
      (∃ e ∈ w, e.2.1 = fi ∧ e.2.2 = some c) ∧
      ∀ e ∈ w, e.2.1 = fi → ∀ c', e.2.2 = some c' → Router.cursorLe c c' :=
  retx_lookup_some_iff fi w c

/-- C17 `rewind_can_skip_entries` (kernel-checked witness of the open defect; the model reproduces the
    code). The departing persistent client `a` has a plain subscription `t` and the shared one
    `$share/g/t` on the same log (index 0). It has acknowledged everything forwarded to it through the
    group; its window still holds pkid 4 = offset 2 of the PLAIN subscription; the group `g/t` (remaining
    member `b`) stands at `(0,1)`: offset 1 has not been forwarded through the group. The rewind takes the
    least cursor of index 0 — `(0,2)`, an entry of the OTHER subscription — for both saved requests AND
    for the group: the group's cursor jumps FORWARD from `(0,1)` to `(0,2)`, offset 1 (never forwarded
    through the group) is skipped for the group. Since `retransmission_map` takes the minimum, a forward
    jump needs the departing member to have no unacknowledged group forward below the group's cursor.
    (`group_liveness` / `quiescent_complete_group` are statements about the cursor: they hold, and do
    not say that skipped entries were handed out.) -/
theorem rewind_can_skip_entries :
    let window : List (Nat × Nat × Option Router.Cursor) := [(4, 0, some (0, 2))]
    let groups : List (String × SharedGroup) := [("g/t", ⟨["b"], 0, (0, 1), .roundRobin⟩)]
    let saved : List DataRequest := [⟨"$share/g/t", 0, 1, (0, 1), false, some "g/t"⟩, ⟨"t", 0, 1, (0, 3), false, none⟩]
    retransmissionMap window [] = [(0, (0, 2))] ∧
    (rewindRequests groups (retransmissionMap window []) saved []).1.map (fun p => (p.1, p.2.cursor)) = [("g/t", (0, 2))] ∧
    (rewindRequests groups (retransmissionMap window []) saved []).2.map (fun r => (r.filter, r.cursor)) =
      [("$share/g/t", (0, 2)), ("t", (0, 2))] ∧
    rewoundLogs groups (retransmissionMap window []) saved = [0] := by decide

/-- the other way round, a window in which the group's own forward is the least entry:
    pkid 3 = offset 2 of the plain subscription, then pkid 4 = offset 0 forwarded through the group,
    group at `(0,1)`. With the minimum the rewind takes `(0,0)`: the group's cursor goes BACK from
    `(0,1)` to `(0,0)` (offset 0 is forwarded again through the group, nothing is skipped), and the saved
    PLAIN request goes back to `(0,0)` as well — below its own unacknowledged offset 2: offsets 0 and 1,
    which the client had acknowledged on the plain subscription, are sent to it again after a resume
    (the backward side of the conflation: duplicates, no loss) -/
theorem rewind_of_former_witness_goes_back :
    let window : List (Nat × Nat × Option Router.Cursor) := [(3, 0, some (0, 2)), (4, 0, some (0, 0))]
    let groups : List (String × SharedGroup) := [("g/t", ⟨["b"], 0, (0, 1), .roundRobin⟩)]
    let saved : List DataRequest := [⟨"$share/g/t", 0, 1, (0, 1), false, some "g/t"⟩, ⟨"t", 0, 1, (0, 3), false, none⟩]
    retransmissionMap window [] = [(0, (0, 0))] ∧
    (rewindRequests groups (retransmissionMap window []) saved []).1.map (fun p => (p.1, p.2.cursor)) = [("g/t", (0, 0))] ∧
    (rewindRequests groups (retransmissionMap window []) saved []).2.map (fun r => (r.filter, r.cursor)) =
      [("$share/g/t", (0, 0)), ("t", (0, 0))] := by decide

/-! ### a parked member is woken when the turn passes to it

A member of a shared group whose request found nothing to read — or whose turn it was not — is
parked on the group's log and is only woken by an append to that log. When the turn passes to a
parked member without an append (the current member's sweep advanced the turn; the current member
unsubscribed or disconnected) nobody would serve the group any more. The router therefore notes
the logs of the groups whose turn moved (`turn_moved`: `noteTurn`, `unsubscribeFilters`,
`turnMovedLogs`) and, at the end of the call, hands the requests parked on these logs back to their
trackers (`wake_parked`), exactly as an append would. -/

/-- C17 (`wake_parked`). After `wake_parked(logs)`: every request that was parked on one of these
    logs is in the tracker of its (live) connection again, and that connection's tracker is not
    `Paused(Caughtup)` — it is in the ready queue, or waits for its link (`Busy`) or for an
    acknowledgement (`InflightFull`), after which it is polled again —; the waiter lists of these logs
    are empty, those of all other logs are as before; no tracked request is lost -/
theorem wake_parked_hands_back_parked_requests {logs : List Nat} {s s' : RState} (h : wakeParked s logs = .ok s') :
    (∀ i ∈ logs, ∀ fd, s.datalog.native[i]? = some fd →
        ∀ w ∈ fd.waiters, Tracked s' w.1 w.2 ∧ NotCaughtup s' w.1) ∧
    (∀ (i : Nat) fd, s.datalog.native[i]? = some fd →
        ∃ fd', s'.datalog.native[i]? = some fd' ∧ fd'.waiters = (if i ∈ logs then [] else fd.waiters)) ∧
    (∀ j q, Tracked s j q → Tracked s' j q) ∧ (∀ j, NotCaughtup s j → NotCaughtup s' j) :=
  wakeParked_spec h

/-- `Tracked` and `NotCaughtup`, as the statements above use them, written out -/
theorem tracked_notCaughtup_spec (s : RState) (id : Nat) (r : DataRequest) :
    (Tracked s id r ↔ ∃ c, getConn s id = some c ∧ r ∈ c.tracker.requests) ∧
    (NotCaughtup s id ↔ ∃ c, getConn s id = some c ∧ c.tracker.status ≠ .paused .caughtup) := ⟨Iff.rfl, Iff.rfl⟩

/-- C17 (the end of `consume` / `handle_device_payload`). `wakeTurnMoved` wakes the requests parked
    on every log noted in `turn_moved` and forgets the note -/
theorem wake_turn_moved_spec {s s' : RState} (h : wakeTurnMoved s = .ok s') :
    s'.turnMoved = [] ∧
    ∀ i ∈ s.turnMoved, ∀ fd, s.datalog.native[i]? = some fd →
      (∀ w ∈ fd.waiters, Tracked s' w.1 w.2 ∧ NotCaughtup s' w.1) ∧
      ∃ fd', s'.datalog.native[i]? = some fd' ∧ fd'.waiters = [] :=
  ⟨wakeTurnMoved_turnMoved h, fun _ hi _ hfd => wakeParked_woken (s := { s with turnMoved := [] }) h hi hfd⟩

/-- C17 (a sweep that passes the turn is noted). In the request loop of `consume`: if the sweep for
    the first request `req` changes whose turn it is in the request's group (`g0` before, `g1` after
    the sweep), the index of the group's log is in `turn_moved` when the loop ends — whatever the
    remaining iterations do -/
theorem sweep_that_passes_the_turn_is_noted {s s1 s2 : RState} {id fuel : Nat} {req req1 : DataRequest}
    {rest skipped : List DataRequest} {st : ConsumeStatus} {g0 g1 : SharedGroup}
    (hf : forwardDeviceData s id req = .ok (s1, req1, st))
    (h0 : req1.group.bind (fun g => alookup g s.shared) = some g0)
    (h1 : req1.group.bind (fun g => alookup g s1.shared) = some g1)
    (hmoved : g1.current ≠ g0.current)
    (h : consumeLoop s id (fuel + 1) (req :: rest) skipped = .ok s2) :
    req1.filterIdx ∈ s2.turnMoved := by
  have a : req1.filterIdx ∈ (noteTurn s s1 req1).turnMoved := by
    rw [noteTurn_turnMoved, h0, h1]
    simp [hmoved]
  simp only [consumeLoop, hf] at h
  cases st with
  | bufferFull | inflightFull =>
    simp only [] at h
    split at h
    · simp at h
    · rename_i s3 h3; rw [trackv_turnMoved h, pause_turnMoved h3]; exact a
  | filterCaughtup =>
    simp only [] at h
    split at h
    · simp at h
    · rename_i s3 h3
      exact consumeLoop_turnMoved_sub fuel h _ (by rw [park_turnMoved h3]; exact a)
  | partialRead | skipRequest => exact consumeLoop_turnMoved_sub fuel h _ a

/-- C17 (`consume` wakes the member the turn passed to). A `consume` that served a connection is its
    request loop (from some state `s0`, ending in `s2`) followed by the wake-up: in the final state
    `turn_moved` is empty again, and for every log noted during the loop (`s2.turnMoved`, see
    `sweep_that_passes_the_turn_is_noted`) every request that was parked on it — in particular the
    one of the member that now holds the turn — is back in its connection's tracker, that
    connection is not `Paused(Caughtup)`, and the log's waiter list is empty -/
theorem consume_wakes_members_the_turn_passed_to {s s' : RState} (h : consume s = .ok (s', true)) :
    ∃ s0 id reqs s2, consumeLoop s0 id MAX_SCHEDULE_ITERATIONS reqs [] = .ok s2 ∧
      s'.turnMoved = [] ∧
      ∀ i ∈ s2.turnMoved, ∀ fd, s2.datalog.native[i]? = some fd →
        (∀ w ∈ fd.waiters, Tracked s' w.1 w.2 ∧ NotCaughtup s' w.1) ∧
        ∃ fd', s'.datalog.native[i]? = some fd' ∧ fd'.waiters = [] := by
  rcases Walk.consume_cases h with ⟨hb, _⟩ | ⟨id, rq, c, s2, _, _, _, hl, hw⟩
  · cases hb
  · obtain ⟨e, sp⟩ := wake_turn_moved_spec hw
    exact ⟨_, _, _, s2, hl, e, sp⟩

/-- the note is local to one call: in every reachable state (between two steps) `turn_moved` is empty -/
theorem turn_moved_is_empty_between_steps {cfg : Config} {s : RState} (hr : Reachable cfg s) :
    s.turnMoved = [] := turnMoved_reachable hr

/-- which logs `handle_disconnection` wakes: those of the groups the closed client leaves that stay
    non-empty and whose turn passes to another member by that (group key `<share>/<path>`, the log is
    the one of `<path>`) -/
theorem mem_turnMovedLogs (d : DataLog) (sh : List (String × SharedGroup)) (client : String) (i : Nat) :
    i ∈ turnMovedLogs d sh client ↔
      ∃ p ∈ sh, (p.2.removeClient client).clients ≠ [] ∧ (p.2.removeClient client).current ≠ p.2.current ∧
        ∃ share path, extractGroup ("$share/" ++ p.1) = some (share, path) ∧ d.filterIdx? path = some i :=
  mem_turnMovedLogs_iff d sh client i

/-- C17 (`handle_disconnection` wakes the member the turn passed to). When connection `id` (client
    `c.clientId`) is closed, for every log of `turnMovedLogs` (computed on the datalog from which the
    closed connection's own parked requests have already been removed, `datalogClean`, and the shared
    groups before the client leaves them): every request still parked on it — they belong to other
    connections — is back in its connection's tracker afterwards, that connection is not
    `Paused(Caughtup)`, and the log's waiter list is empty -/
theorem disconnection_wakes_members_the_turn_passed_to {s s' : RState} {id : Nat} {r : Option String} {c : Conn}
    (hc : getConn s id = some c) (h : handleDisconnection s id r = .ok s') :
    ∀ i ∈ turnMovedLogs (datalogClean s.datalog id).1 s.shared c.clientId, ∀ fd,
      (datalogClean s.datalog id).1.native[i]? = some fd →
      (∀ w ∈ fd.waiters, Tracked s' w.1 w.2 ∧ NotCaughtup s' w.1) ∧
      ∃ fd', s'.datalog.native[i]? = some fd' ∧ fd'.waiters = [] := by
  intro i hi fd hfd
  rcases handleDisconnection_cases h with ⟨hn, _⟩ | ⟨c0, hc0, h⟩
  · rw [hc] at hn; cases hn
  rw [hc] at hc0; cases hc0
  have hd : (hdFinal s id c r).datalog = (datalogClean s.datalog id).1 := (hdFinal_fields s id c r).datalog
  refine wakeParked_woken h ?_ (hd ▸ hfd)
  rw [hdMoved_eq]
  split
  · exact List.mem_append_left _ hi
  · exact hi

/-- `GroupRun` is inhabited by the empty stretch, and a step that changes nothing is an `other` step -/
example (gname : String) (idx : Nat) (s : RState) : GroupRun gname idx s [] s :=
  GroupRun.other (s1 := s) (fun _ h => h) (GroupRun.done s)


/-- a group where it is `a`'s turn and `b` is a member waiting: both hypotheses shapes occur -/
example : (⟨["a", "b"], 0, (0, 0), .roundRobin⟩ : SharedGroup).current = some "a" ∧
    some "b" ≠ (⟨["a", "b"], 0, (0, 0), .roundRobin⟩ : SharedGroup).current ∧
    "c" ∉ (⟨["a", "b"], 0, (0, 0), .roundRobin⟩ : SharedGroup).clients := by decide

/-- non-vacuity on a concrete state (kernel-evaluated): `a` and `b` are the members of group `g/t`
    (round robin, `a`'s turn, cursor `(0, 0)`), the log of `t` holds two entries. A sweep by `b`
    pushes nothing and leaves the group alone (`SkipRequest`); a sweep by `a` pushes one forward
    (round robin reads one entry), after which the group's cursor is `(0, 1)` and it is `b`'s turn. -/
example :
    (match
       forwardDeviceData
        { config := ⟨10, 1024, 2, 10, .roundRobin⟩, links := [{}, {}],
          conns := ⟨[some { clientId := "a", link := 0, clean := true, dynamicFilters := false, tracker := { id := "a" } },
                     some { clientId := "b", link := 1, clean := true, dynamicFilters := false, tracker := { id := "b" } }], []⟩,
          shared := [("g/t", ⟨["a", "b"], 0, (0, 0), .roundRobin⟩)],
          datalog := { native := [{ filter := "t", log := (((CLog.Log.new 1024 2).append (⟨0, 0, false, false, [116], [1], none, [], false⟩ : Pub) 6).1.append
                                      (⟨0, 0, false, false, [116], [2], none, [], false⟩ : Pub) 6).1 }],
                       filterIndexes := [("t", 0)] } }
        1 ⟨"$share/g/t", 0, 0, (0, 0), false, some "g/t"⟩,
       forwardDeviceData
        { config := ⟨10, 1024, 2, 10, .roundRobin⟩, links := [{}, {}],
          conns := ⟨[some { clientId := "a", link := 0, clean := true, dynamicFilters := false, tracker := { id := "a" } },
                     some { clientId := "b", link := 1, clean := true, dynamicFilters := false, tracker := { id := "b" } }], []⟩,
          shared := [("g/t", ⟨["a", "b"], 0, (0, 0), .roundRobin⟩)],
          datalog := { native := [{ filter := "t", log := (((CLog.Log.new 1024 2).append (⟨0, 0, false, false, [116], [1], none, [], false⟩ : Pub) 6).1.append
                                      (⟨0, 0, false, false, [116], [2], none, [], false⟩ : Pub) 6).1 }],
                       filterIndexes := [("t", 0)] } }
        0 ⟨"$share/g/t", 0, 0, (0, 0), false, some "g/t"⟩ with
     | .ok (sb, _, stb), .ok (sa, ra, sta) =>
       decide (stb = .skipRequest ∧ (getLink sb 1).obuf.length = 0 ∧
         (alookup "g/t" sb.shared).map (fun g => (g.idx, g.cursor)) = some (0, (0, 0)) ∧
         sta = .partialRead ∧ (getLink sa 0).obuf.length = 1 ∧ ra.cursor = (0, 1) ∧
         (alookup "g/t" sa.shared).map (fun g => (g.clients, g.idx, g.cursor)) = some (["a", "b"], 1, (0, 1)))
     | _, _ => false) = true := by decide

/-! non-vacuity of the wake-up theorems: hand-built states in which the turn passes to a parked member -/

def stallReq : DataRequest := ⟨"$share/g/t", 0, 1, (0, 0), false, some "g/t"⟩

/-- `a` (id 0) and `b` (id 1) share `$share/g/t`; it is `a`'s turn; `b`'s request is parked on the
    log of `t` (index 0) and `b`'s tracker is `Paused(Caughtup)` -/
def stallState : RState :=
  { config := ⟨10, 1024, 2, 10, .roundRobin⟩, links := [{}, {}],
    conns := ⟨[some { clientId := "a", link := 0, clean := true, dynamicFilters := false,
                      subscriptions := ["$share/g/t"], tracker := { id := "a", status := .paused .caughtup } },
               some { clientId := "b", link := 1, clean := true, dynamicFilters := false,
                      subscriptions := ["$share/g/t"], tracker := { id := "b", status := .paused .caughtup } }], []⟩,
    connectionMap := [("a", 0), ("b", 1)],
    subscriptionMap := [("$share/g/t", [0, 1])],
    shared := [("g/t", ⟨["a", "b"], 0, (0, 0), .roundRobin⟩)],
    datalog := { native := [{ filter := "t", log := CLog.Log.new 1024 2, waiters := [(1, stallReq)] }],
                 filterIndexes := [("t", 0)] } }

/-- non-vacuity, disconnection (evaluated on the kernel-executable form, see Base/Decomp.lean): the
    turn passes from `a` to the parked `b`; `b`'s request is handed back and `b` is scheduled -/
example : turnMovedLogs stallState.datalog stallState.shared "a" = [0] := by decide

example : ∃ s', handleDisconnection stallState 0 none = .ok s' ∧
    (getConn s' 1).map (fun c => (c.tracker.requests, c.tracker.status)) = some ([stallReq], .ready) ∧
    s'.readyqueue = [1] ∧ s'.datalog.native.map (·.waiters) = [[]] ∧
    (alookup "g/t" s'.shared).map (fun g => (g.clients, g.current)) = some (["b"], some "b") :=
  ⟨_, (handleDisconnection_eqX _ _ _).trans rfl, by decide⟩

/-- non-vacuity, UNSUBSCRIBE: the same when `a` unsubscribes instead: the log is noted during the packet and woken at the end
    of `handle_device_payload` -/
example : ∃ s', events { stallState with links := [{ ibuf := [.unsubscribe 5 ["$share/g/t"]] }, {}] } 0 .deviceData = .ok s' ∧
    (getConn s' 1).map (fun c => (c.tracker.requests, c.tracker.status)) = some ([stallReq], .ready) ∧
    s'.readyqueue = [0, 1] ∧ s'.datalog.native.map (·.waiters) = [[]] ∧ s'.turnMoved = [] :=
  ⟨_, (events_eqX _ _ _).trans rfl, by decide⟩

def stallReqA : DataRequest := ⟨"$share/g/t", 0, 0, (0, 0), false, some "g/t"⟩
def stallReqB : DataRequest := ⟨"$share/g/t", 0, 0, (0, 0), false, some "g/t"⟩

/-- `a` is scheduled with its request, `b`'s request is parked; the log of `t` holds two entries -/
def stallState2 : RState :=
  { config := ⟨10, 1024, 2, 10, .roundRobin⟩, links := [{}, {}],
    conns := ⟨[some { clientId := "a", link := 0, clean := true, dynamicFilters := false,
                      subscriptions := ["$share/g/t"], tracker := { id := "a", requests := [stallReqA], status := .ready } },
               some { clientId := "b", link := 1, clean := true, dynamicFilters := false,
                      subscriptions := ["$share/g/t"], tracker := { id := "b", status := .paused .caughtup } }], []⟩,
    connectionMap := [("a", 0), ("b", 1)], readyqueue := [0],
    subscriptionMap := [("$share/g/t", [0, 1])],
    shared := [("g/t", ⟨["a", "b"], 0, (0, 0), .roundRobin⟩)],
    datalog := { native := [{ filter := "t",
                              log := (((CLog.Log.new 1024 2).append (⟨0, 0, false, false, [116], [1], none, [], false⟩ : Pub) 6).1.append
                                      (⟨0, 0, false, false, [116], [2], none, [], false⟩ : Pub) 6).1,
                              waiters := [(1, stallReqB)] }],
                 filterIndexes := [("t", 0)] } }

/-- non-vacuity, `consume`: `a`'s round-robin sweep forwards one entry and passes the turn to the
    parked `b`; at the end of `consume` `b`'s request is back in its tracker and `b` is scheduled
    (`a`, whose next sweep found it was not its turn and nothing more to read, was parked and is woken too) -/
example : ∃ s', consume stallState2 = .ok (s', true) ∧
    (getLink s' 0).obuf.length = 1 ∧
    (alookup "g/t" s'.shared).map (fun g => (g.current, g.cursor)) = some (some "b", (0, 1)) ∧
    (getConn s' 1).map (fun c => (c.tracker.requests, c.tracker.status)) = some ([stallReqB], .ready) ∧
    s'.readyqueue = [1, 0] ∧ s'.datalog.native.map (·.waiters) = [[]] ∧ s'.turnMoved = [] :=
  ⟨_, (consume_eqX _).trans rfl, by decide⟩

/-- C17 (group liveness, invariant). In every reachable state below the no-overflow bound
    (`max_outgoing_packet_count > 0`), for every shared group `g` with log `i` (the log of the group's
    path): the group's cursor is at the END of log `i`, or the connection that holds the group's turn
    has NO request of the group parked on log `i` (its request is tracked — so its connection is
    `Ready` and queued, or waits for its own client, `C01.scheduler_status_facts` — or it is in
    `notifications` on its way to the tracker). Moreover the group table is well formed: group keys are
    distinct, the turn index is valid (the turn holder is a member), keys have the form
    `<share>/<path>`. Every way a group's cursor or turn changes is covered: a sweep of the turn holder
    (`noteTurn` → `wake_parked` at the end of `consume`), UNSUBSCRIBE and disconnection of a member
    (turn passed on → woken), the rewind of a departing persistent member's unacknowledged forwards
    (the groups set back are woken), a new member, a resumed session re-creating
    or rejoining a group (its own requests are tracked), appends (wake all waiters of the log). -/
theorem group_liveness {cfg : Config} (h1 : 1 ≤ cfg.maxSegmentSize) (h2 : 1 ≤ cfg.maxSegmentCount)
    (hpos : 0 < cfg.maxOutgoingPacketCount) {s : RState} (hr : Reachable cfg s) (hno : NoOverflow s) :
    (s.shared.map (·.1)).Nodup ∧
    (∀ p ∈ s.shared, ∃ cid ∈ p.2.clients, p.2.current = some cid) ∧
    (∀ p ∈ s.shared, ∀ i, s.datalog.filterIdx? (gpath p.1) = some i →
      (∃ fd, s.datalog.native[i]? = some fd ∧ cursorAbs (logC fd.log) p.2.cursor = (logC fd.log).nextAbs) ∨
      (∀ id c r, getConn s id = some c → p.2.current = some c.clientId → r.group = some p.1 →
        ¬ ∃ fd, s.datalog.native[i]? = some fd ∧ (id, r) ∈ fd.waiters)) := by
  have hg := GL.reachable h1 h2 hpos hr hno
  have htm := turnMoved_reachable hr
  refine ⟨hg.nodup, fun p hp => ?_, fun p hp i hi => ?_⟩
  · have hw := hg.wf p hp
    refine ⟨p.2.clients[p.2.idx], List.getElem_mem hw, ?_⟩
    unfold SharedGroup.current
    exact List.getElem?_eq_getElem hw
  · rcases hg.lv p hp i hi with h | h | h
    · exact .inl h
    · rw [htm] at h; cases h
    · exact .inr h

/-- C17 `quiescent_complete_group`. In a reachable state, let `g` be a shared group whose turn holder is
    the live connection `id`, subscribed to the group's filter `f` (`extract_group f = (g, _)`), and
    idle: its tracker holds no request (it is `Paused(Caughtup)`, `C01.scheduler_status_facts`); between
    two router steps `notifications` is empty. Then the group's cursor is at the END of the log of the
    group's path: a read from it returns nothing. This is a statement about the CURSOR: with
    `at_most_one_member_partial` the entries between the position the cursor was last SET to (creation,
    re-creation, or a rewind on a member's disconnect — which can also set it forward,
    `rewind_can_skip_entries`) and the end have been forwarded through the group to some member; nothing
    is claimed about entries a rewind jumped over. In particular this holds when every member is idle. -/
theorem quiescent_complete_group {cfg : Config} (h1 : 1 ≤ cfg.maxSegmentSize) (h2 : 1 ≤ cfg.maxSegmentCount)
    (hpos : 0 < cfg.maxOutgoingPacketCount) {s : RState} (hr : Reachable cfg s) (hno : NoOverflow s)
    {g : String} {grp : SharedGroup} (hgm : (g, grp) ∈ s.shared)
    {id : Nat} {c : Conn} (hc : getConn s id = some c) (hturn : grp.current = some c.clientId)
    {f path : String} (hf : f ∈ c.subscriptions) (hfg : extractGroup f = some (g, path))
    (hidle : c.tracker.requests = []) :
    ∃ (i : Nat) (fd : FilterData) (hist : List Pub), s.datalog.filterIdx? (gpath g) = some i ∧
      s.datalog.native[i]? = some fd ∧ Rep (logC fd.log) hist ∧ Issued (logC fd.log) grp.cursor ∧
      cursorAbs (logC fd.log) grp.cursor = hist.length ∧
      ∀ n, n ≤ MAX_INFLIGHT + s.config.maxOutgoingPacketCount → (fd.log.readv grp.cursor n).1 = [] := by
  have hq := QI.reachable h1 h2 hpos hr hno
  obtain ⟨i, hgi, fd, hfd, hiss⟩ := (CS.reachable h1 h2 hr hno).grp (g, grp) hgm
  obtain ⟨hist, hrep⟩ := (reachable_inv h1 h2 hr).logs fd.log (List.mem_map.mpr ⟨fd, List.mem_of_getElem? hfd, rfl⟩)
  have hU := hno fd (List.mem_of_getElem? hfd) hist hrep
  -- the turn holder's request of the group is parked on log `i` unless the cursor is at the end
  obtain ⟨r, hown, _, hg⟩ := hq.cover_group (subsOf_live hc ▸ hf)
  have hrg : r.group = some g := by rw [hg, hfg]; rfl
  have hend : cursorAbs (logC fd.log) grp.cursor = hist.length := by
    rw [← hrep.nextAbs_eq]
    rcases (group_liveness h1 h2 hpos hr hno).2.2 (g, grp) hgm i hgi with ⟨fd', a, b⟩ | h
    · rw [hfd] at a; cases a; exact b
    · exfalso
      rcases own_tracked_or_parked h1 h2 hpos hr hno hown with ⟨c', hc', hm⟩ | ⟨fdk, _, _, hfdk, _, hm, _⟩
      · rw [hc] at hc'; cases hc'; rw [hidle] at hm; cases hm
      · have hri := ((CS.reachable h1 h2 hr hno).req r
          (.inr (.inl ⟨fdk, List.mem_of_getElem? hfdk, (id, r), hm, rfl⟩))).2 g hrg
        rw [show s.datalog.filterIdx? (gpath g) = some i from hgi] at hri
        cases hri
        exact h id c r hc hturn hrg ⟨fdk, hfdk, hm⟩
  refine ⟨i, fd, hist, hgi, hfd, hrep, hiss, hend, fun n hn' => ?_⟩
  obtain ⟨v1, _, _⟩ := clog_readv_entries fd.log hist hrep grp.cursor n hiss (by omega)
  rw [hend, List.drop_length] at v1
  simpa using v1

/-- C17 (membership, invariant). In every reachable state every client id in a shared group's `clients` is
    the client id of a LIVE connection that holds a filter of that group (`$share/<key>`: `extract_group`
    of the filter gives the group's key) in its `subscriptions`. Groups gain members only in
    `prepare_filter` (the subscribing connection) and when a resumed session rejoins (`rejoinGroups`: the
    connection being registered, whose restored subscriptions contain the filters of its restored
    requests); they lose them in UNSUBSCRIBE (all entries of the client in that group) and at
    disconnection (`removeFromGroups`, before the takeover registers the new connection).
    `clients` CAN hold the same client id more than once — a second SUBSCRIBE to the same shared filter
    appends the client again (`add_client` is called before the "already subscribed" check): this skews
    round robin towards that client, but every entry still satisfies this invariant. -/
theorem members_are_live_subscribers {cfg : Config} (h1 : 1 ≤ cfg.maxSegmentSize) (h2 : 1 ≤ cfg.maxSegmentCount)
    (hpos : 0 < cfg.maxOutgoingPacketCount) {s : RState} (hr : Reachable cfg s) (hno : NoOverflow s) :
    ∀ p ∈ s.shared, ∀ cid ∈ p.2.clients, ∃ id c, getConn s id = some c ∧ c.clientId = cid ∧
      ∃ f ∈ c.subscriptions, ∃ path, extractGroup f = some (p.1, path) :=
  MI.reachable h1 h2 hpos hr hno

/-- C17 (members own a request of the group): with request conservation, every entry of a group's
    `clients` belongs to a live connection that holds a subscription `$share/<key>` of the group AND owns
    — in its tracker, parked, or in `notifications` — a data request with that filter whose `group` is the
    group's key (C03 `request_conservation`: exactly one such request per (connection, filter)) -/
theorem members_own_a_group_request {cfg : Config} (h1 : 1 ≤ cfg.maxSegmentSize) (h2 : 1 ≤ cfg.maxSegmentCount)
    (hpos : 0 < cfg.maxOutgoingPacketCount) {s : RState} (hr : Reachable cfg s) (hno : NoOverflow s) :
    ∀ p ∈ s.shared, ∀ cid ∈ p.2.clients, ∃ id c f r, getConn s id = some c ∧ c.clientId = cid ∧
      f ∈ c.subscriptions ∧ (∃ path, extractGroup f = some (p.1, path)) ∧
      Own s id r ∧ r.filter = f ∧ r.group = some p.1 := by
  intro p hp cid hcid
  obtain ⟨id, c, hc, e, f, hf, path, hx⟩ := MI.reachable h1 h2 hpos hr hno p hp cid hcid
  have hq := QI.reachable h1 h2 hpos hr hno
  obtain ⟨r, hown, hrf, hg⟩ := hq.cover_group (subsOf_live hc ▸ hf)
  exact ⟨id, c, f, r, hc, e, hf, ⟨path, hx⟩, hown, hrf, by rw [hg, hx]; rfl⟩

/-- `clients` can hold duplicates (kernel-evaluated): two SUBSCRIBEs of client `a` to `$share/g/t` -/
example :
    (match runX (init ⟨10, 1024, 2, 10, .roundRobin⟩)
        [(.connect ⟨0, "a", true, false, 0, none⟩, []),
         (.push 0 (.subscribe 1 none [⟨"$share/g/t", 0⟩]), []), (.push 0 (.subscribe 2 none [⟨"$share/g/t", 0⟩]), []),
         (.event 0 .deviceData, [])] with
     | .ok s => decide (s.shared.map (fun p => (p.1, p.2.clients)) = [("g/t", ["a", "a"])])
     | .error _ => false) = true := by decide

/-- C17 `quiescent_complete_group`, for reachable states WITHOUT the hypothesis on the turn holder: every
    group has a turn holder, it is a live connection subscribed to the group's filter
    (`group_liveness`, `members_are_live_subscribers`); if every connection that holds the turn of the group
    is idle (tracker empty — `Paused(Caughtup)`), the group's cursor is at the END of the log of the
    group's path and a read from it returns nothing. (A statement about the cursor, see
    `quiescent_complete_group`.) -/
theorem quiescent_complete_group_reachable {cfg : Config} (h1 : 1 ≤ cfg.maxSegmentSize) (h2 : 1 ≤ cfg.maxSegmentCount)
    (hpos : 0 < cfg.maxOutgoingPacketCount) {s : RState} (hr : Reachable cfg s) (hno : NoOverflow s)
    {g : String} {grp : SharedGroup} (hgm : (g, grp) ∈ s.shared)
    (hidle : ∀ id c, getConn s id = some c → grp.current = some c.clientId → c.tracker.requests = []) :
    ∃ (id : Nat) (c : Conn), getConn s id = some c ∧ grp.current = some c.clientId ∧
    ∃ (i : Nat) (fd : FilterData) (hist : List Pub), s.datalog.filterIdx? (gpath g) = some i ∧
      s.datalog.native[i]? = some fd ∧ Rep (logC fd.log) hist ∧ Issued (logC fd.log) grp.cursor ∧
      cursorAbs (logC fd.log) grp.cursor = hist.length ∧
      ∀ n, n ≤ MAX_INFLIGHT + s.config.maxOutgoingPacketCount → (fd.log.readv grp.cursor n).1 = [] := by
  obtain ⟨_, hcur, _⟩ := group_liveness h1 h2 hpos hr hno
  obtain ⟨cid, hcm, hcc⟩ := hcur (g, grp) hgm
  obtain ⟨id, c, hc, hci, f, hf, path, hx⟩ := members_are_live_subscribers h1 h2 hpos hr hno (g, grp) hgm cid hcm
  have hturn : grp.current = some c.clientId := by rw [hci]; exact hcc
  exact ⟨id, c, hc, hturn, quiescent_complete_group h1 h2 hpos hr hno hgm hc hturn hf hx (hidle id c hc hturn)⟩

/-! ### the rewind on disconnect wakes the parked turn holder (evaluated, not kernel-checked: accepting a
    publish needs `String.fromUTF8?`, which the kernel cannot reduce) -/

/-- `a` (persistent) and `b` share `$share/g/t`; `a` is forwarded offset 0
    and disconnects without acknowledging it while `b` is parked and holds the turn -/
def regressionOps : List (Op × List Choice) :=
  [(.connect ⟨0, "a", false, false, 0, none⟩, []),
   (.connect ⟨1, "b", true, false, 0, none⟩, []),
   (.connect ⟨2, "p", true, false, 0, none⟩, []),
   (.push 0 (.subscribe 1 none [⟨"$share/g/t", 1⟩]), []), (.event 0 .deviceData, []),
   (.push 1 (.subscribe 1 none [⟨"$share/g/t", 1⟩]), []), (.event 1 .deviceData, []),
   (.consume, []), (.consume, []), (.consume, []), (.consume, []), (.consume, []), (.consume, []),
   (.push 2 (.publish ⟨0, 0, false, false, "t".toUTF8.toList, [120], none, [], false⟩), []),
   (.event 2 .deviceData, [.matches [0]]),
   (.consume, []), (.consume, []), (.consume, []), (.consume, []), (.consume, []), (.consume, []),
   (.event 0 .disconnect, []), (.consume, []), (.consume, [])]

/-- what is checked of a state: b's scheduler status is `Ready`, b is queued, b tracks its request; the
    group's cursor; the cursors of the forwards in b's link buffer -/
def regressionView (n : Nat) : Option (Bool × List Nat × Nat × Option Router.Cursor × List (Option Router.Cursor)) :=
  match run (init ⟨10, 1024, 2, 10, .roundRobin⟩) (regressionOps.take n) with
  | .error _ => none
  | .ok s =>
    some ((getConn s 1).any (fun c => c.tracker.status == .ready), s.readyqueue,
      ((getConn s 1).map (fun c => c.tracker.requests.length)).getD 0,
      (alookup "g/t" s.shared).map (·.cursor),
      (getLink s 1).obuf.filterMap (fun n => match n with | .forward _ c => some c | _ => none))

-- before the disconnect: everybody idle, the group's cursor at the end (0,1), nothing forwarded to b
#guard regressionView 21 == some (false, [], 0, some (0, 1), [])
-- right after `a`'s disconnect: the group is set back to (0,0) AND b is `Ready`, queued, tracking its request
#guard regressionView 22 == some (true, [1], 1, some (0, 0), [])
-- two `consume` calls later b has been forwarded offset 0 and the group's cursor is at the end again
#guard regressionView 24 == some (false, [], 0, some (0, 1), [some (0, 0)])

/-! ### the forward jump is reachable (evaluated) -/

/-- `a` (persistent) subscribes to `$share/g/t` and `t`, `b` to `$share/g/t`; three publishes 100, 101, 102;
    one sweep of `a`: offset 0 through the group (pkid 1; the turn passes to `b`, group cursor 1) and
    offsets 0, 1, 2 through the plain subscription (pkids 2, 3, 4); `a` acknowledges pkids 1, 2, 3 and its
    link drops before `b` is swept -/
def forwardJumpOps : List (Op × List Choice) :=
  let pub (x : UInt8) : Op × List Choice := (.push 2 (.publish ⟨0, 0, false, false, "t".toUTF8.toList, [x], none, [], false⟩), [])
  [(.connect ⟨0, "a", false, false, 0, none⟩, []), (.connect ⟨1, "b", true, false, 0, none⟩, []),
   (.connect ⟨2, "p", true, false, 0, none⟩, []),
   (.push 0 (.subscribe 1 none [⟨"$share/g/t", 1⟩, ⟨"t", 1⟩]), []), (.event 0 .deviceData, []),
   (.push 1 (.subscribe 1 none [⟨"$share/g/t", 1⟩]), []), (.event 1 .deviceData, [])] ++
  List.replicate 6 (.consume, [.retained []]) ++
  [pub 100, pub 101, pub 102, (.event 2 .deviceData, [.matches [0], .matches [0], .matches [0]]), (.consume, []),
   (.push 0 (.puback 1), []), (.push 0 (.puback 2), []), (.push 0 (.puback 3), []), (.event 0 .deviceData, []),
   (.event 0 .disconnect, [])] ++ List.replicate 6 (.consume, [])

/-- `a`'s window (pkid, offset); the group's cursor; the payloads forwarded to `b` -/
def forwardJumpView (n : Nat) : Option (List (Nat × Nat) × Option Router.Cursor × List (List UInt8)) :=
  match run (init ⟨10, 1024, 2, 10, .roundRobin⟩) (forwardJumpOps.take n) with
  | .error _ => none
  | .ok s =>
    some (((getConn s 0).map (fun c => c.out.inflight.filterMap (fun e => e.2.2.map (fun cur => (e.1, cur.2))))).getD [],
      (alookup "g/t" s.shared).map (·.cursor),
      (getLink s 1).obuf.filterMap (fun n => match n with | .forward p _ => some p.payload | _ => none))

-- after `a`'s sweep: window = group offset 0, plain offsets 0, 1, 2; the group stands at offset 1
#guard forwardJumpView 18 == some ([(1, 0), (2, 0), (3, 1), (4, 2)], some (0, 1), [])
-- after the three acks only the plain forward of offset 2 is unacknowledged
#guard forwardJumpView 22 == some ([(4, 2)], some (0, 1), [])
-- `a`'s link drops: the group's cursor jumps FORWARD to offset 2
#guard forwardJumpView 23 == some ([], some (0, 2), [])
-- `b` is sent 102 only: 101 (offset 1) is never handed to any member of the group
#guard forwardJumpView 29 == some ([], some (0, 3), [[102]])

end C17
