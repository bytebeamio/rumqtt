/-
C02 — The client never loses an accepted QoS 1/2 publish (state-machine part).
Covered here: `accepted \ done ⊆ held` in every reachable state of the loop's use of `MqttState`
(requests through the gate, any broker packets in any order, failures at any point, replays of
`pending` interleaved with acks, sessions not resumed), the release obligation, and that `clean()`
hands over exactly what was held. NOT covered here (event-loop slice `cloop`): that `poll()`
really retransmits `pending` on reconnect, the channel, the requests drained into `pending`.

Readings (DESIGN 7.0): accepted = `handle_outgoing_packet` returned Ok (incl. parked);
held = in `clean()`-of-a-clone, in the collision slot, or in `pending`; a QoS 2 publish is `done`
at PUBREC and continues as a release obligation (`rels`) until PUBCOMP.
-/
import Proofs.Lemmas.ClientTheorems
namespace C02
open Client Client.Spec

/-- Q2 A(1), Q1 B(2), Q1 C(3); PUBACK 2; D parks on 1; PUBREC 1 (D stays parked: the release of 1
    is pending); PUBCOMP 1 stores D and puts it on the wire (finding #4, repaired: D went out unrecorded) -/
def run4 : List LOp :=
  [.user (.publish 2 1), .user (.publish 1 2), .user (.publish 1 3), .inc (.puback 2 0), .user (.publish 1 4),
   .inc (.pubrec 1 0), .inc (.pubcomp 1 0)]
/-- v5: A(1), B(2); PUBACK 2; C parks on 1; unsolicited PUBCOMP 1 → Err, C still parked (finding #13, repaired: C gone) -/
def run13 : List LOp :=
  [.user (.publish 1 1), .user (.publish 1 2), .inc (.puback 2 0), .user (.publish 1 3), .inc (.pubcomp 1 0)]
/-- failure in the middle of a QoS 2 flow and of a collision, replay interleaved with acks -/
def runOk : List LOp :=
  [.user (.publish 2 1), .user (.publish 1 2), .user (.publish 1 3), .inc (.pubrec 1 0), .fail,
   .pend, .inc (.puback 2 0), .fail, .pend, .pend, .inc (.pubcomp 1 0), .inc (.puback 3 0)]

/-- C02.1 no_loss_state: every accepted QoS 1/2 publish whose acknowledgement has not arrived is
    held (in `clean()` of a clone, the collision slot or `pending`), at every moment, whatever the
    order of the broker's packets and wherever and however often the connection fails — along runs
    without #17 (MQTT 5: a CONNACK lowering the limit under what is in use) -/
theorem no_loss_state_partial (ver : Version) (max : Nat) (m : Bool) (h1 : 1 ≤ max) (h2 : max ≤ u16Max) (ops : List LOp)
    (hn : Avoids unsafeConnack (LState.new ver max m) ops) :
    Along (fun _ _ o _ g' => C02.noLoss g' o = true) (LState.new ver max m) (Ghost.init ver max m) ops :=
  (new_along ver max m h1 h2 ops hn).mono fun _ _ _ _ _ h => C02_noLoss_ok h.1

/-- MQTT 3.1.1: full strength -/
theorem no_loss_state_v4 (max : Nat) (m : Bool) (h1 : 1 ≤ max) (h2 : max ≤ u16Max) (ops : List LOp) :
    Along (fun _ _ o _ g' => C02.noLoss g' o = true) (LState.new .v4 max m) (Ghost.init .v4 max m) ops :=
  no_loss_state_partial .v4 max m h1 h2 ops (avoids_unsafe_v4 _ rfl ops)

/-- C02.1a the release obligation starts with the broker's PUBREC: a PUBREC for a publish of this
    connection that does not refuse it (MQTT 3.1.1: any; MQTT 5: reason 0x00 Success or 0x10 No matching
    subscribers, the two codes below 0x80 - exactly the Rust's `reason != Success && reason !=
    NoMatchingSubscribers` being false) is answered by PUBREL; `release_held` then keeps that release
    held until PUBCOMP. Along runs without #17. -/
theorem accepted_pubrec_answered_partial (ver : Version) (max : Nat) (m : Bool) (h1 : 1 ≤ max) (h2 : max ≤ u16Max)
    (ops : List LOp) (hn : Avoids unsafeConnack (LState.new ver max m) ops) :
    Along (fun _ g o _ g' => C02.relAnswered g o g' = true) (LState.new ver max m) (Ghost.init ver max m) ops :=
  (new_along ver max m h1 h2 ops hn).mono fun _ _ _ _ _ h => C02_relAnswered_ok h.1

/-- `accepted_pubrec_answered_partial` for MQTT 3.1.1, where no run has an `unsafeConnack`: full strength -/
theorem accepted_pubrec_answered_v4 (max : Nat) (m : Bool) (h1 : 1 ≤ max) (h2 : max ≤ u16Max) (ops : List LOp) :
    Along (fun _ g o _ g' => C02.relAnswered g o g' = true) (LState.new .v4 max m) (Ghost.init .v4 max m) ops :=
  accepted_pubrec_answered_partial .v4 max m h1 h2 ops (avoids_unsafe_v4 _ rfl ops)

/-- `accepted_pubrec_answered_v4`, state form (full strength, every state that satisfies the structural
    invariant): the MQTT 5 state
    treats a PUBREC for a stored publish as a refusal exactly when its reason code is neither Success nor
    No matching subscribers; otherwise it returns the PUBREL and records the pending release -/
theorem pubrec_refusal_iff (s : State) (hs : SInv s) (i r : Nat) (x : Pub) (hx : s.outgoingPub[i]? = some (some x)) :
    ((handleIncoming s (.pubrec i r)).2 = .ok (some (.pubrel i)) ∧ relContains (handleIncoming s (.pubrec i r)).1 i = true) ↔
      ¬ (s.ver = .v5 ∧ r ≠ 0 ∧ r ≠ 16) := by
  rw [pubrec_answer hs i r hx]
  simp [ackOk]

/-- C02.1b release obligation (v4 full strength): an id whose PUBREL is on the wire and whose
    PUBCOMP has not arrived is in `outgoing_rel` (so `clean()` returns its `PubRel`); across failures
    the obligation is carried by `pending` (ghost `pending` = loop `pending`, part of the coupling) -/
theorem release_held_v4 (max : Nat) (m : Bool) (h1 : 1 ≤ max) (h2 : max ≤ u16Max) (ops : List LOp) :
    Along (fun _ _ o _ g' => C02.relHeld g' o = true) (LState.new .v4 max m) (Ghost.init .v4 max m) ops :=
  (new_along_v4 max m h1 h2 ops).mono fun _ _ _ _ _ h => C02_relHeld_ok h.1

/-- `release_held_v4` for both versions, along runs without #17 -/
theorem release_held_partial (ver : Version) (max : Nat) (m : Bool) (h1 : 1 ≤ max) (h2 : max ≤ u16Max) (ops : List LOp)
    (hn : Avoids unsafeConnack (LState.new ver max m) ops) :
    Along (fun _ _ o _ g' => C02.relHeld g' o = true) (LState.new ver max m) (Ghost.init ver max m) ops :=
  (new_along ver max m h1 h2 ops hn).mono fun _ _ _ _ _ h => C02_relHeld_ok h.1

/-- C02.2 clean_moves_everything: `clean()` returns exactly what a clone's `clean()` showed before
    (publishes with id and content, pending releases, and — unnumbered, last — the publish that was
    parked on a collision), leaves empty tables, an empty collision slot and `inflight = 0`.
    Along runs without #17. -/
theorem clean_moves_everything_partial (ver : Version) (max : Nat) (m : Bool) (h1 : 1 ≤ max) (h2 : max ≤ u16Max)
    (ops : List LOp) (hn : Avoids unsafeConnack (LState.new ver max m) ops) :
    Along (fun _ g o _ _ => C02.cleanExact g o = true) (LState.new ver max m) (Ghost.init ver max m) ops :=
  (new_along ver max m h1 h2 ops hn).mono fun _ _ _ _ _ h => C02_cleanExact_ok h.1

/-- v4, full strength -/
theorem clean_moves_everything_v4 (max : Nat) (m : Bool) (h1 : 1 ≤ max) (h2 : max ≤ u16Max) (ops : List LOp) :
    Along (fun _ g o _ _ => C02.cleanExact g o = true) (LState.new .v4 max m) (Ghost.init .v4 max m) ops :=
  clean_moves_everything_partial .v4 max m h1 h2 ops (avoids_unsafe_v4 _ rfl ops)

/-- C02.2b (full strength, every state that satisfies the structural invariant) nothing held is
    dropped by a failure: what was held before `EventLoop::clean` — stored, parked or pending — is
    held after -/
theorem fail_keeps_held (s : State) (hs : SInv s) (pd : List Request) (t : Nat) (h : Held ⟨s, pd⟩ t) :
    Held ⟨cleanState s, cleanRequests s ++ pd⟩ t := h.fail hs

/-- C02.2c (full strength) `clean()` leaves nothing behind: a second `clean()` returns nothing -/
theorem clean_leaves_nothing (s : State) (hs : SInv s) : cleanRequests (cleanState s) = [] ∧ (cleanState s).collision = none :=
  ⟨cleanState_clean hs, rfl⟩

/-- `loopClean` is `state.clean() ++ pending ++ channel` minus the `PubAck` requests (PubRec kept) -/
theorem loopClean_spec (s : State) (pd ch : List Request) :
    loopClean s pd ch = some (cleanState s, cleanRequests s ++ pd ++ ch.filter keepOnClean) := by
  simp [loopClean, clean, cleanPanics]

/-- the executable monitor `C02.check` accepts every model trace that avoids #17 -/
theorem monitor_passes_partial (ver : Version) (max : Nat) (m : Bool) (h1 : 1 ≤ max) (h2 : max ≤ u16Max) (ops : List LOp)
    (hn : Avoids unsafeConnack (LState.new ver max m) ops) :
    C02.check (Ghost.init ver max m) (ltrace (LState.new ver max m) ops) = .ok :=
  monitor_ok C02.checks (fun _ _ _ _ _ h _ => C02_checks_ok h) max m h1 h2 ops hn

/-- MQTT 3.1.1: every trace (full strength) -/
theorem monitor_passes_v4 (max : Nat) (m : Bool) (h1 : 1 ≤ max) (h2 : max ≤ u16Max) (ops : List LOp) :
    C02.check (Ghost.init .v4 max m) (ltrace (LState.new .v4 max m) ops) = .ok :=
  monitor_passes_partial .v4 max m h1 h2 ops (avoids_unsafe_v4 _ rfl ops)

/-! regression examples: the runs of the repaired findings -/
example : C02.check (Ghost.init .v4 3 false) (ltrace (LState.new .v4 3 false) run4) = .ok :=
  monitor_passes_v4 3 false (by decide) (by decide) _
example : C02.check (Ghost.init .v5 2 false) (ltrace (LState.new .v5 2 false) run13) = .ok :=
  monitor_passes_partial .v5 2 false (by decide) (by decide) _ (by decide +kernel)
example : (lrun (LState.new .v4 3 false) run4).st.outgoingPub[1]? = some (some ⟨1, 1, 4, none⟩) := by decide +kernel
example : (lrun (LState.new .v5 2 false) run13).st.collision = some ⟨1, 1, 3, none⟩ := by decide +kernel
/-- PUBREC(0x10 No matching subscribers) accepts the publish: PUBREL returned, release held until PUBCOMP -/
example : (ltrace (LState.new .v5 2 false) [.user (.publish 2 1), .inc (.pubrec 1 16)]).map (fun o => (o.outcome, o.view)) =
    [(.ok (some (.publish ⟨2, 1, 1, none⟩)), [.publish ⟨2, 1, 1, none⟩]), (.ok (some (.pubrel 1)), [.pubrel 1])] := by decide +kernel
example : C02.check (Ghost.init .v5 2 false) (ltrace (LState.new .v5 2 false)
    [.user (.publish 2 1), .inc (.pubrec 1 16), .fail, .pend, .inc (.pubcomp 1 0)]) = .ok :=
  monitor_passes_partial .v5 2 false (by decide) (by decide) _ (by decide +kernel)

/-! non-vacuity -/
example : Avoids unsafeConnack (LState.new .v5 3 false) runOk := by decide +kernel
example : Avoids unsafeConnack (LState.new .v5 2 false) run13 := by decide +kernel
example : (lrun (LState.new .v4 3 false) (runOk.take 5)).pending.length = 3 := by decide +kernel
example : (lrun (LState.new .v4 3 false) runOk).st.inflight = 0 := by decide +kernel

end C02
