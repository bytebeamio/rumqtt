/-
C13 — Commit log reads and retention.
The model (`Model/CommitLog.lean`) follows `rumqttd/src/segments/{mod,segment}.rs` statement by
statement with every dev-profile panic explicit; the spec (`Model/CommitLogSpec.lean`) speaks about
the whole append history `hist` (entry `i` has absolute offset `i`), the retained suffix, the
retained entries with their tags (`tagged`), issued cursors (`Issued`) and the expected read
(`expectedRead` = `take n (drop …)` of the tagged retained entries).
`readv` takes `&self`: reads never change the log, so "every sequence of appends and reads" is
"every sequence of appends, with reads at any moment" — `Reached` quantifies over all of them.
The theorems are lettered by the clause of the property they stand for: (a) every log reached by
appends represents its append history, and retention discards whole oldest segments only; (b) what
a read from an issued cursor returns; (c) when it reports "caught up"; (d) which cursors are issued,
that they stay so, and where a stale one resumes; (e) no panic for any cursor value; (f) the bound
on the number of segments; (g) all of it for the copy of the log inside the router model.
-/
import Proofs.Lemmas.CommitLog
import Proofs.Lemmas.CommitLogBridge
namespace C13
open CommitLog
variable {α : Type}

/-- C13.a1 `new` with a legal configuration yields a well-formed empty log; an illegal one is the
    documented `panic!`. -/
theorem new_spec (ms mm : Nat) :
    (1024 ≤ ms ∧ 1 ≤ mm → ∃ l : Log α, Log.new ms mm = .ok l ∧ Rep l [] ∧ l.head = 0 ∧ l.tail = 0) ∧
    (¬ (1024 ≤ ms ∧ 1 ≤ mm) → (Log.new ms mm : Except Panic (Log α)) = .error .config) := by
  constructor
  · intro ⟨h1, h2⟩
    exact ⟨_, by rw [Log.new, if_neg (by omega), if_neg (by omega)],
      rep_fresh ms mm (by omega) h2, rfl, rfl⟩
  · intro h
    unfold Log.new
    by_cases h1 : ms < 1024
    · rw [if_pos h1]
    · rw [if_neg h1, if_pos (by omega)]

/-- C13.a2 `append` on a log that represents `hist` never panics, returns the new tail cursor
    `(tail, |hist| + 1)`, and the new log represents `hist ++ [x]` (in particular it is well-formed:
    non-empty segment list, `count = tail - head + 1 ≤ max`, contiguous offsets). Any entry size. -/
theorem append_preserves (l : Log α) (hist : List α) (h : Rep l hist) (x : α) (size : Nat) :
    ∃ l', l.append x size = .ok (l', (l'.tail, hist.length + 1)) ∧ Rep l' (hist ++ [x]) ∧
      l'.maxMemSegments = l.maxMemSegments := by
  obtain ⟨l', h1, h2, _, h4, _⟩ := append_rep l hist h x size
  exact ⟨l', h1, h2, h4⟩

/-- C13.a3' the same, for a given reached log (`Reached` is functional) -/
theorem reached_rep {ms mm : Nat} {xs : List (α × Nat)} {l : Log α} (h : Reached ms mm xs l) :
    Rep l (xs.map (·.1)) ∧ l.maxMemSegments = mm := by
  obtain ⟨l0, h0, h1⟩ := h
  obtain ⟨hr0, hm, _⟩ := new_rep h0
  obtain ⟨l', h1', h2, _, h3, _⟩ := appends_rep xs l0 [] hr0
  rw [h1] at h1'; cases h1'
  exact ⟨by simpa using h2, by rw [h3]; exact hm⟩

/-- C13.a3 For ALL configurations accepted by `new` and ALL append sequences (any sizes): nothing
    panics and the reached log represents exactly the appended history. -/
theorem inv_reachable (ms mm : Nat) (hms : 1024 ≤ ms) (hmm : 1 ≤ mm) (xs : List (α × Nat)) :
    ∃ l, Reached ms mm xs l ∧ Rep l (xs.map (·.1)) ∧ l.maxMemSegments = mm := by
  obtain ⟨l0, h0, hr0, _, _⟩ := (new_spec (α := α) ms mm).1 ⟨hms, hmm⟩
  obtain ⟨l, h1, _⟩ := appends_rep xs l0 [] hr0
  exact ⟨l, ⟨l0, h0, h1⟩, reached_rep ⟨l0, h0, h1⟩⟩

/-- C13.a4 Retention discards only whole oldest segments: one `append` either keeps every
    retained entry, or (only when the segment limit is reached) drops exactly the entries of the
    oldest segment — never part of a segment, never a younger one. -/
theorem retention_whole_oldest (l : Log α) (hw : WF l) (x : α) (size : Nat) :
    ∃ l' c, l.append x size = .ok (l', c) ∧
      ((l'.head = l.head ∧ retained l' = retained l ++ [x]) ∨
       (l'.head = l.head + 1 ∧ l.segments.length = l.maxMemSegments ∧
         ∃ a rest, l.segments = a :: rest ∧ retained l' = flat rest ++ [x] ∧ l'.firstAbs = a.next)) := by
  obtain ⟨l', h1, hA⟩ := append_spec l hw x size
  refine ⟨l', _, h1, ?_⟩
  rcases hA.retained with ⟨a, b, _⟩ | h
  · exact Or.inl ⟨a, b⟩
  · exact Or.inr h

/-- C13.b1 For a log representing `hist`, an issued cursor `c` (however old) and a
    count `n` (`|hist| + n < 2^64`): `readv` does not panic and returns exactly
    `expectedRead l c n` = the tagged retained entries from the cursor's position, at most `n`;
    the continuation is an issued, non-stale cursor standing exactly where the read stopped;
    `Done` is reported iff nothing retained remains after the read. -/
theorem readv_spec (l : Log α) (hist : List α) (h : Rep l hist) (c : Cursor) (n : Nat)
    (hi : Issued l c) (hU : hist.length + n < U64) :
    ∃ pos, l.readv c n = .ok (expectedRead l c n, pos) ∧
      pos.end_.2 = cursorAbs l c + (expectedRead l c n).length ∧
      Issued l pos.end_ ∧ l.head ≤ pos.end_.1 ∧
      (pos.isDone = true ↔ cursorAbs l c + (expectedRead l c n).length = hist.length) :=
  readv_rep l hist h c n hi hU

/-- C13.b2 The values read are the history from the cursor's position on, in append order, at
    most `n` of them (`take n (drop a hist)`; `a ≥` first retained offset). -/
theorem read_values (l : Log α) (hist : List α) (h : Rep l hist) (c : Cursor) (n : Nat)
    (hi : Issued l c) :
    (expectedRead l c n).map (·.1) = (hist.drop (cursorAbs l c)).take n ∧
    l.firstAbs ≤ cursorAbs l c ∧ cursorAbs l c ≤ hist.length := by
  have := hi.abs_bounds h.wf
  have := h.nextAbs_eq
  exact ⟨expectedRead_values l hist h c n hi, by omega, by omega⟩

/-- C13.b3 No gap, no repeat: the offsets of the entries read are `a, a+1, a+2, …`. -/
theorem read_offsets_consecutive (l : Log α) (hw : WF l) (c : Cursor) (n : Nat) (hi : Issued l c) :
    (expectedRead l c n).map (·.2.2) = List.range' (cursorAbs l c) (expectedRead l c n).length :=
  expectedRead_offsets l hw c n hi

/-- C13.b4 Each entry is tagged with its own (segment, offset): the segment is retained and
    holds that offset, and the offset is the entry's index in the history. -/
theorem read_tags (l : Log α) (hist : List α) (h : Rep l hist) (c : Cursor) (n : Nat)
    (e : Entry α) (he : e ∈ expectedRead l c n) :
    Holds l e.2.1 e.2.2 ∧ hist[e.2.2]? = some e.1 :=
  expectedRead_tags l hist h c n e he

/-- C13.b5 Compose: a later read from the continuation resumes exactly where this one stopped —
    the two reads together are the single read of `n + m` entries. -/
theorem readv_compose (l : Log α) (hist : List α) (h : Rep l hist) (c : Cursor) (n m : Nat)
    (hi : Issued l c) (hn : hist.length + n < U64) (hm : hist.length + m < U64)
    (es : List (Entry α)) (pos : Position) (hr : l.readv c n = .ok (es, pos)) :
    ∃ pos', l.readv pos.end_ m = .ok (expectedRead l pos.end_ m, pos') ∧
      es ++ expectedRead l pos.end_ m = expectedRead l c (n + m) := by
  obtain ⟨pos0, h1, h2, h3, h4, _⟩ := readv_spec l hist h c n hi hn
  rw [hr] at h1; cases h1
  obtain ⟨pos', h1', _⟩ := readv_spec l hist h pos.end_ m h3 hm
  exact ⟨pos', h1', expectedRead_add l h.wf c pos.end_ n m hi h4 h2⟩

/-- C13.c For an issued cursor the answer is `Position::Done` exactly when no
    retained entry remains after the entries just read. (What the code does precisely: the loop
    over closed segments never answers `Done`; the active segment answers `Done` iff the cursor
    is at/after its next offset or `idx + len ≥ len()`. With the invariant "every opened segment
    holds an entry" that is the English clause; no excluded corner for issued cursors.) -/
theorem done_iff (l : Log α) (hist : List α) (h : Rep l hist) (c : Cursor) (n : Nat)
    (hi : Issued l c) (hU : hist.length + n < U64)
    (es : List (Entry α)) (pos : Position) (hr : l.readv c n = .ok (es, pos)) :
    pos.isDone = true ↔ cursorAbs l c + es.length = hist.length := by
  obtain ⟨pos0, h1, _, _, _, h5⟩ := readv_spec l hist h c n hi hU
  rw [hr] at h1; cases h1
  exact h5

/-- C13.c' For a cursor that was never issued the clause is not claimed — and indeed does not hold:
    a fabricated segment number beyond the tail answers `Done` while entries remain. -/
theorem done_not_claimed_for_fabricated :
    ∃ (l : Log Nat) (c : Cursor), (∃ xs, Reached 1024 1 xs l) ∧ ¬ Issued l c ∧ retained l ≠ [] ∧
      l.readv c 1 = .ok ([], .done c c) := by
  refine ⟨{ head := 0, tail := 0, maxSegmentSize := 1024, maxMemSegments := 1,
            segments := [{ data := [7], totalSize := 1, abs := 0 }] }, (5, 0), ⟨[(7, 1)], ?_⟩, ?_, ?_, ?_⟩
  · exact ⟨_, rfl, rfl⟩
  · intro h; have := h.1; simp at this
  · simp [retained, flat]
  · rfl

/-- C13.d1 An issued cursor stays issued after any further append (hence after
    any number of appends and evictions). -/
theorem issued_mono (l : Log α) (hw : WF l) (c : Cursor) (hi : Issued l c) (x : α) (size : Nat)
    (l' : Log α) (c' : Cursor) (ha : l.append x size = .ok (l', c')) : Issued l' c := by
  obtain ⟨l2, h1, hA⟩ := append_spec l hw x size
  rw [ha] at h1; cases h1
  exact issued_of_segMono hA.segMono hi

/-- C13.d1' the same over any number of further appends (rolls and evictions included) -/
theorem issued_mono_appends (l : Log α) (hist : List α) (h : Rep l hist) (c : Cursor)
    (hi : Issued l c) (xs : List (α × Nat)) (l' : Log α) (ha : l.appends xs = .ok l') :
    Issued l' c := by
  obtain ⟨l2, h1, _, hm, _⟩ := appends_rep xs l hist h
  rw [ha] at h1; cases h1
  exact issued_of_segMono hm hi

/-- C13.d2 Everything the log hands out is issued: the tail (`next_offset`), the result of an
    `append`, the tag of every entry a read returns, and every continuation (b1). -/
theorem issued_origins (l : Log α) (hw : WF l) :
    (∀ c, l.nextOffset = .ok c → Issued l c) ∧
    (∀ x size l' c, l.append x size = .ok (l', c) → Issued l' c) ∧
    (∀ c n e, e ∈ expectedRead l c n → Issued l e.2) := by
  refine ⟨?_, ?_, ?_⟩
  · intro c hc
    rw [hw.nextOffset_eq] at hc; cases hc
    exact issued_tail hw
  · intro x size l' c ha
    obtain ⟨l2, h1, hA⟩ := append_spec l hw x size
    rw [ha] at h1; cases h1
    exact issued_tail hA.wf
  · intro c n e he
    have hm : e ∈ tagged l := List.mem_of_mem_drop (List.mem_of_mem_take he)
    exact issued_of_holds hw (holds_of_mem_tagged hm)

/-- C13.d3 A cursor into discarded data resumes at the oldest retained entry: the read equals the
    read from `(head, first retained offset)`, and for `n > 0` its first entry is that entry. -/
theorem stale_resumes_at_oldest (l : Log α) (hist : List α) (h : Rep l hist) (c : Cursor) (n : Nat)
    (hs : c.1 < l.head) :
    expectedRead l c n = expectedRead l (l.head, l.firstAbs) n ∧
    (0 < n → ∃ x, (expectedRead l c n).head? = some (x, (l.head, l.firstAbs)) ∧
      hist[l.firstAbs]? = some x) := by
  constructor
  · simp [expectedRead, cursorAbs, hs]
  · intro hn
    obtain ⟨x, hx⟩ := stale_head l h.wf c n hs hn
    refine ⟨x, hx, ?_⟩
    have hm : (x, (l.head, l.firstAbs)) ∈ expectedRead l c n := List.mem_of_mem_head? hx
    exact (expectedRead_tags l hist h c n _ hm).2

/-- C13.e1 For ANY cursor value (fabricated segment, fabricated offset) `readv` does not panic
    and still returns a correct run of retained entries — those the effective issued cursor
    (`effective`) reads, or nothing — provided the count cannot overflow: `|hist| + n < 2^64`. -/
theorem readv_no_panic_partial (l : Log α) (hist : List α) (h : Rep l hist) (c : Cursor) (n : Nat)
    (hU : hist.length + n < U64) :
    ∃ pos, l.readv c n =
        .ok ((match effective l c with | none => [] | some c' => expectedRead l c' n), pos)
      ∧ (∀ c', effective l c = some c' → Issued l c') := by
  have := h.nextAbs_eq
  exact readv_any l h.wf c n (by omega)

/-- C13.e2 The unrestricted clause is false for the code: with the largest `u64` count a read from
    an issued mid-segment cursor panics (`let mut limit = idx + len` overflows in the dev
    profile; with wrapping arithmetic the slice `data[idx..limit]` panics instead). Witness: two
    appends, then `readv((0,1), u64::MAX)`. -/
theorem readv_panics_for_huge_count :
    ∃ (l : Log Nat), Reached 1024 3 [(1, 600), (2, 600)] l ∧ Issued l (0, 1) ∧
      panicOf (l.readv (0, 1) (U64 - 1)) = some .addOverflow := by
  refine ⟨{ head := 0, tail := 0, maxSegmentSize := 1024, maxMemSegments := 3,
            segments := [{ data := [1, 2], totalSize := 1200, abs := 0 }] }, ⟨_, rfl, rfl⟩, ?_, by decide⟩
  exact ⟨by decide, Or.inr ⟨_, rfl, by decide, by decide⟩⟩

/-- C13.e2' Hence no-panic for every count, without the bound of e1, does not hold of the code. -/
theorem readv_no_panic_unrestricted_false :
    ¬ (∀ (l : Log Nat) (xs : List (Nat × Nat)) (c : Cursor) (n : Nat),
        Reached 1024 3 xs l → ∃ r, l.readv c n = .ok r) := by
  intro hall
  obtain ⟨l, hr, _, hp⟩ := readv_panics_for_huge_count
  obtain ⟨r, hr'⟩ := hall l _ (0, 1) (U64 - 1) hr
  rw [hr'] at hp; cases hp

/-- C13.f The log keeps at most the configured number of segments, always, and
    `segments = tail - head + 1`. -/
theorem segment_count_bounded {ms mm : Nat} {xs : List (α × Nat)} {l : Log α}
    (h : Reached ms mm xs l) :
    l.segments.length ≤ mm ∧ 1 ≤ l.segments.length ∧ l.segments.length = l.tail - l.head + 1 := by
  obtain ⟨hr, hm⟩ := reached_rep h
  have := hr.wf.bound
  have := hr.wf.count
  have := List.length_pos_iff.mpr hr.wf.ne
  omega

/-- C13.g1 The totalised commit log of the router model (`namespace CLog`, no panic branches) is
    the same function as the model above on every well-formed log: `append`, `readv` (any cursor,
    `nextAbs + n < 2^64`) and `next_offset` return exactly the model's (never panicking) answers,
    and `new` agrees for every configuration the real `new` accepts. Hence (a)–(f) hold verbatim
    for the logs inside `Model/Router`. -/
theorem router_copy_agrees (l : CLog.Log α) (hw : WF (logC l)) :
    (∀ x size, (logC l).append x size = .ok (logC (l.append x size).1, (l.append x size).2)) ∧
    (∀ c n, (logC l).nextAbs + n < U64 →
      (logC l).readv c n = .ok ((l.readv c n).1, posC (l.readv c n).2)) ∧
    (logC l).nextOffset = .ok l.nextOffset ∧
    (∀ ms mm, 1024 ≤ ms → 1 ≤ mm →
      (Log.new ms mm : Except Panic (Log α)) = .ok (logC (CLog.Log.new ms mm))) :=
  ⟨fun x size => append_bridge l hw x size, fun c n h => readv_bridge l hw c n h,
   nextOffset_bridge l hw, fun ms mm h1 h2 => new_bridge ms mm h1 h2⟩

/-- C13.g2 Every log the router model can build (`CLog.Log.new` with positive limits, then any
    appends) is well-formed and represents its append history. -/
theorem router_copy_reachable (ms mm : Nat) (hms : 1 ≤ ms) (hmm : 1 ≤ mm) (xs : List (α × Nat)) :
    Rep (logC (xs.foldl (fun l p => (l.append p.1 p.2).1) (CLog.Log.new ms mm))) (xs.map (·.1)) := by
  have h0 := clog_new (α := α) ms mm hms hmm
  obtain ⟨l', h1, h2, _⟩ := appends_rep xs _ [] h0
  rw [appends_bridge xs _ [] h0] at h1
  rw [← Except.ok.inj h1] at h2
  simpa using h2

/-- non-vacuity: a concrete reachable log with three segments after an eviction (segment size 1024, at most 2
    segments, five appends): a stale cursor, a boundary-crossing read, continuation, done. -/
example :
    ∃ l : Log Nat, Reached 1024 2 [(1, 600), (2, 600), (3, 1024), (4, 300), (5, 1)] l ∧
      l.head = 1 ∧ l.tail = 2 ∧ Issued l (0, 1) ∧ Issued l (1, 3) ∧
      l.readv (0, 1) 2 = .ok ([(3, (1, 2)), (4, (2, 3))], .next (1, 2) (2, 4)) ∧
      l.readv (2, 4) 5 = .ok ([(5, (2, 4))], .done (2, 4) (2, 5)) ∧
      l.readv (1, 3) 0 = .ok ([], .next (1, 3) (2, 3)) :=
  ⟨{ head := 1, tail := 2, maxSegmentSize := 1024, maxMemSegments := 2,
     segments := [{ data := [3], totalSize := 1024, abs := 2 }, { data := [4, 5], totalSize := 301, abs := 3 }] },
   ⟨_, rfl, rfl⟩, rfl, rfl, ⟨by decide, Or.inl (by decide)⟩,
   ⟨by decide, Or.inr ⟨_, rfl, by decide, by decide⟩⟩, rfl, rfl, rfl⟩

example : ∃ l : Log Nat, Log.new 1024 1 = .ok l ∧ Rep l [] := ⟨_, rfl, (new_rep (ms := 1024) (mm := 1) rfl).1⟩

end C13
