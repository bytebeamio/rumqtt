/-
C05 — Decoders are total, bounded and chunking-independent.

"For every byte string and every way of splitting it into network reads, each of the four decoders
either yields a packet, reports a malformed-packet error, or (only while the frame its header
declares is still incomplete) asks for more bytes; it never panics, never consumes bytes beyond
the declared frame, never accepts a frame whose declared length exceeds the configured maximum,
and yields the same packet sequence however the bytes were chunked."

Model: `Model/Frame.lean` (follows the Rust text of the four copies c4, c5, b4, b5 and of the
loops `Decoder::decode`/`Framed`, `Network::{read, read_bytes, readv}`); independent statement of
the MQTT framing rules: `Model/FrameSpec.lean`. Every theorem below holds for every copy `c`,
every limit `max` (`none` = c5's `Option<u32>::None`), every byte list and every body reader
`body`; the body readers themselves belong to C04.

One hypothesis remains on some theorems: `Guarded c body` = the copy seals a body reader's
`InsufficientBytes` into `MalformedPacket` (c5, b5: `sealed c = true`, no condition on
the body reader at all — see the `_v5` corollaries) or the body reader never answers
`InsufficientBytes` (`Honest body`). It is genuinely needed for c4 / b4: their `read`/`read_mut`
propagate the body reader's error unchanged, so a v4 body reader that answered `InsufficientBytes`
for a complete frame would be taken for a wait after the frame is gone
(`unsealed_copy_needs_honest_body`). The real v4 readers never do (they do not call `length()`); that
is a fact about the unmodelled body readers, watched by the correspondence (monitor
`needmore-on-complete-frame`), not a defect of the framing layer.
Totality ("either a packet, an error, or a wait") is by construction: `decode1` is a total function
into `Step`; for the Rust code it is decided by the correspondence run under `catch_unwind`.
-/
import Proofs.Lemmas.Frame
import Generated.Consts
namespace C05
open Frame VarInt Bytes

section
variable {Pkt ε : Type} (c : Copy) (body : FixedHeader → ByteList → Except (BodyErr ε) Pkt)
  (max : Limit)

/-- C05.1 ("never consumes bytes beyond the declared frame"): a packet is only produced from a
    buffer that starts with a complete fixed header whose frame is entirely present and within the
    limit; exactly `frameLen` bytes are removed; the body reader was given exactly those bytes. -/
theorem decode1_consumes_frame {bs rest : ByteList} {p : Pkt}
    (h : decode1 c body max bs = .packet p rest) :
    ∃ fh, headerStatus bs = .complete fh.fixedHeaderLen fh.remainingLen ∧
      exceeds max fh.remainingLen = false ∧ fh.frameLen ≤ bs.length ∧
      rest = bs.drop fh.frameLen ∧ body fh (bs.take fh.frameLen) = .ok p := by
  cases Decoded.of_eq h with
  | packet hs he hle hb => exact ⟨⟨bs.headD 0, _, _⟩, hs, he, hle, rfl, hb⟩

/-- C05.1b every outcome that removes bytes (packet, error after the split, panic, swallowed
    frame) removes exactly the declared frame: whatever follows the frame in the buffer only ever
    shows up, untouched, in what is left. (Same statement as C05.4: prefix stability.) -/
theorem decode1_never_reads_past_frame (bs x : ByteList)
    (h : ∀ n, decode1 c body max bs ≠ .needMore n) :
    decode1 c body max (bs ++ x) = (decode1 c body max bs).extend x :=
  decode1_append c body max bs x h

/-- C05.2 ("asks for more bytes only while the declared frame is incomplete", framing layer):
    `InsufficientBytes(n)` is answered exactly when the fixed header is incomplete — then
    `n = 2 - len` below two bytes, else `1` — or the header is complete, within the limit, and the
    frame is not yet entirely in the buffer — then `n` is exactly the number of missing bytes. -/
theorem decode1_needMore_iff (bs : ByteList) (n : Nat) :
    decode1 c body max bs = .needMore n ↔
      (headerStatus bs = .incomplete ∧ n = headerAsk bs) ∨
      (∃ h r, headerStatus bs = .complete h r ∧ exceeds max r = false ∧
        bs.length < h + r ∧ n = h + r - bs.length) := by
  constructor
  · intro h
    cases Decoded.of_eq h with
    | incomplete hs => exact .inl ⟨hs, rfl⟩
    | short hs he hl => exact .inr ⟨_, _, hs, he, hl, rfl⟩
  · rintro (⟨hs, rfl⟩ | ⟨h, r, hs, he, hl, rfl⟩)
    · exact decode1_of_incomplete c body max hs
    · rw [decode1_of_complete c body max hs, he, if_neg Bool.false_ne_true, if_pos hl]

/-- C05.2b nothing is consumed by a wait: the loops keep the whole buffer. -/
theorem needMore_consumes_nothing {bs : ByteList} {n : Nat}
    (h : decode1 c body max bs = .needMore n) : decodeAll c body max bs = ([], .more bs) :=
  decodeAll_needMore h

/-- C05.2c the number asked for never exceeds what is missing: fewer bytes than asked for cannot
    complete the frame (so `read_bytes(n)` never blocks while a complete frame is buffered). -/
theorem needMore_never_overasks {bs : ByteList} {n : Nat}
    (h : decode1 c body max bs = .needMore n) (x : ByteList) (hx : x.length < n) :
    ∃ m, decode1 c body max (bs ++ x) = .needMore m :=
  needMore_lower_bound h x hx

/-- C05.2d ("asks for more bytes only while the declared frame is incomplete", whole decoder): a
    complete frame is never answered with a wait of either kind — neither by the framing layer
    nor by an `InsufficientBytes` leaking out of the body reader. -/
theorem no_wait_on_complete_frame (hg : Guarded c body) {bs : ByteList}
    (hc : FrameComplete bs) :
    (∀ n, decode1 c body max bs ≠ .needMore n) ∧
    (∀ n rest, decode1 c body max bs ≠ .swallowed n rest) := by
  refine ⟨?_, fun n rest => guarded_not_swallowed hg max bs n rest⟩
  intro n hn
  obtain ⟨h, r, hs, hl⟩ := hc
  rcases (decode1_needMore_iff c body max bs n).mp hn with ⟨h1, _⟩ | ⟨h', r', h1, _, h3, _⟩
  · rw [hs] at h1; simp at h1
  · rw [hs] at h1; simp at h1; omega

/-- C05.2d for the v5 copies, unconditionally: whatever the body reader answers. -/
theorem no_wait_on_complete_frame_v5 (hs : sealed c = true) {bs : ByteList}
    (hc : FrameComplete bs) :
    (∀ n, decode1 c body max bs ≠ .needMore n) ∧
    (∀ n rest, decode1 c body max bs ≠ .swallowed n rest) :=
  no_wait_on_complete_frame c body max (Or.inl hs) hc

/-- C05.3 ("never accepts a frame whose declared length exceeds the configured maximum"): as soon
    as the fixed header is complete and declares more than `max`, the answer is
    `PayloadSizeLimitExceeded` — never a packet and never a wait, so an over-limit frame is not
    buffered, however little of it has arrived. -/
theorem decode1_rejects_oversize {bs : ByteList} (h : Oversize max bs) :
    decode1 c body max bs = .tooLarge := by
  obtain ⟨hl, r, m, hs, rfl, hlt⟩ := h
  rw [decode1_of_complete c body (some m) hs, if_pos (show exceeds (some m) r = true from decide_eq_true hlt)]

/-- C05.3b and only then. -/
theorem decode1_tooLarge_iff (bs : ByteList) :
    decode1 c body max bs = .tooLarge ↔ Oversize max bs := by
  constructor
  · intro h
    cases Decoded.of_eq h with
    | oversize hs he =>
      cases max with
      | none => cases he
      | some m => exact ⟨_, _, m, hs, rfl, of_decide_eq_true he⟩
  · exact decode1_rejects_oversize c body max

/-- C05.4 (prefix stability) a packet stays the same packet when more bytes follow … -/
theorem decode1_prefix_stable {bs rest : ByteList} {p : Pkt} (x : ByteList)
    (h : decode1 c body max bs = .packet p rest) :
    decode1 c body max (bs ++ x) = .packet p (rest ++ x) :=
  decode1_append_packet x h

/-- … and an error stays the same error. -/
theorem decode1_error_stable {bs : ByteList} {e : ErrKind} (x : ByteList)
    (h : (decode1 c body max bs).err? = some e) :
    (decode1 c body max (bs ++ x)).err? = some e :=
  decode1_append_err x h

/-- C05.5a ("yields the same packet sequence however the bytes were chunked", client): for every
    chunking, `Framed`'s loop around `Codec::decode`, run to end of stream, yields the packets of
    the concatenation, the same first error, the same kind of end. -/
theorem stream_chunking_independent_client (hg : Guarded c body) (chunks : List ByteList) :
    codecLoop c body max chunks = decodeStream c body max chunks.flatten := by
  unfold codecLoop decodeStream
  have hf := feed_eq c body max hg chunks [] 2 (decode1_of_incomplete c body max rfl)
  simp only [List.nil_append] at hf
  rw [hf]
  cases ht : (decodeAll c body max chunks.flatten).2 with
  | more buf =>
    obtain ⟨m, hm⟩ := decodeAll_more c body max hg _ ht
    simp only
    rw [eofDrain_needMore _ hm]; simp
  | error e => simp [finish]

/-- C05.5b (broker) the same for `Network::read`/`read_bytes`/`readv` as driven by
    `RemoteLink::start`, for every chunking into non-empty socket reads and every
    `max_connection_buffer_len`. -/
theorem stream_chunking_independent_broker (hg : Guarded c body) (k : Nat)
    (chunks : List ByteList) (hne : ∀ ch ∈ chunks, ch ≠ []) :
    netLoop c body max k chunks = decodeStream c body max chunks.flatten := by
  unfold netLoop
  have hf : netMeasure none [] chunks < netFuel [] chunks := Nat.lt_add_of_pos_right (by decide)
  rw [netRun_eq c body max k hg _ none [] chunks hne hf, List.nil_append]

/-- C05.5a/b for the v5 copies, unconditionally (every body reader). -/
theorem stream_chunking_independent_v5 (hs : sealed c = true) (k : Nat) (chunks : List ByteList)
    (hne : ∀ ch ∈ chunks, ch ≠ []) :
    codecLoop c body max chunks = decodeStream c body max chunks.flatten ∧
    netLoop c body max k chunks = decodeStream c body max chunks.flatten :=
  ⟨stream_chunking_independent_client c body max (Or.inl hs) chunks,
    stream_chunking_independent_broker c body max (Or.inl hs) k chunks hne⟩

/-- C05.5c hence two chunkings of the same bytes cannot be told apart, on either side. -/
theorem any_two_chunkings_agree (hg : Guarded c body) (k₁ k₂ : Nat)
    (cs₁ cs₂ : List ByteList) (h : cs₁.flatten = cs₂.flatten)
    (h₁ : ∀ ch ∈ cs₁, ch ≠ []) (h₂ : ∀ ch ∈ cs₂, ch ≠ []) :
    codecLoop c body max cs₁ = codecLoop c body max cs₂ ∧
    netLoop c body max k₁ cs₁ = netLoop c body max k₂ cs₂ := by
  rw [stream_chunking_independent_client c body max hg, stream_chunking_independent_client c body max hg,
    stream_chunking_independent_broker c body max hg k₁ _ h₁,
    stream_chunking_independent_broker c body max hg k₂ _ h₂, h]
  exact ⟨rfl, rfl⟩

/-- C05.5d `readv`'s `max_connection_buffer_len` cut only moves batch boundaries: the batches the
    broker link forms from a buffered burst, concatenated, are the frames of the burst, and the
    run ends the same way. -/
theorem readv_cut_preserves_sequence (hg : Guarded c body) (k : Nat) (buf : ByteList) :
    ((linkBatches c body max k (buf.length + 1) buf).1.flatten,
      (linkBatches c body max k (buf.length + 1) buf).2) = decodeAll c body max buf :=
  linkBatches_flatten c body max k hg _ buf (Nat.lt_succ_self _)

/-- C05.5e the client's `readb` batching (at most `max_readb_count - 1` = 9 packets per call, not
    the 10 the field name suggests) hands the ready packets on in order, none lost or duplicated. -/
theorem readb_batches_preserve_sequence (m : Nat) (ready : List Pkt) :
    (readbBatches m (ready.length + 1) ready).flatten = ready ∧
    ∀ b ∈ readbBatches m (ready.length + 1) ready, b.length ≤ Nat.max (m - 1) 1 :=
  ⟨readbBatches_flatten m _ ready (Nat.lt_succ_self _), readbBatches_bound m _ ready⟩

/-- C05.7 ("never panics", framing and dispatch layer) no copy, no limit, no input and no body
    reader lead into an `unreachable!()` arm. For
    the Rust code as a whole — body readers included — "never panics" is decided by the
    correspondence under `catch_unwind`. -/
theorem decode1_never_panics (bs rest : ByteList) : decode1 c body max bs ≠ .panic rest :=
  decode1_ne_panic c body max bs rest

end

/-- C05.8 the three packets that consist of a fixed header only (`C0 00`, `D0 00`, `E0 00`) are
    accepted by every copy's dispatch without consulting a body reader. The correspondence reports an implementation that rejects one
    of them as `wrong-answer`. -/
theorem canonical_bodiless_accepted (c : Copy) (b0 : UInt8) (h : canonicalBodiless b0 = true) :
    dispatch c (b0.toNat / 16) (b0.toNat % 16) 0 = .accept := by
  have : (b0 = 0xC0 ∨ b0 = 0xD0) ∨ b0 = 0xE0 := by
    simpa [canonicalBodiless] using h
  rcases this with (h | h) | h <;> subst h <;> cases c <;> decide

/-- why `Guarded` cannot be dropped for the v4 copies (a statement about the model's parameter,
    not about a defect): c4 / b4 hand a body reader's `InsufficientBytes` on unchanged, so with a
    body reader that answered it the complete frame `30 02 00 00` would be removed and answered
    with a wait; the sealed v5 copies report it as malformed. -/
theorem unsealed_copy_needs_honest_body :
    let body : FixedHeader → ByteList → Except (BodyErr Unit) Unit :=
      fun _ _ => .error (.insufficient 1)
    FrameComplete [0x30, 0x02, 0x00, 0x00] ∧
    decode1 .c4 body (some 100) [0x30, 0x02, 0x00, 0x00] = .swallowed 1 [] ∧
    decode1 .b4 body (some 100) [0x30, 0x02, 0x00, 0x00] = .swallowed 1 [] ∧
    decode1 .c5 body none [0x30, 0x02, 0x00, 0x00] = .malformed [] ∧
    decode1 .b5 body (some 100) [0x30, 0x02, 0x00, 0x00] = .malformed [] := by
  refine ⟨⟨2, 2, by decide, by decide⟩, rfl, rfl, rfl, rfl⟩

/-- `(write_remaining_length limit, len_len thresholds)` of the four copies as extracted from
    /repo on this run -/
def generatedCopies : List (Nat × List Nat) :=
  [(Generated.REMAINING_LIMIT_C4, Generated.LEN_LEN_THRESHOLDS_C4),
   (Generated.REMAINING_LIMIT_C5, Generated.LEN_LEN_THRESHOLDS_C5),
   (Generated.REMAINING_LIMIT_B4, Generated.LEN_LEN_THRESHOLDS_B4),
   (Generated.REMAINING_LIMIT_B5, Generated.LEN_LEN_THRESHOLDS_B5)]

/-- the constants in all four sources are the MQTT ones: 128⁴ − 1 and 128, 128², 128³ -/
theorem generated_constants :
    ∀ lt ∈ generatedCopies, lt = (128 ^ 4 - 1, [128, 128 ^ 2, 128 ^ 3]) := by decide

/-- C05.6a round trip: for every length the encoder accepts, the decoder reads back exactly that
    length and exactly the bytes the encoder wrote, whatever follows. -/
theorem varint_roundtrip : ∀ lt ∈ generatedCopies, ∀ (n : Nat) (r : List UInt8), n ≤ lt.1 →
    ∃ ds, writeRemainingLength lt.1 n = some ds ∧ VarInt.length (ds ++ r) = .ok ds.length n := by
  intro lt hlt n r hn
  have := generated_constants lt hlt
  subst this
  simp only at hn
  have h1 : ¬ n > 128 ^ 4 - 1 := by omega
  exact ⟨encodeDigits n, by simp [writeRemainingLength, h1], roundtrip n (by simp at hn ⊢; omega) r⟩

/-- C05.6b canonical length: the encoder writes exactly `len_len(n)` bytes, between 1 and 4. -/
theorem varint_canonical_len : ∀ lt ∈ generatedCopies, ∀ (n : Nat), n ≤ lt.1 →
    (encodeDigits n).length = lenLen lt.2 n ∧ 1 ≤ lenLen lt.2 n ∧ lenLen lt.2 n ≤ 4 := by
  intro lt hlt n hn
  obtain rfl := generated_constants lt hlt
  have hn' : n < 268435456 := Nat.lt_succ_of_le hn
  have e : (encodeDigits n).length = lenLen [128, 128 ^ 2, 128 ^ 3] n := encodeDigits_length n hn'
  exact ⟨e, e ▸ encodeFuel_length_pos 9 n, e ▸ encodeFuel_length_le 3 10 n hn'⟩

/-- C05.6c the encoder rejects every length above the limit (and only those). -/
theorem varint_encoder_rejects : ∀ lt ∈ generatedCopies, ∀ (n : Nat),
    writeRemainingLength lt.1 n = none ↔ n > lt.1 := by
  intro lt _ n
  unfold writeRemainingLength
  split <;> simp_all

/-- C05.6d the decoder never reads more than four length bytes and never yields more than the
    encoder's limit. -/
theorem varint_at_most_four_bytes : ∀ lt ∈ generatedCopies, ∀ (bs : List UInt8) (ll l : Nat),
    VarInt.length bs = .ok ll l → 1 ≤ ll ∧ ll ≤ 4 ∧ ll ≤ bs.length ∧ l ≤ lt.1 := by
  intro lt hlt bs ll l h
  have := generated_constants lt hlt
  subst this
  have ⟨h1, h2, h3, h4⟩ := length_ok_bounds h
  refine ⟨h1, h2, h3, ?_⟩
  simp only; omega

/-- C05.6e a fourth length byte with the continuation bit (i.e. a fifth length byte announced) is
    rejected, whatever follows — not waited for. -/
theorem varint_fifth_byte_rejected (b1 b2 b3 b4 : UInt8) (r : List UInt8)
    (h1 : 128 ≤ b1.toNat) (h2 : 128 ≤ b2.toNat) (h3 : 128 ≤ b3.toNat) (h4 : 128 ≤ b4.toNat) :
    VarInt.length (b1 :: b2 :: b3 :: b4 :: r) = .malformed := by
  rw [length_eq_spec, lengthSpec, contLen_cons_ge _ _ (Nat.not_lt.mpr h1),
    contLen_cons_ge _ _ (Nat.not_lt.mpr h2), contLen_cons_ge _ _ (Nat.not_lt.mpr h3),
    contLen_cons_ge _ _ (Nat.not_lt.mpr h4), if_pos (Nat.le_add_left 4 _)]

/-- C05.6f the code's `length` is the MQTT decoding rule (Model/FrameSpec.lean). -/
theorem varint_decoder_is_spec (bs : List UInt8) : VarInt.length bs = lengthSpec bs :=
  length_eq_spec bs

/-! ### non-vacuity: the hypotheses above are satisfiable, on both sides -/

/-- a body reader for the examples: the packet "is" its frame length -/
def exBody : FixedHeader → ByteList → Except (BodyErr Unit) Nat := fun _ fr => .ok fr.length

example : Honest exBody := by intro fh fr n; simp [exBody]
example : sealed .c5 = true ∧ sealed .b5 = true ∧ sealed .c4 = false ∧ sealed .b4 = false := by decide +kernel
example : Guarded .c4 exBody := Or.inr (by intro fh fr n; simp [exBody])
/-- a body reader that leaks `InsufficientBytes` for DISCONNECT, as the v5 reader does for `E0 01 00` -/
def leakyBody : FixedHeader → ByteList → Except (BodyErr Unit) Nat :=
  fun fh fr => if fh.typeNibble = 14 then .error (.insufficient 1) else .ok fr.length
-- CONNACK / UNSUBACK on b5 are decoded, a leaking body reader's frame is a malformed packet on the
-- v5 copies, in one read or two, and `E0 00` reaches the c5 DISCONNECT reader
example : decode1 .b5 exBody (some 1024) [0x20, 0x02, 0x00, 0x00] = .packet 4 [] ∧
    decode1 .b5 exBody (some 1024) [0xB0, 0x02, 0x00, 0x01] = .packet 4 [] := by decide +kernel
example : decode1 .c5 leakyBody none [0xE0, 0x01, 0x00] = .malformed [] ∧
    decode1 .b5 leakyBody (some 100) [0xE0, 0x01, 0x00] = .malformed [] := by decide +kernel
example : netLoop .b5 leakyBody (some 100) 10 [[0xE0, 0x01, 0x00, 0xC0, 0x00]] = ([], .error .malformed) ∧
    netLoop .b5 leakyBody (some 100) 10 [[0xE0, 0x01, 0x00], [0xC0, 0x00]] = ([], .error .malformed) := by
  decide +kernel
example : decode1 .c5 exBody none [0xE0, 0x00] = .packet 2 [] ∧
    decode1 .c5 exBody none [0xE1, 0x00] = .malformed [] ∧ decode1 .b5 exBody none [0xE1, 0x00] = .packet 2 [] := by decide +kernel
-- a PUBLISH `30 03 00 01 61`... (5 bytes) followed by the start of the next frame
example : decode1 .c4 exBody (some 100) [0x30, 0x03, 0x00, 0x01, 0x61, 0xC0] = .packet 5 [0xC0] := by
  decide +kernel
-- header incomplete, frame incomplete (3 of 5 bytes: asks for 2), complete
example : decode1 .b4 exBody (some 100) [0x30] = .needMore 1 ∧
    decode1 .b4 exBody (some 100) [0x30, 0x80] = .needMore 1 ∧
    decode1 .b4 exBody (some 100) [0x30, 0x03, 0x00] = .needMore 2 := by decide +kernel
example : headerStatus [0x30, 0x80] = .incomplete ∧ headerStatus [0x30, 0x83, 0x01] = .complete 3 131 ∧
    headerStatus [0x30, 0xFF, 0xFF, 0xFF, 0xFF] = .malformed := by decide +kernel
-- over the limit: rejected with only the header present; c5 without a limit waits instead
example : Oversize (some 10) [0x30, 0x0B] := ⟨2, 11, 10, by decide, rfl, by decide⟩
example : decode1 .b4 exBody (some 10) [0x30, 0x0B] = .tooLarge ∧
    decode1 .c5 exBody none [0x30, 0x0B] = .needMore 11 := by decide +kernel
-- a stream of two frames and a half, three chunkings
example : codecLoop .c4 exBody (some 100) [[0xC0], [0x00, 0xD0, 0x00, 0x30], [0x02]] =
      ([2, 2], .eofPartial) ∧
    netLoop .b4 exBody (some 100) 1 [[0xC0, 0x00, 0xD0], [0x00, 0x30, 0x02]] = ([2, 2], .eofPartial) ∧
    decodeStream .b4 exBody (some 100) [0xC0, 0x00, 0xD0, 0x00, 0x30, 0x02] = ([2, 2], .eofPartial) := by
  decide +kernel
example : (writeRemainingLength Generated.REMAINING_LIMIT_C4 321 = some [0xC1, 0x02]) ∧
    VarInt.length [0xC1, 0x02, 0x55] = .ok 2 321 ∧
    writeRemainingLength Generated.REMAINING_LIMIT_B5 268435456 = none := by decide +kernel

end C05
