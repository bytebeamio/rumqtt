/-
C07 — Client packet ids and inflight window (state-machine part; the event-loop part — the
channel, reconnect, timers — belongs to the `cloop` slice).

Model: `Client.State` (rumqttc::MqttState v4 and v5, one model), `Client.lstep` (how the event
loop uses it: `pending` first, user requests only through the gate `selectEnabled`, pings and
incoming packets ungated, `clean` on failure). Ghost wire view and monitors: Model/Client/Spec.lean.
All theorems: every `max` with 1 ≤ max ≤ 65535, every op sequence, manual acks on/off.

For the MQTT 3.1.1 client every clause is proved at full strength. For MQTT 5 one corner case
remains in which clauses 1 and 3 fail; it lies in the EVENT LOOP, not in the state machine, and is
a named trigger (Spec.lean): `unsafeConnack` (#17 residual: the loop replays `pending` without
looking at a Receive Maximum the broker lowered in its CONNACK). The full clause is refuted on a
concrete run (`…_fails`, by `decide`) and proved for all runs that avoid exactly that trigger
(`…_partial`). Theorems without a trigger hypothesis are full strength.
-/
import Proofs.Lemmas.ClientTheorems
namespace C07
open Client Client.Spec

/-- Q2 A(1), Q1 B(2), Q1 C(3); PUBREC 1; PUBACK 2; Q1 D: id 1 still awaits PUBCOMP, D is parked
    (finding #11, repaired: D went out with id 1) -/
def run11 : List LOp :=
  [.user (.publish 2 1), .user (.publish 1 2), .user (.publish 1 3), .inc (.pubrec 1 0), .inc (.puback 2 0),
   .user (.publish 1 4)]
/-- A(1), B(2); PUBACK 2; C parks on 1; connection fails (finding #12, repaired: C stayed parked for ever) -/
def run12 : List LOp := [.user (.publish 1 1), .user (.publish 1 2), .inc (.puback 2 0), .user (.publish 1 3), .fail]
/-- v5: A(1), B(2); PUBACK 2; C parks on 1; PUBACK(1, QuotaExceeded) (finding #14, repaired: C never released) -/
def run14 : List LOp := [.user (.publish 1 1), .user (.publish 1 2), .inc (.puback 2 0), .user (.publish 1 3), .inc (.puback 1 151)]
/-- v5: Q2 A(1); PUBREC(1, UnspecifiedError) (finding #15, repaired: `inflight` stayed 1) -/
def run15 : List LOp := [.user (.publish 2 1), .inc (.pubrec 1 128)]
/-- #17 (v5, residual): A(1), B(2); the connection fails; the broker's next CONNACK says Receive
    Maximum 1; the loop replays both -/
def run17 : List LOp :=
  [.user (.publish 1 1), .user (.publish 1 2), .fail, .inc (.connack true false (some 1) none), .pend, .pend]
/-- v5: the limit is lowered below the id counter while nothing is in use (the repaired part of finding #17: id 3 under limit 2) -/
def run17ok : List LOp :=
  [.user (.publish 1 1), .user (.publish 1 2), .inc (.puback 1 0), .inc (.puback 2 0),
   .inc (.connack true false (some 2) none), .user (.publish 1 3)]
/-- Q2 A(1), B(2) both received; C(3) acknowledged; D parks on id 1 (its release is pending);
    failure → `pending = [PubRel 1, PubRel 2, D]`; both releases replayed; second failure →
    `pending = [PubRel 1, PubRel 2, D]` again (what the state held goes in front): D is numbered
    after the releases are registered and parks again (with the loop order before the repair,
    `[D, PubRel 1, PubRel 2]`, D went out with id 2 while release 2 was still to come) -/
def run24 : List LOp :=
  [.user (.publish 2 1), .inc (.pubrec 1 0), .user (.publish 2 2), .inc (.pubrec 2 0), .user (.publish 1 3),
   .inc (.puback 3 0), .user (.publish 1 4), .fail, .pend, .pend, .fail, .pend, .pend, .pend]
/-- a benign run with an out-of-order ack, a wrap-around collision and its resolution -/
def runOk : List LOp :=
  [.user (.publish 1 1), .user (.publish 2 2), .inc (.puback 2 0), .user (.publish 1 3), .inc (.puback 1 0),
   .inc (.pubrec 2 0), .user (.subscribe 1), .inc (.pubcomp 2 0), .fail, .pend, .inc (.puback 1 0)]

/-- C07.0 (full strength, ANY caller — gated or not, any `Request`, any packet, any `clean`):
    the tables keep their length, a stored publish sits in the slot of its id, and
    `inflight ≥ occupied slots + release bits`. This is what makes every `inflight -= 1` and every
    table index in the acknowledgement handlers safe. -/
theorem structural_invariant (ver : Version) (max : Nat) (m : Bool) (ops : List SOp) :
    SInv (ops.foldl sstepSt (State.new ver max m)) := by
  have : ∀ s, SInv s → SInv (ops.foldl sstepSt s) := by
    induction ops with
    | nil => intro s h; exact h
    | cons op ops ih => intro s h; exact ih _ (h.sstepSt op)
  exact this _ (SInv.new ver max m)

/-- C07.2a counter = table occupancy (`inflight` = occupied slots + release bits), both versions:
    along every run that avoids #17 -/
theorem counter_agrees_partial (ver : Version) (max : Nat) (m : Bool) (h1 : 1 ≤ max) (h2 : max ≤ u16Max) (ops : List LOp)
    (hn : Avoids unsafeConnack (LState.new ver max m) ops) :
    Inv3 (lrun (LState.new ver max m) ops) := (new_b1 ver max m h1 h2 ops hn).elim fun _ h => h.i3

/-- `counter_agrees_partial` for MQTT 3.1.1, where no run has an `unsafeConnack`: full strength -/
theorem counter_agrees_v4 (max : Nat) (m : Bool) (h1 : 1 ≤ max) (h2 : max ≤ u16Max) (ops : List LOp) :
    Inv3 (lrun (LState.new .v4 max m) ops) :=
  counter_agrees_partial .v4 max m h1 h2 ops (avoids_unsafe_v4 _ rfl ops)

/-- C07.1 (v4, full strength): every QoS>0 PUBLISH, SUBSCRIBE, UNSUBSCRIBE returned for the wire
    carries an id in `1 ..= max` -/
theorem pkid_range_v4 (max : Nat) (m : Bool) (h1 : 1 ≤ max) (h2 : max ≤ u16Max) (ops : List LOp) :
    Along (fun _ g o _ g' => C07.range g o g' = true) (LState.new .v4 max m) (Ghost.init .v4 max m) ops :=
  (new_along_v4 max m h1 h2 ops).mono fun _ _ _ _ _ h => C07_range_ok h.1

/-- C07.1 (both versions; the limit is the negotiated one): along every run in which no CONNACK
    lowers the limit under what is in use (#17) -/
theorem pkid_range_partial (ver : Version) (max : Nat) (m : Bool) (h1 : 1 ≤ max) (h2 : max ≤ u16Max) (ops : List LOp)
    (hn : Avoids unsafeConnack (LState.new ver max m) ops) :
    Along (fun _ g o _ g' => C07.range g o g' = true) (LState.new ver max m) (Ghost.init ver max m) ops :=
  (new_along ver max m h1 h2 ops hn).mono fun _ _ _ _ _ h => C07_range_ok h.1

/-- the full clause is false in v5 (#17): the replayed publish keeps id 2 under a limit of 1 -/
theorem pkid_range_fails :
    ¬ Along (fun _ g o _ g' => C07.range g o g' = true) (LState.new .v5 3 false) (Ghost.init .v5 3 false) run17 := by
  rw [along_iff_alongB (fun g o g' => C07.range g o g')]; decide +kernel

/-- C07.3 state form (v4, full strength): occupied slots + release bits + requests still to be
    replayed (+ the parked publish) never exceed the configured limit -/
theorem window_bound_v4 (max : Nat) (m : Bool) (h1 : 1 ≤ max) (h2 : max ≤ u16Max) (ops : List LOp) :
    occ (lrun (LState.new .v4 max m) ops).st.outgoingPub + relCount (lrun (LState.new .v4 max m) ops).st.outgoingRel +
      (lrun (LState.new .v4 max m) ops).pending.length ≤ max := by
  obtain ⟨_, h⟩ := new_b1_v4 max m h1 h2 ops
  exact Nat.le_trans h.window_bound (Nat.le_of_eq (lrun_static_v4 (LState.new .v4 max m) rfl ops).1)

/-- C07.3 state form, both versions, against the negotiated limit: along runs without #17 -/
theorem window_bound_state_partial (ver : Version) (max : Nat) (m : Bool) (h1 : 1 ≤ max) (h2 : max ≤ u16Max)
    (ops : List LOp) (hn : Avoids unsafeConnack (LState.new ver max m) ops) :
    occ (lrun (LState.new ver max m) ops).st.outgoingPub + relCount (lrun (LState.new ver max m) ops).st.outgoingRel +
      (lrun (LState.new ver max m) ops).pending.length ≤ (lrun (LState.new ver max m) ops).st.maxInflight := by
  obtain ⟨_, h⟩ := new_b1 ver max m h1 h2 ops hn
  exact h.window_bound

/-- C07.3 wire form: the number of publishes on the wire without their final acknowledgement
    never exceeds the limit — along runs without #17 -/
theorem window_bound_partial (ver : Version) (max : Nat) (m : Bool) (h1 : 1 ≤ max) (h2 : max ≤ u16Max) (ops : List LOp)
    (hn : Avoids unsafeConnack (LState.new ver max m) ops) :
    Along (fun _ _ _ _ g' => C07.window g' = true) (LState.new ver max m) (Ghost.init ver max m) ops :=
  (new_along ver max m h1 h2 ops hn).mono fun _ _ _ _ _ h => C07_window_ok h.1

/-- `window_bound_partial` for MQTT 3.1.1, where no run has an `unsafeConnack`: full strength -/
theorem window_bound_wire_v4 (max : Nat) (m : Bool) (h1 : 1 ≤ max) (h2 : max ≤ u16Max) (ops : List LOp) :
    Along (fun _ _ _ _ g' => C07.window g' = true) (LState.new .v4 max m) (Ghost.init .v4 max m) ops :=
  window_bound_partial .v4 max m h1 h2 ops (avoids_unsafe_v4 _ rfl ops)

/-- the full clause is false in v5 (#17): two unacknowledged publishes under a limit lowered to 1 -/
theorem window_bound_fails :
    ¬ Along (fun _ _ _ _ g' => C07.window g' = true) (LState.new .v5 3 false) (Ghost.init .v5 3 false)
      [.user (.publish 1 1), .user (.publish 1 2), .inc (.connack true false (some 1) none)] := by
  rw [along_iff_alongB (fun _ _ g' => C07.window g')]; decide +kernel

/-- C07.2 state form: no id is at the same time in a slot, in a release bit or in `pending`, and
    nothing is parked while `pending` is not empty — along runs without #17 -/
theorem pkid_unique_state_partial (ver : Version) (max : Nat) (m : Bool) (h1 : 1 ≤ max) (h2 : max ≤ u16Max)
    (ops : List LOp) (hn : Avoids unsafeConnack (LState.new ver max m) ops) :
    Inv2 (lrun (LState.new ver max m) ops) := (new_b1 ver max m h1 h2 ops hn).elim fun _ h => h.i2

/-- `pkid_unique_state_partial` for MQTT 3.1.1, where no run has an `unsafeConnack`: full strength -/
theorem pkid_unique_state_v4 (max : Nat) (m : Bool) (h1 : 1 ≤ max) (h2 : max ≤ u16Max) (ops : List LOp) :
    Inv2 (lrun (LState.new .v4 max m) ops) :=
  pkid_unique_state_partial .v4 max m h1 h2 ops (avoids_unsafe_v4 _ rfl ops)

/-- C07.2 wire form: no two simultaneously unacknowledged publishes (final ack = PUBACK resp.
    PUBCOMP) carry the same id — along runs without #17 -/
theorem pkid_unique_partial (ver : Version) (max : Nat) (m : Bool) (h1 : 1 ≤ max) (h2 : max ≤ u16Max) (ops : List LOp)
    (hn : Avoids unsafeConnack (LState.new ver max m) ops) :
    Along (fun _ _ _ _ g' => C07.dupId g' = true) (LState.new ver max m) (Ghost.init ver max m) ops :=
  (new_along ver max m h1 h2 ops hn).mono fun _ _ _ _ _ h => C07_dupId_ok h.1

/-- `pkid_unique_partial` for MQTT 3.1.1, where no run has an `unsafeConnack`: full strength -/
theorem pkid_unique_v4 (max : Nat) (m : Bool) (h1 : 1 ≤ max) (h2 : max ≤ u16Max) (ops : List LOp) :
    Along (fun _ _ _ _ g' => C07.dupId g' = true) (LState.new .v4 max m) (Ghost.init .v4 max m) ops :=
  pkid_unique_partial .v4 max m h1 h2 ops (avoids_unsafe_v4 _ rfl ops)

/-- C07.5 state form (v4, full strength): the id a parked publish waits for is held by a slot or
    a release bit — the acknowledgement that frees it releases the publish -/
theorem collision_resolvable_state_v4 (max : Nat) (m : Bool) (h1 : 1 ≤ max) (h2 : max ≤ u16Max) (ops : List LOp) :
    Inv4 (lrun (LState.new .v4 max m) ops) := (new_b1_v4 max m h1 h2 ops).elim fun _ h => h.i4

/-- C07.5 state form, both versions: along runs without #17 -/
theorem collision_resolvable_state_partial (ver : Version) (max : Nat) (m : Bool) (h1 : 1 ≤ max) (h2 : max ≤ u16Max)
    (ops : List LOp) (hn : Avoids unsafeConnack (LState.new ver max m) ops) :
    Inv4 (lrun (LState.new ver max m) ops) := (new_b1 ver max m h1 h2 ops hn).elim fun _ h => h.i4

/-- C07.5 wire form: … is held by an unacknowledged publish of the connection — along runs without #17 -/
theorem collision_resolvable_partial (ver : Version) (max : Nat) (m : Bool) (h1 : 1 ≤ max) (h2 : max ≤ u16Max)
    (ops : List LOp) (hn : Avoids unsafeConnack (LState.new ver max m) ops) :
    Along (fun _ _ o _ g' => C07.resolvable g' o = true) (LState.new ver max m) (Ghost.init ver max m) ops :=
  (new_along ver max m h1 h2 ops hn).mono fun _ _ _ _ _ h => C07_resolvable_ok h.1

/-- `collision_resolvable_partial` for MQTT 3.1.1, where no run has an `unsafeConnack`: full strength -/
theorem collision_resolvable_v4 (max : Nat) (m : Bool) (h1 : 1 ≤ max) (h2 : max ≤ u16Max) (ops : List LOp) :
    Along (fun _ _ o _ g' => C07.resolvable g' o = true) (LState.new .v4 max m) (Ghost.init .v4 max m) ops :=
  collision_resolvable_partial .v4 max m h1 h2 ops (avoids_unsafe_v4 _ rfl ops)

/-- C07.4a (full strength, by construction of `lstep`, which mirrors the guard of the request
    branch of `select!`): a request is taken from the channel only if `pending` is empty, the
    counter is below the limit and no publish is parked — and whenever that holds it is taken -/
theorem request_taken_iff_gate_open (l : LState) (u : UserReq) :
    (lop? l (.user u)).isSome = true ↔
      (l.pending = [] ∧ l.st.inflight < l.st.maxInflight ∧ l.st.collision = none) := by
  obtain ⟨s, pd⟩ := l
  cases pd <;> simp [lop?, selectEnabled, pendingReady, windowOpen_iff]

/-- C07.4a' (full strength): the head of `pending` is taken iff it is a retransmission (owns a packet
    id) or the window is open: retransmissions are never held back, a request that merely waited
    in `pending` (the publish that was parked when the connection failed) obeys flow control -/
theorem pending_taken_iff_ready (s : State) (r : Request) (rest : List Request) :
    (lop? ⟨s, r :: rest⟩ .pend).isSome = true ↔
      ((∃ p, r = .publish p ∧ p.pkid ≠ 0) ∨ (∃ i, r = .pubrel i) ∨ (s.inflight < s.maxInflight ∧ s.collision = none)) := by
  cases r <;> simp [lop?, pendingReady, windowOpen_iff]

/-- C07.4b flow resumes: whenever fewer publishes than the limit are unacknowledged, nothing is
    parked and nothing pending, the gate is open — along runs without #17 -/
theorem flow_resumes_partial (ver : Version) (max : Nat) (m : Bool) (h1 : 1 ≤ max) (h2 : max ≤ u16Max) (ops : List LOp)
    (hn : Avoids unsafeConnack (LState.new ver max m) ops) :
    Along (fun _ _ o _ g' => C07.resumes g' o = true) (LState.new ver max m) (Ghost.init ver max m) ops :=
  (new_along ver max m h1 h2 ops hn).mono fun _ _ _ _ _ h => C07_resumes_ok h.1

/-- `flow_resumes_partial` for MQTT 3.1.1, where no run has an `unsafeConnack`: full strength -/
theorem flow_resumes_v4 (max : Nat) (m : Bool) (h1 : 1 ≤ max) (h2 : max ≤ u16Max) (ops : List LOp) :
    Along (fun _ _ o _ g' => C07.resumes g' o = true) (LState.new .v4 max m) (Ghost.init .v4 max m) ops :=
  flow_resumes_partial .v4 max m h1 h2 ops (avoids_unsafe_v4 _ rfl ops)

/-- C07.4c (v4 full strength; both versions along runs without #17) the unnumbered publish waiting
    in `pending` cannot starve: whenever it is the head of `pending`, the window is open -/
theorem parked_replay_never_blocked (ver : Version) (max : Nat) (m : Bool) (h1 : 1 ≤ max) (h2 : max ≤ u16Max)
    (ops : List LOp) (hn : Avoids unsafeConnack (LState.new ver max m) ops) (r : Request) (rest : List Request)
    (hp : (lrun (LState.new ver max m) ops).pending = r :: rest) :
    pendingReady (lrun (LState.new ver max m) ops).st (lrun (LState.new ver max m) ops).pending = true := by
  obtain ⟨_, hb⟩ := new_b1 ver max m h1 h2 ops hn
  have hopen := hb.window_open (by rw [hp]; exact List.cons_ne_nil _ _)
  rw [hp]
  cases r <;> simp [pendingReady, hopen]

/-- the executable monitor `C07.check` (the one evaluated on traces of the real `MqttState`)
    accepts every trace of the model that avoids #17 -/
theorem monitor_passes_partial (ver : Version) (max : Nat) (m : Bool) (h1 : 1 ≤ max) (h2 : max ≤ u16Max) (ops : List LOp)
    (hn : Avoids unsafeConnack (LState.new ver max m) ops) :
    C07.check (Ghost.init ver max m) (ltrace (LState.new ver max m) ops) = .ok :=
  monitor_ok C07.checks (fun _ _ _ _ _ h _ => C07_checks_ok h) max m h1 h2 ops hn

/-- MQTT 3.1.1: every trace (full strength) -/
theorem monitor_passes_v4 (max : Nat) (m : Bool) (h1 : 1 ≤ max) (h2 : max ≤ u16Max) (ops : List LOp) :
    C07.check (Ghost.init .v4 max m) (ltrace (LState.new .v4 max m) ops) = .ok :=
  monitor_passes_partial .v4 max m h1 h2 ops (avoids_unsafe_v4 _ rfl ops)

/-! regression examples: the runs of the repaired findings -/
example : C07.check (Ghost.init .v4 3 false) (ltrace (LState.new .v4 3 false) run11) = .ok :=
  monitor_passes_v4 3 false (by decide) (by decide) _
example : C07.check (Ghost.init .v4 2 false) (ltrace (LState.new .v4 2 false) (run12 ++ [.pend, .pend, .inc (.puback 1 0)])) = .ok :=
  monitor_passes_v4 2 false (by decide) (by decide) _
example : C07.check (Ghost.init .v5 2 false) (ltrace (LState.new .v5 2 false) run14) = .ok :=
  monitor_passes_partial .v5 2 false (by decide) (by decide) _ (by decide +kernel)
example : C07.check (Ghost.init .v5 1 false) (ltrace (LState.new .v5 1 false) run15) = .ok :=
  monitor_passes_partial .v5 1 false (by decide) (by decide) _ (by decide +kernel)
example : C07.check (Ghost.init .v5 3 false) (ltrace (LState.new .v5 3 false) run17ok) = .ok :=
  monitor_passes_partial .v5 3 false (by decide) (by decide) _ (by decide +kernel)
example : C07.check (Ghost.init .v4 3 false) (ltrace (LState.new .v4 3 false) run24) = .ok :=
  monitor_passes_v4 3 false (by decide) (by decide) _
example : (lrun (LState.new .v4 3 false) run11).st.collision.isSome = true := by decide +kernel
example : (lrun (LState.new .v5 2 false) run14).st.collision = none := by decide +kernel
example : (lrun (LState.new .v5 1 false) run15).st.inflight = 0 := by decide +kernel
example : (lrun (LState.new .v4 3 false) (run24.take 11)).pending = [.pubrel 1, .pubrel 2, .publish ⟨1, 0, 4, none⟩] := by decide +kernel
example : (lrun (LState.new .v4 3 false) run24).st.collision = some ⟨1, 2, 4, none⟩ := by decide +kernel

/-! non-vacuity: each hypothesis is met by a run that exercises the clause -/
example : Avoids unsafeConnack (LState.new .v5 2 false) runOk := by decide +kernel
example : Avoids unsafeConnack (LState.new .v5 3 false) run17ok := by decide +kernel
example : Avoids unsafeConnack (LState.new .v5 2 false) run14 := by decide +kernel
example : (lrun (LState.new .v4 2 false) (runOk.take 4)).st.collision.isSome = true := by decide +kernel
example : Avoids unsafeConnack (LState.new .v5 10 false)
    [.inc (.connack true false (some 3) (some 5)), .user (.publish 1 1), .user (.publish 1 2)] := by decide +kernel
example : ¬ Avoids unsafeConnack (LState.new .v5 3 false) run17 := by decide +kernel

end C07
