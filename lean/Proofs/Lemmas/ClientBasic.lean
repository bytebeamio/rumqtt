/-
Table lemmas: how `set` moves the occupancy counts of `outgoing_pub` and `outgoing_rel`, how a property of all
occupied slots / all set bits survives a `set`, and "slot `i` is occupied" (`occAt`), "bit `i` is set"
(`relContains`), "id `i` is in use" (`busyId`) under point updates.
-/
import Model.Client.Spec
namespace Client
open Client.Spec

theorem getElem?_lt_of_some {α} {l : List α} {i : Nat} {a : α} (h : l[i]? = some a) : i < l.length :=
  (List.getElem?_eq_some_iff.mp h).1

/-- `set` moves a count by what leaves the position and what enters it -/
theorem countP_set_add {α} (p : α → Bool) {l : List α} {i : Nat} {x : α} (h : l[i]? = some x) (a : α) :
    (l.set i a).countP p + (if p x then 1 else 0) = l.countP p + (if p a then 1 else 0) := by
  obtain ⟨hi, rfl⟩ := List.getElem?_eq_some_iff.mp h
  have hpos : p l[i] = true → 0 < l.countP p := fun hp => List.countP_pos_iff.mpr ⟨_, List.getElem_mem hi, hp⟩
  rw [List.countP_set hi]
  split <;> split <;> simp_all <;> omega

theorem countP_set_le {α} (p : α → Bool) (l : List α) (i : Nat) (a : α) :
    (l.set i a).countP p ≤ l.countP p + (if p a then 1 else 0) := by
  cases h : l[i]? with
  | none => rw [List.set_eq_of_length_le (by simpa using h)]; omega
  | some x => have := countP_set_add p h a; omega

theorem countP_range_getElem? {α} (P : α → Bool) (bs : List α) :
    (List.range bs.length).countP (fun i => (bs[i]?.map P).getD false) = bs.countP P := by
  induction bs with
  | nil => rfl
  | cons b bs ih =>
    rw [List.length_cons, List.range_succ_eq_map, List.countP_cons, List.countP_map, List.countP_cons, ← ih]
    rfl

theorem length_eq_countP {α} (P : α → Bool) (bs : List α) {l : List Nat} (hn : l.Nodup)
    (hm : ∀ i, i ∈ l ↔ ∃ x, bs[i]? = some x ∧ P x = true) : l.length = bs.countP P := by
  rw [← countP_range_getElem?, List.countP_eq_length_filter]
  refine ((List.perm_ext_iff_of_nodup hn (List.nodup_range.filter _)).mpr fun i => ?_).length_eq
  rw [hm, List.mem_filter, List.mem_range]
  constructor
  · rintro ⟨x, hx, hp⟩; exact ⟨getElem?_lt_of_some hx, by simp [hx, hp]⟩
  · rintro ⟨hi, hp⟩
    rw [List.getElem?_eq_getElem hi] at hp
    exact ⟨_, List.getElem?_eq_getElem hi, hp⟩

theorem occ_set_some (l : List (Option Pub)) (i : Nat) (p : Pub) (h : l[i]? = some none) :
    occ (l.set i (some p)) = occ l + 1 := by
  simpa [occ] using countP_set_add Option.isSome h (some p)

theorem occ_set_none (l : List (Option Pub)) (i : Nat) (p : Pub) (h : l[i]? = some (some p)) :
    occ (l.set i none) + 1 = occ l := by
  simpa [occ] using countP_set_add Option.isSome h none

theorem occ_set_le (l : List (Option Pub)) (i : Nat) (o : Option Pub) : occ (l.set i o) ≤ occ l + 1 := by
  have := countP_set_le Option.isSome l i o
  unfold occ; split at this <;> omega

theorem relCount_set_true (l : List Bool) (i : Nat) (h : l[i]? = some false) :
    relCount (l.set i true) = relCount l + 1 := by
  simpa [relCount] using countP_set_add id h true

theorem relCount_set_false (l : List Bool) (i : Nat) (h : l[i]? = some true) :
    relCount (l.set i false) + 1 = relCount l := by
  simpa [relCount] using countP_set_add id h false

theorem relCount_set_le (l : List Bool) (i : Nat) (b : Bool) : relCount (l.set i b) ≤ relCount l + 1 := by
  have := countP_set_le id l i b
  unfold relCount; split at this <;> omega

theorem occ_pos_of_slot (l : List (Option Pub)) (i : Nat) (p : Pub) (h : l[i]? = some (some p)) : 0 < occ l := by
  have := occ_set_none l i p h; omega

theorem relCount_pos_of_bit (l : List Bool) (i : Nat) (h : l[i]? = some true) : 0 < relCount l := by
  have := relCount_set_false l i h; omega

theorem occ_map_none (l : List (Option Pub)) : occ (l.map (fun _ => none)) = 0 := by
  simp [occ, List.countP_map]

theorem relCount_map_false (l : List Bool) : relCount (l.map (fun _ => false)) = 0 := by
  simp [relCount, List.countP_map]

theorem occ_replicate (n : Nat) : occ (List.replicate n none) = 0 := by
  simp [occ, List.countP_replicate]

theorem relCount_replicate (n : Nat) : relCount (List.replicate n false) = 0 := by
  simp [relCount, List.countP_replicate]

theorem slots_set {l : List (Option Pub)} {P : Nat → Pub → Prop} (h : ∀ i p, l[i]? = some (some p) → P i p)
    (k : Nat) (o : Option Pub) (ho : ∀ q, o = some q → P k q) (i : Nat) (p : Pub)
    (hi : (l.set k o)[i]? = some (some p)) : P i p := by
  rw [List.getElem?_set] at hi
  split at hi
  · subst k
    split at hi
    · exact ho p (Option.some.inj hi)
    · cases hi
  · exact h i p hi

theorem bits_set {l : List Bool} {P : Nat → Prop} (h : ∀ i, l[i]?.getD false = true → P i)
    (k : Nat) (b : Bool) (hb : b = true → P k) (i : Nat) (hi : (l.set k b)[i]?.getD false = true) : P i := by
  rw [List.getElem?_set] at hi
  split at hi
  · subst k
    split at hi
    · exact hb hi
    · cases hi
  · exact h i hi

theorem relContains_eq (s : State) (i : Nat) : relContains s i = true ↔ s.outgoingRel[i]? = some true := by
  unfold relContains
  cases s.outgoingRel[i]? <;> simp

theorem length_eq_relCount {R : List Nat} {s : State} (hn : R.Nodup) (hm : ∀ i : Nat, i ∈ R ↔ relContains s i = true) :
    R.length = relCount s.outgoingRel :=
  length_eq_countP id s.outgoingRel hn fun i => (hm i).trans
    ((relContains_eq s i).trans ⟨fun h => ⟨true, h, rfl⟩, fun ⟨_, h, hb⟩ => (show _ = true from hb) ▸ h⟩)

theorem relContains_false_of_lt (s : State) (i : Nat) (hi : i < s.outgoingRel.length)
    (h : relContains s i = false) : s.outgoingRel[i]? = some false := by
  unfold relContains at h
  rw [List.getElem?_eq_getElem hi] at h ⊢
  simpa using h

theorem new_slot (ver : Version) (max : Nat) (m : Bool) (i : Nat) (p : Pub) :
    (State.new ver max m).outgoingPub[i]? ≠ some (some p) := by
  simp [State.new, List.getElem?_replicate]

theorem new_rel (ver : Version) (max : Nat) (m : Bool) (i : Nat) : relContains (State.new ver max m) i = false := by
  simp only [relContains, State.new, List.getElem?_replicate]
  split <;> rfl

theorem cleanState_slot (s : State) (i : Nat) (p : Pub) : (cleanState s).outgoingPub[i]? ≠ some (some p) := by
  simp [cleanState, List.getElem?_map]

theorem cleanState_rel (s : State) (i : Nat) : relContains (cleanState s) i = false := by
  show ((s.outgoingRel.map _)[i]?).getD false = false
  rw [List.getElem?_map]; cases s.outgoingRel[i]? <;> rfl

theorem occAt_iff (s : State) (i : Nat) : occAt s i = true ↔ ∃ x, s.outgoingPub[i]? = some (some x) := by
  unfold occAt
  cases h : s.outgoingPub[i]? with
  | none => simp
  | some v => cases v <;> simp

theorem occAt_false_iff (s : State) (i : Nat) : occAt s i = false ↔ (s.outgoingPub[i]? = none ∨ s.outgoingPub[i]? = some none) := by
  unfold occAt
  cases h : s.outgoingPub[i]? with
  | none => simp
  | some v => cases v <;> simp

theorem occAt_of_set {s s' : State} {i : Nat} {v : Option Pub} (he : s'.outgoingPub = s.outgoingPub.set i v)
    (hi : i < s.outgoingPub.length) (j : Nat) : occAt s' j = if i = j then v.isSome else occAt s j := by
  unfold occAt
  rw [he, List.getElem?_set]
  by_cases hij : i = j
  · subst hij; simp only [hi, if_true]; cases v <;> rfl
  · simp only [hij, if_false]

theorem occAt_congr {s s' : State} (he : s'.outgoingPub = s.outgoingPub) (j : Nat) : occAt s' j = occAt s j := by
  unfold occAt; rw [he]

theorem relContains_congr {s s' : State} (he : s'.outgoingRel = s.outgoingRel) (j : Nat) :
    relContains s' j = relContains s j := by
  unfold relContains; rw [he]

theorem relContains_of_set {s s' : State} {i : Nat} {b : Bool} (he : s'.outgoingRel = s.outgoingRel.set i b)
    (hi : i < s.outgoingRel.length) (j : Nat) : relContains s' j = if i = j then b else relContains s j := by
  unfold relContains
  rw [he, List.getElem?_set, if_pos hi]
  split
  · rfl
  · rfl

/-- "nothing written" as a write at `i` of what was there (the form `Inv2.write` and `Inv4.write` take) -/
theorem occAt_noop {s s' : State} (he : s'.outgoingPub = s.outgoingPub) (i j : Nat) :
    occAt s' j = if i = j then occAt s i else occAt s j := by
  rw [occAt_congr he]; split
  · subst_vars; rfl
  · rfl

theorem relContains_noop {s s' : State} (he : s'.outgoingRel = s.outgoingRel) (i j : Nat) :
    relContains s' j = if i = j then relContains s i else relContains s j := by
  rw [relContains_congr he]; split
  · subst_vars; rfl
  · rfl

/-- the id is in use: a publish is stored under it or its release is pending -/
def busyId (s : State) (i : Nat) : Prop :=
  (∃ x, s.outgoingPub[i]? = some (some x)) ∨ relContains s i = true

theorem busyId_iff (s : State) (i : Nat) : busyId s i ↔ (occAt s i = true ∨ relContains s i = true) := by
  unfold busyId; rw [occAt_iff]

theorem busyId_of_tables {s s' : State} (e1 : s'.outgoingPub = s.outgoingPub) (e2 : s'.outgoingRel = s.outgoingRel)
    (i : Nat) : busyId s' i ↔ busyId s i := by
  unfold busyId relContains; rw [e1, e2]

end Client
