import Model.Topic
import Model.TopicSpec
/-!
C12: the boolean validators and the matching loop say what the relations of `Model/TopicSpec.lean` say. A level check comes
down to `byteLen_eq_one`; both validators see the levels as "all but the last, then the last"; the matcher is compared with
`Matches` by induction on the filter's levels.
-/
namespace Topic

theorem splitLevels_ne_nil (s : Str) : splitLevels s ≠ [] := by
  cases s with
  | nil => simp [splitLevels]
  | cons c cs =>
    unfold splitLevels
    split
    · simp
    · split <;> simp

theorem byteLen_pos_of_ne_nil : ∀ (s : Str), s ≠ [] → 0 < byteLen s
  | [], h => absurd rfl h
  | c :: cs, _ => by
    have := Char.utf8Size_pos c
    simp [byteLen]; omega

theorem byteLen_eq_one (s : Str) (c : Char) (hc : c ∈ s) (hsz : c.utf8Size = 1) :
    byteLen s = 1 ↔ s = [c] := by
  constructor
  · intro h
    match s, hc, h with
    | [a], hc, _ => simp at hc; simp [hc]
    | a :: b :: r, _, h =>
      have := Char.utf8Size_pos a
      have := Char.utf8Size_pos b
      simp [byteLen] at h; omega
  · intro h; subst h; simp [byteLen, hsz]

theorem plus_size : ('+' : Char).utf8Size = 1 := by decide
theorem hash_size : ('#' : Char).utf8Size = 1 := by decide

theorem mem_split (c : Char) (hc : c ≠ '/') (s : Str) :
    c ∈ s ↔ ∃ l ∈ splitLevels s, c ∈ l := by
  induction s with
  | nil => simp [splitLevels]
  | cons a as ih =>
    unfold splitLevels
    split
    · rename_i h; subst h
      simp only [List.mem_cons, hc, false_or]
      rw [ih]; simp
    · have hne := splitLevels_ne_nil as
      split
      · rename_i heq; exact absurd heq hne
      · rename_i l ls heq
        rw [heq] at ih
        simp only [List.mem_cons, exists_eq_or_imp] at ih ⊢
        rw [ih]
        exact or_assoc.symm

theorem levelPlain_iff (l : Level) :
    LevelPlain l ↔ (l.contains '+' = false ∧ l.contains '#' = false) := by
  simp [LevelPlain]

theorem innerOk_iff (l : Level) : innerOk l = true ↔ (LevelPlain l ∨ l = ['+']) := by
  rw [innerOk, levelPlain_iff]
  by_cases hh : '#' ∈ l
  · simp [hh]; intro h; subst h; simp at hh
  · by_cases hp : '+' ∈ l
    · have h1 := byteLen_eq_one l '+' hp plus_size
      have hpos := byteLen_pos_of_ne_nil l (by intro h; subst h; simp at hp)
      simp [hh, hp]
      constructor
      · intro h; apply h1.mp; omega
      · intro h; have := h1.mpr h; omega
    · simp [hh, hp]

theorem lastOk_iff (l : Level) : lastOk l = true ↔ (LevelPlain l ∨ l = ['+'] ∨ l = ['#']) := by
  rw [lastOk, levelPlain_iff]
  by_cases hh : '#' ∈ l
  · have h1 := byteLen_eq_one l '#' hh hash_size
    simp [hh]
    constructor
    · intro h; right; exact h1.mp h
    · rintro (h | h)
      · subst h; simp at hh
      · exact h1.mpr h
  · by_cases hp : '+' ∈ l
    · have h1 := byteLen_eq_one l '+' hp plus_size
      simp [hh, hp]
      constructor
      · intro h; left; exact h1.mp h
      · rintro (h | h)
        · exact h1.mpr h
        · subst h; simp at hp
    · simp [hh, hp]

theorem filterLevelsOk_append_last (ls : List Level) (last : Level) :
    FilterLevelsOk (ls ++ [last]) ↔
      ((∀ l ∈ ls, LevelPlain l ∨ l = ['+']) ∧ (LevelPlain last ∨ last = ['+'] ∨ last = ['#'])) := by
  induction ls with
  | nil => simp [FilterLevelsOk]
  | cons a as ih =>
    cases as with
    | nil => simp [FilterLevelsOk]
    | cons b bs =>
      simp only [List.cons_append] at ih ⊢
      simp only [FilterLevelsOk]
      rw [ih]
      simp only [List.mem_cons, forall_eq_or_imp]
      exact and_assoc.symm

theorem splitLevels_eq_concat (s : Str) : ∃ ls last, splitLevels s = ls ++ [last] :=
  ⟨_, _, (List.dropLast_concat_getLast (splitLevels_ne_nil s)).symm⟩

theorem validFilterB_iff (f : Str) : validFilterB f = true ↔ ValidFilter f := by
  unfold validFilterB ValidFilter
  by_cases hf : f = []
  · simp [hf]
  · obtain ⟨ls, last, hsplit⟩ := splitLevels_eq_concat f
    simp only [List.isEmpty_iff, hf, if_false, hsplit, List.getLast?_append, List.getLast?_singleton,
      Option.some_or, List.dropLast_concat, ne_eq, not_false_eq_true, true_and]
    rw [filterLevelsOk_append_last]
    by_cases hall : ls.all innerOk = true
    · simp only [hall, Bool.not_true, Bool.false_eq_true, if_false, lastOk_iff]
      have : ∀ l ∈ ls, LevelPlain l ∨ l = ['+'] := by
        intro l hl
        exact (innerOk_iff l).mp (List.all_eq_true.mp hall l hl)
      exact ⟨fun h => ⟨this, h⟩, fun h => h.2⟩
    · have hall' : ls.all innerOk = false := by simpa using hall
      simp only [hall', Bool.not_false, if_true, Bool.false_eq_true, false_iff, not_and]
      intro hcontra
      exfalso
      apply hall
      apply List.all_eq_true.mpr
      intro l hl; exact (innerOk_iff l).mpr (hcontra l hl)

theorem validFilterC_eq_B (f : Str) : validFilterC f = validFilterB f := by
  unfold validFilterC validFilterB
  by_cases hf : f = []
  · simp [hf]
  · obtain ⟨ls, last, hsplit⟩ := splitLevels_eq_concat f
    simp only [List.isEmpty_iff, hf, if_false, hsplit, List.reverse_append, List.reverse_cons,
      List.reverse_nil, List.nil_append, List.singleton_append, List.getLast?_append,
      List.getLast?_singleton, Option.some_or, List.dropLast_concat, List.all_reverse]
    cases lastOk last <;> cases ls.all innerOk <;> simp

theorem validTopic_iff (t : Str) : validTopic t = true ↔ ValidTopic t := by
  unfold validTopic ValidTopic LevelPlain
  have hp := mem_split '+' (by decide) t
  have hh := mem_split '#' (by decide) t
  simp only [Bool.not_eq_true', Bool.or_eq_false_iff, List.contains_eq_mem, decide_eq_false_iff_not]
  rw [hp, hh]
  constructor
  · rintro ⟨h1, h2⟩ l hl
    exact ⟨fun h => h1 ⟨l, hl, h⟩, fun h => h2 ⟨l, hl, h⟩⟩
  · intro h
    exact ⟨fun ⟨l, hl, hc⟩ => (h l hl).1 hc, fun ⟨l, hl, hc⟩ => (h l hl).2 hc⟩

theorem plain_ne_hash {l : Level} (h : LevelPlain l) : l ≠ ['#'] := by
  intro e; subst e; simp [LevelPlain] at h
theorem plain_ne_plus {l : Level} (h : LevelPlain l) : l ≠ ['+'] := by
  intro e; subst e; simp [LevelPlain] at h

theorem matchLoop_iff (fs : List Level) : ∀ (ts : List Level),
    (∀ l ∈ ts, LevelPlain l) → FilterLevelsOk fs → (matchLoop ts fs = true ↔ Matches ts fs) := by
  induction fs with
  | nil =>
    intro ts _ _
    cases ts with
    | nil => simp [matchLoop]; exact Matches.nil
    | cons t ts => simp [matchLoop]; intro h; cases h
  | cons f fs ih =>
    intro ts hts hfs
    unfold matchLoop
    by_cases hfh : f = ['#']
    · subst hfh
      have : fs = [] := by
        cases fs with
        | nil => rfl
        | cons g gs =>
          simp only [FilterLevelsOk] at hfs
          rcases hfs.1 with h | h
          · exact absurd rfl (plain_ne_hash h)
          · simp at h
      subst this
      simp; exact Matches.hash ts
    · have hfs' : FilterLevelsOk fs := by
        cases fs with
        | nil => trivial
        | cons g gs => exact hfs.2
      simp only [hfh, if_false]
      cases ts with
      | nil =>
        simp
        intro h
        cases h
        exact hfh rfl
      | cons t ts' =>
        have htp : LevelPlain t := hts t (by simp)
        have hts' : ∀ l ∈ ts', LevelPlain l := fun l hl => hts l (by simp [hl])
        have hth : t ≠ ['#'] := plain_ne_hash htp
        simp only [hth, if_false]
        by_cases hfp : f = ['+']
        · subst hfp
          simp only [if_true]
          rw [ih ts' hts' hfs']
          constructor
          · exact Matches.plus
          · intro h
            cases h with
            | plus h => exact h
            | lit h1 _ _ => exact absurd rfl h1
        · simp only [hfp, if_false]
          by_cases hft : f = t
          · subst hft
            simp only [ne_eq, not_true_eq_false, if_false]
            rw [ih ts' hts' hfs']
            constructor
            · exact Matches.lit hfp hfh
            · intro h
              cases h with
              | hash => exact absurd rfl hfh
              | plus h => exact absurd rfl hfp
              | lit _ _ h => exact h
          · simp only [ne_eq, hft, not_false_eq_true, if_true, Bool.false_eq_true, false_iff]
            intro h
            cases h with
            | hash => exact hfh rfl
            | plus h => exact hfp rfl
            | lit _ _ _ => exact hft rfl

/-- inverse of `splitLevels`: the levels joined with '/' -/
def joinLevels : List Level → Str
  | [] => []
  | [l] => l
  | l :: l' :: ls => l ++ '/' :: joinLevels (l' :: ls)

theorem joinLevels_splitLevels (s : Str) : joinLevels (splitLevels s) = s := by
  induction s with
  | nil => rfl
  | cons c cs ih =>
    unfold splitLevels
    split
    · next hc =>
      subst hc
      cases hs : splitLevels cs with
      | nil => exact absurd hs (splitLevels_ne_nil cs)
      | cons l ls => rw [hs] at ih; simp [joinLevels, ih]
    · cases hs : splitLevels cs with
      | nil => exact absurd hs (splitLevels_ne_nil cs)
      | cons l ls =>
        rw [hs] at ih
        cases ls with
        | nil => simpa [joinLevels] using ih
        | cons l' ls' => simp only [joinLevels] at ih ⊢; rw [← ih]; simp

theorem splitLevels_inj {s t : Str} (h : splitLevels s = splitLevels t) : s = t := by
  rw [← joinLevels_splitLevels s, ← joinLevels_splitLevels t, h]

theorem levels_plain_of_no_wildcards {f : Str} (hf : hasWildcards f = false) :
    ∀ l ∈ splitLevels f, l ≠ ['+'] ∧ l ≠ ['#'] := by
  simp only [hasWildcards, Bool.or_eq_false_iff, List.contains_eq_mem, decide_eq_false_iff_not] at hf
  intro l hl
  constructor
  · intro e; subst e
    exact hf.1 ((mem_split '+' (by decide) f).mpr ⟨_, hl, by simp⟩)
  · intro e; subst e
    exact hf.2 ((mem_split '#' (by decide) f).mpr ⟨_, hl, by simp⟩)

theorem matchLoop_eq_of_plain (fs : List Level) : ∀ (ts : List Level),
    (∀ l ∈ fs, l ≠ ['+'] ∧ l ≠ ['#']) → matchLoop ts fs = true → ts = fs := by
  induction fs with
  | nil =>
    intro ts _ h
    cases ts with
    | nil => rfl
    | cons t ts => simp [matchLoop] at h
  | cons f fs ih =>
    intro ts hfs h
    have hf := hfs f (by simp)
    unfold matchLoop at h
    simp only [hf.2, if_false] at h
    cases ts with
    | nil => simp at h
    | cons t ts' =>
      simp only [hf.1, if_false] at h
      by_cases ht : t = ['#']
      · simp [ht] at h
      · simp only [ht, if_false] at h
        by_cases hft : f = t
        · subst hft
          simp only [ne_eq, not_true_eq_false, if_false] at h
          rw [ih ts' (fun l hl => hfs l (by simp [hl])) h]
        · simp [hft] at h

theorem matchesImpl_no_wildcards {t f : Str} (hf : hasWildcards f = false)
    (h : matchesImpl t f = true) : t = f := by
  unfold matchesImpl at h
  split at h
  · cases h
  · exact splitLevels_inj (matchLoop_eq_of_plain _ _ (levels_plain_of_no_wildcards hf) h)

end Topic
