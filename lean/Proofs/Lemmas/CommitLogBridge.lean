/-
The router model's totalised commit log (`namespace CLog` in Model/CommitLog.lean), read as a log of the
panic-explicit model through `logC`. `CLog.*`: what the copy computes by itself, on ANY log; `…_bridge`:
on a well-formed log it computes exactly what the model computes; `clog_*`: the C13 facts for `logC l`.
-/
import Proofs.Lemmas.CommitLog

namespace CommitLog
variable {α : Type}

@[simp] theorem segC_abs (s : CLog.Seg α) : (segC s).abs = s.abs := rfl
@[simp] theorem segC_data (s : CLog.Seg α) : (segC s).data = s.data := rfl
@[simp] theorem segC_len (s : CLog.Seg α) : (segC s).len = s.data.length := rfl
@[simp] theorem segC_next (s : CLog.Seg α) : (segC s).next = s.next := rfl

end CommitLog

namespace CLog
open CommitLog
variable {α : Type}

theorem tagFrom_eq (seg : Nat) : ∀ (o : Nat) (xs : List α),
    tagFrom seg o xs = (xs.zipIdx o).map fun p => (p.1, (seg, p.2))
  | _, [] => rfl
  | o, x :: xs => by simp [tagFrom, tagFrom_eq seg (o + 1) xs]

theorem tagFrom_length (seg o : Nat) (l : List α) : (tagFrom seg o l).length = l.length := by
  rw [tagFrom_eq, List.length_map, List.length_zipIdx]

theorem mem_tagFrom {seg o : Nat} {l : List α} {e : α × Cursor} (h : e ∈ tagFrom seg o l) : e.1 ∈ l := by
  rw [tagFrom_eq] at h
  obtain ⟨p, hp, rfl⟩ := List.mem_map.mp h
  exact (List.mem_zipIdx hp).2.2 ▸ List.getElem_mem _

/-- last clause: on `done nxt` the entries read fit into what the walk subtracts from `len` -/
theorem Seg.readv_sub (s : Seg α) (cur : Cursor) (len : Nat) :
    (∀ e ∈ (s.readv cur len).1, e.1 ∈ s.data) ∧ (s.readv cur len).1.length ≤ len ∧
    ∀ nxt, (s.readv cur len).2 = .done nxt →
      (s.readv cur len).1.length + (if nxt ≥ cur.2 then len - (nxt - cur.2) else len) ≤ len := by
  unfold Seg.readv
  simp only []
  split
  · refine ⟨by simp, by simp, fun nxt _ => ?_⟩
    simp only [List.length_nil]
    split <;> omega
  · rename_i h1
    split
    · rename_i h2
      simp only [tagFrom_length, List.length_drop]
      refine ⟨fun e he => List.mem_of_mem_drop (mem_tagFrom he), by omega, fun nxt hn => ?_⟩
      simp only [SPos.done.injEq] at hn
      subst hn
      unfold Seg.next
      split <;> omega
    · simp only [tagFrom_length, List.length_take, List.length_drop]
      exact ⟨fun e he => List.mem_of_mem_drop (List.mem_of_mem_take (mem_tagFrom he)), by omega,
        fun nxt hn => by simp at hn⟩

theorem walk_sub (start : Cursor) : ∀ (segs : List (Seg α)) (cur : Cursor) (len : Nat) (out : List (α × Cursor)),
    ∃ es, (walk start segs cur len out).1 = out ++ es ∧ es.length ≤ len ∧ ∀ e ∈ es, ∃ sg ∈ segs, e.1 ∈ sg.data
  | [], cur, len, out => ⟨[], by simp [walk]⟩
  | [act], cur, len, out => by
    obtain ⟨hm, hl, -⟩ := act.readv_sub cur len
    simp only [walk]
    split
    · exact ⟨[], by simp⟩
    · split
      all_goals
        rename_i o v heq
        rw [heq] at hm hl
        exact ⟨o, rfl, hl, fun e he => ⟨act, List.mem_singleton.mpr rfl, hm e he⟩⟩
  | s :: r :: rest, cur, len, out => by
    obtain ⟨hm, hl, hd⟩ := s.readv_sub cur len
    have here : ∀ e ∈ (s.readv cur len).1, ∃ sg ∈ s :: r :: rest, e.1 ∈ sg.data :=
      fun e he => ⟨s, List.mem_cons_self, hm e he⟩
    simp only [walk]
    split
    · rename_i o off heq
      rw [heq] at hl here
      exact ⟨o, rfl, hl, here⟩
    · rename_i o nxt heq
      rw [heq] at hl hd here
      have h2 := hd nxt rfl
      simp only [] at h2
      generalize (if nxt ≥ cur.2 then len - (nxt - cur.2) else len) = len' at *
      split
      · exact ⟨o, rfl, hl, here⟩
      · obtain ⟨es, he, hle, hmem⟩ := walk_sub start (r :: rest) (cur.1 + 1, nxt) len' (out ++ o)
        refine ⟨o ++ es, by rw [he, List.append_assoc], by rw [List.length_append]; omega, fun e h => ?_⟩
        rcases List.mem_append.mp h with h | h
        · exact here e h
        · obtain ⟨sg, hsg, h⟩ := hmem e h
          exact ⟨sg, List.mem_cons_of_mem _ hsg, h⟩

theorem Log.readv_sub (l : Log α) (start : Cursor) (len : Nat) :
    (l.readv start len).1.length ≤ len ∧ ∀ e ∈ (l.readv start len).1, ∃ sg ∈ l.segs, e.1 ∈ sg.data := by
  have key : ∀ st segs cur, (∀ sg ∈ segs, sg ∈ l.segs) → (walk st segs cur len []).1.length ≤ len ∧
      ∀ e ∈ (walk st segs cur len []).1, ∃ sg ∈ l.segs, e.1 ∈ sg.data := by
    intro st segs cur hs
    obtain ⟨es, he, hle, hmem⟩ := walk_sub st segs cur len []
    rw [he, List.nil_append]
    exact ⟨hle, fun e h => (hmem e h).imp fun sg hsg => ⟨hs sg hsg.1, hsg.2⟩⟩
  unfold Log.readv
  split
  · simp
  · simp only []
    split
    · simp
    · exact key _ _ _ fun sg h => List.mem_of_mem_drop h

theorem Log.readv_length (l : Log α) (start : Cursor) (len : Nat) : (l.readv start len).1.length ≤ len :=
  (l.readv_sub start len).1

theorem Log.readv_mem (l : Log α) (start : Cursor) (len : Nat) :
    ∀ e ∈ (l.readv start len).1, ∃ sg ∈ l.segs, e.1 ∈ sg.data :=
  (l.readv_sub start len).2

theorem Log.applyRetention_mem (l : Log α) : ∀ sg ∈ l.applyRetention.segs, sg ∈ l.segs ∨ sg.data = [] := by
  intro sg hsg
  unfold Log.applyRetention at hsg
  split at hsg
  · exact .inl hsg
  · split at hsg
    · simp only [] at hsg
      rcases List.mem_append.mp hsg with h | h
      · split at h
        · exact .inl (List.mem_of_mem_drop h)
        · exact .inl h
      · simp only [List.mem_singleton] at h; subst h; exact .inr rfl
    · exact .inl hsg

theorem Log.append_mem (l : Log α) (x : α) (sz : Nat) :
    ∀ sg ∈ (l.append x sz).1.segs, ∀ a ∈ sg.data, a = x ∨ ∃ sg0 ∈ l.segs, a ∈ sg0.data := by
  intro sg hsg a ha
  have hret := l.applyRetention_mem
  have old : ∀ sg1 ∈ l.applyRetention.segs, a ∈ sg1.data → ∃ sg0 ∈ l.segs, a ∈ sg0.data := by
    intro sg1 h1 h2
    rcases hret sg1 h1 with h | h
    · exact ⟨sg1, h, h2⟩
    · rw [h] at h2; cases h2
  unfold Log.append at hsg
  simp only [] at hsg
  split at hsg
  · exact .inr (old sg hsg ha)
  · rename_i act hact
    simp only [] at hsg
    rcases List.mem_append.mp hsg with h | h
    · exact .inr (old sg (List.dropLast_subset _ h) ha)
    · simp only [List.mem_singleton] at h; subst h
      simp only [] at ha
      rcases List.mem_append.mp ha with h | h
      · exact .inr (old act (List.mem_of_getLast? hact) h)
      · simp only [List.mem_singleton] at h; exact .inl h

theorem Seg.readv_at (s : Seg α) (i k len : Nat) :
    s.readv (i, s.abs + k) len = (((tagSeg i (segC s)).drop k).take len,
      if k + len < s.data.length then .next (s.abs + k + len) else .done s.next) := by
  unfold Seg.readv tagSeg
  simp only [segC_data, segC_abs, Nat.add_sub_cancel_left, tagFrom_eq, ← List.map_drop,
    ← List.map_take, drop_zipIdx', take_zipIdx']
  by_cases h1 : k ≥ s.data.length
  · rw [if_pos h1, if_neg (by omega), List.drop_eq_nil_of_le h1, List.take_nil, List.zipIdx_nil,
      List.map_nil]
  · rw [if_neg h1]
    by_cases h3 : k + len < s.data.length
    · rw [if_neg (by omega), if_pos h3, Nat.add_assoc]
    · rw [if_pos (by omega), if_neg h3, List.take_of_length_le (by simp; omega)]

theorem Log.readv_eq_walk (l : Log α) (c : Cursor) (n : Nat) (g : Seg α)
    (h1 : l.head ≤ c.1) (h2 : c.1 ≤ l.tail) (hg : l.segs[c.1 - l.head]? = some g) :
    l.readv c n = walk (offsetJump (segC g) c) (l.segs.drop (c.1 - l.head))
      (offsetJump (segC g) c) n [] := by
  unfold Log.readv
  rw [if_neg (Nat.not_lt.mpr h2)]
  simp only [if_neg (Nat.not_lt.mpr h1), drop_eq_cons_of_getElem? hg]
  rfl

theorem Log.readv_stale (l : Log α) (c : Cursor) (n : Nat) (f : Seg α)
    (hf : l.segs.head? = some f) (hs : c.1 < l.head) (ht : l.head ≤ l.tail) :
    l.readv c n = l.readv (l.head, f.abs) n := by
  unfold Log.readv
  rw [if_neg (show ¬ c.1 > l.tail by omega),
    if_neg (show ¬ (l.head, f.abs).1 > l.tail from Nat.not_lt.mpr ht)]
  simp only [if_pos hs, hf, Nat.lt_irrefl, if_false, Option.map_some, Option.getD_some]

end CLog

namespace CommitLog
variable {α : Type}

theorem segC_readv_at (s : CLog.Seg α) (i k len : Nat) (hU : s.data.length + len < U64) :
    (segC s).readv (i, s.abs + k) len = .ok (((tagSeg i (segC s)).drop k).take len,
      if k + len < s.data.length then .next (s.abs + k + len) else .done s.next) :=
  Seg.readv_at (segC s) i k len hU

theorem walk_bridge (l : CLog.Log α) (start : Cursor) :
    ∀ (rest : List (CLog.Seg α)) (idx : Nat) (curr : CLog.Seg α) (i k len : Nat)
      (out : List (Entry α)),
      l.segs.drop idx = curr :: rest →
      Contig ((curr :: rest).map segC) →
      (∀ g ∈ curr :: rest, g.data.length + len < U64) →
      Log.walk (logC l) start rest.length idx (segC curr) (i, curr.abs + k) len out =
        .ok ((CLog.walk start (curr :: rest) (i, curr.abs + k) len out).1,
             posC (CLog.walk start (curr :: rest) (i, curr.abs + k) len out).2) := by
  intro rest
  induction rest with
  | nil =>
    intro idx curr i k len out _ _ hU
    rw [List.length_nil, Log.walk, CLog.walk, readActive, segC_next]
    by_cases hn : curr.next ≤ (i, curr.abs + k).2
    · rw [if_pos hn, if_pos hn]; rfl
    · rw [if_neg hn, if_neg hn, segC_readv_at curr i k len (hU curr (by simp)),
        CLog.Seg.readv_at]
      by_cases hlt : k + len < curr.data.length
      · rw [if_pos hlt, if_pos hlt]; rfl
      · rw [if_neg hlt, if_neg hlt]; rfl
  | cons r rs ih =>
    intro idx curr i k len out hd hc hU
    rw [List.length_cons, Log.walk, CLog.walk, segC_readv_at curr i k len (hU curr (by simp)),
      CLog.Seg.readv_at]
    by_cases hlt : k + len < curr.data.length
    · rw [if_pos hlt, if_pos hlt]; rfl
    · have hsub : curr.next - (curr.abs + k) ≤ len := by simp only [CLog.Seg.next]; omega
      have hdec : (if curr.next ≥ curr.abs + k then len - (curr.next - (curr.abs + k)) else len)
          = len - (curr.next - (curr.abs + k)) := by split <;> omega
      obtain ⟨hr, hd'⟩ := drop_succ_of_drop_eq hd
      have hidx : (logC l).segments[idx + 1]? = some (segC r) := by simp [logC, hr]
      rw [if_neg hlt, if_neg hlt]
      simp only [decLen_eq len curr.next (curr.abs + k) hsub, hdec, hidx]
      split
      · rfl
      · rw [show curr.next = r.abs from hc.head_next]
        exact ih (idx + 1) r (i + 1) 0 _ _ hd' hc.tail (fun g hg => by
          have := hU g (List.mem_cons_of_mem _ hg); omega)

theorem logC_getLast? (l : CLog.Log α) : (logC l).segments.getLast? = l.segs.getLast?.map segC := by
  simp [logC, List.getLast?_map]

theorem exists_getLast?_of_logC {l : CLog.Log α} (h : (logC l).segments ≠ []) :
    ∃ a, l.segs.getLast? = some a := by
  cases h' : l.segs.getLast? with
  | none => exact absurd (by simp [logC, List.getLast?_eq_none_iff.mp h']) h
  | some a => exact ⟨a, rfl⟩

theorem readv_bridge_retained (l : CLog.Log α) (hw : WF (logC l)) (c : Cursor) (n : Nat)
    (h1 : l.head ≤ c.1) (h2 : c.1 ≤ l.tail) (hU : (logC l).nextAbs + n < U64) :
    (logC l).readv c n = .ok ((l.readv c n).1, posC (l.readv c n).2) := by
  have hcount : l.head + l.segs.length = l.tail + 1 := by simpa [logC] using hw.count
  obtain ⟨g, hg⟩ : ∃ g, l.segs[c.1 - l.head]? = some g :=
    ⟨_, List.getElem?_eq_getElem (by omega)⟩
  have hg' : (logC l).segments[c.1 - (logC l).head]? = some (segC g) := by simp [logC, hg]
  have hd := drop_eq_cons_of_getElem? hg
  obtain ⟨k, hk⟩ : ∃ k, offsetJump (segC g) c = (c.1, g.abs + k) := by
    unfold offsetJump
    split
    · exact ⟨0, rfl⟩
    · exact ⟨c.2 - g.abs, by rw [Nat.add_sub_of_le (Nat.le_of_not_lt ‹_›)]⟩
  have hfuel : (logC l).tail - c.1 = (l.segs.drop (c.1 - l.head + 1)).length := by
    rw [List.length_drop]; show l.tail - c.1 = _; omega
  rw [readv_eq_walk (logC l) c n (segC g) h1 h2 hg', l.readv_eq_walk c n g h1 h2 hg, hk, hd,
    hfuel]
  refine walk_bridge l _ _ (c.1 - l.head) g c.1 k n [] hd ?_ fun g' hg' => ?_
  · rw [← hd, List.map_drop]; exact hw.contig.drop _
  · have := hw.next_le (segC g') (List.mem_map_of_mem (List.mem_of_mem_drop (hd ▸ hg')))
    simp only [Seg.next, segC_abs, segC_len] at this; omega

theorem readv_bridge (l : CLog.Log α) (hw : WF (logC l)) (c : Cursor) (n : Nat)
    (hU : (logC l).nextAbs + n < U64) :
    (logC l).readv c n = .ok ((l.readv c n).1, posC (l.readv c n).2) := by
  have hcount : l.head + l.segs.length = l.tail + 1 := by simpa [logC] using hw.count
  by_cases ht : c.1 > l.tail
  · rw [Log.readv, if_pos (show c.1 > (logC l).tail from ht), CLog.Log.readv, if_pos ht]; rfl
  by_cases hs : c.1 < l.head
  · obtain ⟨f, hf⟩ : ∃ f, l.segs.head? = some f := by
      cases h : l.segs with
      | nil => exact absurd (by simp [logC, h]) hw.ne
      | cons f r => exact ⟨f, rfl⟩
    have hp : 0 < l.segs.length := List.length_pos_of_mem (List.mem_of_mem_head? hf)
    have hfa : (logC l).firstAbs = f.abs := by simp [Log.firstAbs, logC, hf]
    rw [readv_stale (logC l) hw c n hs, l.readv_stale c n f hf hs (by omega), hfa]
    exact readv_bridge_retained l hw (l.head, f.abs) n (Nat.le_refl _) (by omega) hU
  · exact readv_bridge_retained l hw c n (by omega) (by omega) hU

theorem applyRetention_bridge (l : CLog.Log α) (a : CLog.Seg α) (ha : l.segs.getLast? = some a) :
    (logC l).applyRetention = .ok (logC l.applyRetention) := by
  unfold Log.applyRetention Log.activeSegment CLog.Log.applyRetention
  rw [logC_getLast?, ha]
  simp only [Option.map_some]
  show (if a.size ≥ l.maxSize then
      if (l.segs.map segC).length ≥ l.maxSegs then _ else _ else _) = _
  rw [List.length_map]
  split
  · split <;> simp [logC, segC, Seg.withOffset, CLog.Seg.next, Seg.next, Seg.len]
  · rfl

theorem append_bridge (l : CLog.Log α) (hw : WF (logC l)) (x : α) (sz : Nat) :
    (logC l).append x sz = .ok (logC (l.append x sz).1, (l.append x sz).2) := by
  obtain ⟨a, ha⟩ := exists_getLast?_of_logC hw.ne
  have hret := applyRetention_bridge l a ha
  obtain ⟨l1, h1, hw0, _⟩ := applyRetention_spec (logC l) hw
  rw [hret] at h1; cases h1
  obtain ⟨b, hb⟩ := exists_getLast?_of_logC hw0.ne
  unfold Log.append CLog.Log.append
  rw [hret]
  simp only [hb]
  unfold Log.pushActive
  rw [logC_getLast?, hb]
  simp only [Option.map_some, Log.nextOffset, Log.activeSegment]
  simp [logC, segC, Seg.push, CLog.Seg.next, Seg.next, Seg.len, List.map_dropLast]

theorem new_bridge (ms mm : Nat) (h1 : 1024 ≤ ms) (h2 : 1 ≤ mm) :
    (Log.new ms mm : Except Panic (Log α)) = .ok (logC (CLog.Log.new ms mm)) := by
  have h1' : ¬ ms < 1024 := by omega
  have h2' : ¬ mm < 1 := by omega
  simp [Log.new, h1', h2', logC, CLog.Log.new, segC, Seg.new]

theorem nextOffset_bridge (l : CLog.Log α) (hw : WF (logC l)) :
    (logC l).nextOffset = .ok l.nextOffset := by
  obtain ⟨a, h⟩ := exists_getLast?_of_logC hw.ne
  simp [Log.nextOffset, Log.activeSegment, h, CLog.Log.nextOffset, logC]

theorem clog_new (ms mm : Nat) (h1 : 1 ≤ ms) (h2 : 1 ≤ mm) :
    Rep (logC (CLog.Log.new ms mm : CLog.Log α)) [] :=
  rep_fresh ms mm h1 h2

theorem clog_append (l : CLog.Log α) (hist : List α) (h : Rep (logC l) hist) (x : α) (sz : Nat) :
    Rep (logC (l.append x sz).1) (hist ++ [x]) ∧ SegMono (logC l) (logC (l.append x sz).1) ∧
      (l.append x sz).2 = ((l.append x sz).1.tail, hist.length + 1) := by
  obtain ⟨l', h1, h2, h3, _⟩ := append_rep (logC l) hist h x sz
  rw [append_bridge l h.wf] at h1
  obtain ⟨e1, e2⟩ := Prod.mk.inj (Except.ok.inj h1)
  rw [← e1] at h2 h3 e2
  exact ⟨h2, h3, e2⟩

theorem appends_bridge (xs : List (α × Nat)) : ∀ (l : CLog.Log α) (hist : List α), Rep (logC l) hist →
    (logC l).appends xs = .ok (logC (xs.foldl (fun l p => (l.append p.1 p.2).1) l)) := by
  induction xs with
  | nil => intro l hist _; rfl
  | cons p ps ih =>
    intro l hist h
    rw [Log.appends, append_bridge l h.wf]
    exact ih _ _ (clog_append l hist h p.1 p.2).1

theorem clog_nextOffset (l : CLog.Log α) (hist : List α) (h : Rep (logC l) hist) :
    l.nextOffset = (l.tail, hist.length) ∧ Issued (logC l) l.nextOffset ∧ l.head ≤ l.tail := by
  have hb := nextOffset_bridge l h.wf
  rw [h.wf.nextOffset_eq] at hb
  have he : l.nextOffset = ((logC l).tail, (logC l).nextAbs) := (Except.ok.inj hb).symm
  have := h.wf.count
  have := List.length_pos_iff.mpr h.wf.ne
  refine ⟨by rw [he, h.nextAbs_eq]; rfl, he ▸ issued_tail h.wf, ?_⟩
  show (logC l).head ≤ (logC l).tail
  omega

theorem clog_readv (l : CLog.Log α) (hist : List α) (h : Rep (logC l) hist) (c : Cursor) (n : Nat)
    (hi : Issued (logC l) c) (hU : hist.length + n < U64) :
    (l.readv c n).1 = expectedRead (logC l) c n ∧
    (posC (l.readv c n).2).end_.2 = cursorAbs (logC l) c + (expectedRead (logC l) c n).length ∧
    Issued (logC l) (posC (l.readv c n).2).end_ ∧ (logC l).head ≤ (posC (l.readv c n).2).end_.1 ∧
    ((posC (l.readv c n).2).isDone = true ↔
      cursorAbs (logC l) c + (expectedRead (logC l) c n).length = hist.length) := by
  obtain ⟨pos, h1, h2, h3, h4, h5⟩ := readv_rep (logC l) hist h c n hi hU
  rw [readv_bridge l h.wf c n (by rw [h.nextAbs_eq]; exact hU)] at h1
  obtain ⟨e1, e2⟩ := Prod.mk.inj (Except.ok.inj h1)
  rw [e2]
  exact ⟨e1, h2, h3, h4, h5⟩

theorem clog_readv_add (l : CLog.Log α) (hist : List α) (h : Rep (logC l) hist) (c : Cursor) (n m : Nat)
    (hi : Issued (logC l) c) (hnm : hist.length + (n + m) < U64) :
    (l.readv c n).1 ++ (l.readv (posC (l.readv c n).2).end_ m).1 = (l.readv c (n + m)).1 := by
  obtain ⟨e1, e2, e3, e4, _⟩ := clog_readv l hist h c n hi (by omega)
  rw [e1, (clog_readv l hist h _ m e3 (by omega)).1, (clog_readv l hist h c (n + m) hi hnm).1]
  exact expectedRead_add (logC l) h.wf c _ n m hi e4 e2

end CommitLog
