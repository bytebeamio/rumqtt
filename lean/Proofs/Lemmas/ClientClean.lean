/-
What `clean()` returns: stored publishes, set release bits, the parked publish; the v4 order (sorted by send stamp) is
a permutation of the table.
-/
import Proofs.Lemmas.ClientSInv
namespace Client
open Client.Spec

theorem mem_pubRequests (l : List (Option Pub)) (r : Request) :
    r ∈ pubRequests l ↔ ∃ p, r = .publish p ∧ some p ∈ l := by
  simp only [pubRequests, List.mem_filterMap]
  constructor
  · rintro ⟨o, ho, h⟩
    cases o <;> cases h
    exact ⟨_, rfl, ho⟩
  · rintro ⟨p, rfl, hp⟩
    exact ⟨some p, hp, rfl⟩

theorem insertStamp_perm (x : Nat × Pub) (l : List (Nat × Pub)) : (insertStamp x l).Perm (x :: l) := by
  induction l with
  | nil => exact List.Perm.refl _
  | cons y ys ih =>
    unfold insertStamp
    split
    · exact List.Perm.refl _
    · exact (List.Perm.cons y ih).trans (List.Perm.swap x y ys)

theorem sortStamped_perm (l : List (Nat × Pub)) : (sortStamped l).Perm l := by
  induction l with
  | nil => exact List.Perm.refl _
  | cons x xs ih =>
    simp only [sortStamped, List.foldr_cons]
    exact (insertStamp_perm x _).trans (List.Perm.cons x ih)

theorem stamped_map (pubs : List (Option Pub)) (ord : List Nat) (h : pubs.length ≤ ord.length) :
    (stamped pubs ord).map (fun x => Request.publish x.2) = pubRequests pubs := by
  induction pubs generalizing ord with
  | nil => simp [stamped, pubRequests]
  | cons a pubs ih =>
    cases ord with
    | nil => simp at h
    | cons o ord =>
      have := ih ord (by simpa using h)
      simp only [stamped, pubRequests, List.zip_cons_cons, List.filterMap_cons] at this ⊢
      cases a <;> simp [this]

theorem cleanPubs_perm {s : State} (h : SInv s) : (cleanPubs s).Perm (pubRequests s.outgoingPub) := by
  unfold cleanPubs
  split
  · have hl : s.outgoingPub.length ≤ s.outgoingOrder.length := by rw [h.lenPub, h.lenOrd]; exact Nat.le_refl _
    rw [← stamped_map s.outgoingPub s.outgoingOrder hl]
    exact (sortStamped_perm _).map _
  · exact List.Perm.refl _

theorem mem_cleanPubs {s : State} (h : SInv s) (r : Request) :
    r ∈ cleanPubs s ↔ ∃ p, r = .publish p ∧ some p ∈ s.outgoingPub := by
  rw [(cleanPubs_perm h).mem_iff, mem_pubRequests]

theorem length_pubRequests (l : List (Option Pub)) : (pubRequests l).length = occ l := by
  unfold pubRequests occ
  induction l with
  | nil => rfl
  | cons a l ih =>
    cases a with
    | none => simpa [List.filterMap_cons] using ih
    | some p => simp [ih]

theorem length_cleanPubs {s : State} (h : SInv s) : (cleanPubs s).length = occ s.outgoingPub := by
  rw [(cleanPubs_perm h).length_eq, length_pubRequests]

theorem relOnesFrom_eq (l : List Bool) (off : Nat) :
    relOnesFrom l off = ((List.range l.length).filter (fun i => l[i]?.getD false)).map (· + off) := by
  induction l generalizing off with
  | nil => rfl
  | cons b l ih =>
    rw [relOnesFrom, ih, List.length_cons, List.range_succ_eq_map, List.filter_cons, List.filter_map]
    have e : ((fun i => (b :: l)[i]?.getD false) ∘ Nat.succ) = fun i => l[i]?.getD false := rfl
    rw [e]
    cases b <;> simp [List.map_map, Function.comp_def, Nat.add_assoc, Nat.add_comm 1]

theorem relOnes_eq (s : State) : relOnes s = (List.range s.outgoingRel.length).filter (relContains s) := by
  unfold relOnes; rw [relOnesFrom_eq]; simp; rfl

theorem mem_relOnes (s : State) (i : Nat) : i ∈ relOnes s ↔ relContains s i = true := by
  rw [relOnes_eq, List.mem_filter, List.mem_range]
  exact ⟨fun h => h.2, fun h => ⟨getElem?_lt_of_some ((relContains_eq s i).mp h), h⟩⟩

theorem relOnes_nodup (s : State) : (relOnes s).Nodup := by
  rw [relOnes_eq]; exact List.nodup_range.filter _

theorem length_relOnes (s : State) : (relOnes s).length = relCount s.outgoingRel :=
  length_eq_relCount (relOnes_nodup s) (mem_relOnes s)

theorem mem_cleanParked (s : State) (r : Request) :
    r ∈ cleanParked s ↔ ∃ c, s.collision = some c ∧ r = .publish { c with pkid := 0 } := by
  unfold cleanParked; cases s.collision <;> simp

theorem length_cleanParked (s : State) : (cleanParked s).length = if s.collision.isSome then 1 else 0 := by
  unfold cleanParked; cases s.collision <;> rfl

theorem length_cleanRequests {s : State} (h : SInv s) :
    (cleanRequests s).length = occ s.outgoingPub + relCount s.outgoingRel + (if s.collision.isSome then 1 else 0) := by
  simp [cleanRequests, length_cleanPubs h, length_relOnes, length_cleanParked]
  omega

theorem mem_cleanRequests {s : State} (h : SInv s) (r : Request) :
    r ∈ cleanRequests s ↔ (∃ p, r = .publish p ∧ some p ∈ s.outgoingPub) ∨ (∃ i, r = .pubrel i ∧ relContains s i = true) ∨
      (∃ c, s.collision = some c ∧ r = .publish { c with pkid := 0 }) := by
  unfold cleanRequests
  rw [List.mem_append, List.mem_append, mem_cleanPubs h, mem_cleanParked]
  simp only [List.mem_map, mem_relOnes]
  constructor
  · rintro ((h' | ⟨i, hi, rfl⟩) | h')
    · exact Or.inl h'
    · exact Or.inr (Or.inl ⟨i, rfl, hi⟩)
    · exact Or.inr (Or.inr h')
  · rintro (h' | ⟨i, rfl, hi⟩ | h')
    · exact Or.inl (Or.inl h')
    · exact Or.inl (Or.inr ⟨i, hi, rfl⟩)
    · exact Or.inr h'

theorem pubIds_append (a b : List Request) : pubIds (a ++ b) = pubIds a ++ pubIds b :=
  List.filterMap_append

theorem pubTags_append (a b : List Request) : pubTags (a ++ b) = pubTags a ++ pubTags b :=
  List.filterMap_append

theorem pubIds_map_pubrel (l : List Nat) : pubIds (l.map Request.pubrel) = [] :=
  List.filterMap_eq_nil_iff.mpr fun _ h => by obtain ⟨_, _, rfl⟩ := List.mem_map.mp h; rfl

theorem pubTags_map_pubrel (l : List Nat) : pubTags (l.map Request.pubrel) = [] :=
  List.filterMap_eq_nil_iff.mpr fun _ h => by obtain ⟨_, _, rfl⟩ := List.mem_map.mp h; rfl

/-- ids of the stored publishes, in table order -/
def slotIds (l : List (Option Pub)) : List Nat := l.filterMap (fun o => o.map (·.pkid))

theorem pubIds_pubRequests (l : List (Option Pub)) : pubIds (pubRequests l) = slotIds l := by
  unfold pubIds pubRequests slotIds
  induction l with
  | nil => rfl
  | cons a l ih => cases a <;> simp [ih]

theorem slotIds_append (a b : List (Option Pub)) : slotIds (a ++ b) = slotIds a ++ slotIds b :=
  List.filterMap_append

theorem mem_slotIds (l : List (Option Pub)) (i : Nat) : i ∈ slotIds l ↔ ∃ p, some p ∈ l ∧ p.pkid = i := by
  simp only [slotIds, List.mem_filterMap]
  constructor
  · rintro ⟨o, ho, h⟩
    cases o <;> cases h
    exact ⟨_, ho, rfl⟩
  · rintro ⟨p, hp, rfl⟩
    exact ⟨some p, hp, rfl⟩

theorem slotIds_sorted (l : List (Option Pub)) (off : Nat)
    (h : ∀ (i : Nat) (p : Pub), l[i]? = some (some p) → p.pkid = off + i) :
    (slotIds l).Pairwise (· < ·) ∧ ∀ x ∈ slotIds l, off ≤ x := by
  induction l generalizing off with
  | nil => simp [slotIds]
  | cons a l ih =>
    have ih' := ih (off + 1) (by
      intro i p hp
      have := h (i + 1) p (by simpa using hp)
      omega)
    cases a with
    | none =>
      simp only [slotIds, List.filterMap_cons, Option.map_none] at ih' ⊢
      exact ⟨ih'.1, fun x hx => by have := ih'.2 x hx; omega⟩
    | some p =>
      have hp : p.pkid = off := by simpa using h 0 p (by simp)
      simp only [slotIds, List.filterMap_cons, Option.map_some] at ih' ⊢
      refine ⟨List.pairwise_cons.mpr ⟨fun x hx => ?_, ih'.1⟩, ?_⟩
      · have := ih'.2 x hx; omega
      · intro x hx
        rcases List.mem_cons.mp hx with h1 | h1
        · omega
        · have := ih'.2 x h1; omega

theorem slotIds_nodup (l : List (Option Pub))
    (h : ∀ (i : Nat) (p : Pub), l[i]? = some (some p) → p.pkid = i) : (slotIds l).Nodup := by
  have := (slotIds_sorted l 0 (by simpa using h)).1
  exact this.imp (fun h => Nat.ne_of_lt h)

theorem pubIds_perm {a b : List Request} (h : a.Perm b) : (pubIds a).Perm (pubIds b) := h.filterMap _
theorem pubTags_perm {a b : List Request} (h : a.Perm b) : (pubTags a).Perm (pubTags b) := h.filterMap _

theorem pubIds_cleanPubs_nodup {s : State} (h : SInv s) : (pubIds (cleanPubs s)).Nodup := by
  have hn := slotIds_nodup s.outgoingPub (fun i p hp => (h.slotId i p hp).1)
  rw [(pubIds_perm (cleanPubs_perm h)).nodup_iff, pubIds_pubRequests]
  exact hn

/-- the parked publish comes back with id 0 -/
theorem pubIds_cleanRequests (s : State) :
    pubIds (cleanRequests s) = pubIds (cleanPubs s) ++ (if s.collision.isSome then [0] else []) := by
  simp only [cleanRequests, pubIds_append, pubIds_map_pubrel, List.append_nil]
  congr 1
  unfold cleanParked; cases s.collision <;> simp [pubIds]

theorem pubTags_cleanRequests (s : State) : pubTags (cleanRequests s) = pubTags (cleanPubs s) ++ colTag s.collision := by
  simp only [cleanRequests, pubTags_append, pubTags_map_pubrel, List.append_nil]
  congr 1
  unfold cleanParked colTag; cases s.collision <;> simp [pubTags]

theorem mem_pubIds (l : List Request) (i : Nat) : i ∈ pubIds l ↔ ∃ p, .publish p ∈ l ∧ p.pkid = i := by
  simp only [pubIds, List.mem_filterMap]
  constructor
  · rintro ⟨r, hr, h⟩
    cases r <;> cases h
    exact ⟨_, hr, rfl⟩
  · rintro ⟨p, hp, rfl⟩
    exact ⟨_, hp, rfl⟩

theorem mem_pubTags (l : List Request) (t : Nat) : t ∈ pubTags l ↔ ∃ p, .publish p ∈ l ∧ p.tag = t := by
  simp only [pubTags, List.mem_filterMap]
  constructor
  · rintro ⟨r, hr, h⟩
    cases r <;> cases h
    exact ⟨_, hr, rfl⟩
  · rintro ⟨p, hp, rfl⟩
    exact ⟨_, hp, rfl⟩

theorem some_mem_iff_getElem? (l : List (Option Pub)) (p : Pub) : some p ∈ l ↔ ∃ i : Nat, l[i]? = some (some p) :=
  List.mem_iff_getElem?

theorem cleanRequests_nil {s : State} (h : SInv s) (h1 : ∀ (i : Nat) (p : Pub), s.outgoingPub[i]? ≠ some (some p))
    (h2 : ∀ i, relContains s i = false) (h3 : s.collision = none) : cleanRequests s = [] := by
  refine List.eq_nil_iff_forall_not_mem.mpr fun r hr => ?_
  rcases (mem_cleanRequests h r).mp hr with ⟨p, _, hp⟩ | ⟨i, _, hi⟩ | ⟨c, hc, _⟩
  · obtain ⟨j, hj⟩ := List.mem_iff_getElem?.mp hp
    exact h1 j p hj
  · rw [h2] at hi; cases hi
  · rw [h3] at hc; cases hc

theorem cleanState_clean {s : State} (h : SInv s) : cleanRequests (cleanState s) = [] :=
  cleanRequests_nil h.cleanState (cleanState_slot s) (cleanState_rel s) rfl

end Client
