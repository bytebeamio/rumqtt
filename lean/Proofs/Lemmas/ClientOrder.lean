/-
Order of `clean()` in the MQTT 3.1.1 client. Every stored publish carries the stamp of the moment it was (last) put on
the wire, and `clean()` sorts by that stamp; the wire view `unacked` is in send order and its stamps increase
(`UnackedOK`): so the two lists coincide, whatever the order in which acknowledgements arrived.
-/
import Proofs.Lemmas.ClientGhost1
namespace Client
open Client.Spec

theorem insertStamp_sorted (x : Nat × Pub) (l : List (Nat × Pub)) (h : l.Pairwise (fun a b => a.1 ≤ b.1)) :
    (insertStamp x l).Pairwise (fun a b => a.1 ≤ b.1) := by
  induction l with
  | nil => simp [insertStamp]
  | cons y ys ih =>
    have p := List.pairwise_cons.mp h
    unfold insertStamp
    split
    · rename_i hxy
      refine List.pairwise_cons.mpr ⟨?_, h⟩
      intro b hb
      rcases List.mem_cons.mp hb with rfl | hb
      · exact hxy
      · exact Nat.le_trans hxy (p.1 b hb)
    · rename_i hxy
      refine List.pairwise_cons.mpr ⟨?_, ih p.2⟩
      intro b hb
      have := (insertStamp_perm x ys).subset hb
      rcases List.mem_cons.mp this with rfl | hb'
      · omega
      · exact p.1 b hb'

theorem sortStamped_sorted (l : List (Nat × Pub)) : (sortStamped l).Pairwise (fun a b => a.1 ≤ b.1) := by
  unfold sortStamped
  induction l with
  | nil => simp
  | cons x l ih => exact insertStamp_sorted x _ ih

theorem mem_stamped (pubs : List (Option Pub)) (ord : List Nat) (st : Nat) (p : Pub) :
    (st, p) ∈ stamped pubs ord ↔ ∃ i : Nat, pubs[i]? = some (some p) ∧ ord[i]? = some st := by
  unfold stamped
  rw [List.mem_filterMap]
  constructor
  · rintro ⟨⟨o, n⟩, hmem, hf⟩
    obtain ⟨i, hi⟩ := List.mem_iff_getElem?.mp hmem
    rw [List.getElem?_zip_eq_some] at hi
    cases o with
    | none => simp at hf
    | some q =>
      simp only [Option.map_some, Option.some.injEq, Prod.mk.injEq] at hf
      obtain ⟨rfl, rfl⟩ := hf
      exact ⟨i, hi.1, hi.2⟩
  · rintro ⟨i, h1, h2⟩
    refine ⟨(some p, st), ?_, by simp⟩
    exact List.mem_iff_getElem?.mpr ⟨i, by rw [List.getElem?_zip_eq_some]; exact ⟨h1, h2⟩⟩

theorem lt_inj_of_pairwise {α} (f : α → Nat) (l : List α) (h : l.Pairwise (fun a b => f a < f b)) :
    ∀ a ∈ l, ∀ b ∈ l, f a = f b → a = b := by
  induction l with
  | nil => intro a ha; simp at ha
  | cons x l ih =>
    have p := List.pairwise_cons.mp h
    intro a ha b hb hab
    rcases List.mem_cons.mp ha with ha1 | ha2
    · rcases List.mem_cons.mp hb with hb1 | hb2
      · rw [ha1, hb1]
      · have := p.1 b hb2; rw [ha1] at hab; omega
    · rcases List.mem_cons.mp hb with hb1 | hb2
      · have := p.1 a ha2; rw [hb1] at hab; omega
      · exact ih p.2 a ha2 b hb2 hab

theorem alookup_eq_some_iff (U : List (Nat × Nat)) (hnd : (U.map (·.1)).Nodup) (k v : Nat) :
    alookup U k = some v ↔ (k, v) ∈ U := by
  induction U with
  | nil => simp [alookup]
  | cons e U ih =>
    obtain ⟨a, b⟩ := e
    rw [List.map_cons, List.nodup_cons] at hnd
    simp only [alookup, List.mem_cons, Prod.mk.injEq]
    split
    · rename_i h
      subst h
      constructor
      · intro h; cases h; exact .inl ⟨rfl, rfl⟩
      · rintro (⟨_, rfl⟩ | h)
        · rfl
        · exact absurd (List.mem_map_of_mem (f := (·.1)) h) hnd.1
    · rename_i h
      rw [ih hnd.2]
      exact ⟨.inr, fun h' => h'.resolve_left fun e => h e.1.symm⟩

theorem slotTag_eq_some (s : State) (i t : Nat) :
    slotTag s i = some t ↔ ∃ p, s.outgoingPub[i]? = some (some p) ∧ p.tag = t := by
  unfold slotTag
  split
  · rename_i p hp; rw [hp]; simp
  · rename_i hn
    exact ⟨nofun, fun ⟨p, hp, _⟩ => absurd hp (hn p)⟩

theorem pubIds_map_publish {α} (f : α → Pub) (l : List α) :
    pubIds (l.map (fun x => Request.publish (f x))) = l.map (fun x => (f x).pkid) := by
  unfold pubIds; rw [List.filterMap_map]; exact congrFun List.filterMap_eq_map' l

theorem pubTags_map_publish {α} (f : α → Pub) (l : List α) :
    pubTags (l.map (fun x => Request.publish (f x))) = l.map (fun x => (f x).tag) := by
  unfold pubTags; rw [List.filterMap_map]; exact congrFun List.filterMap_eq_map' l

theorem stamped_ids {s : State} (hs : SInv s) :
    (stamped s.outgoingPub s.outgoingOrder).map (fun x => x.2.pkid) = slotIds s.outgoingPub := by
  have hl : s.outgoingPub.length ≤ s.outgoingOrder.length := by have := hs.lenPub; have := hs.lenOrd; omega
  unfold stamped slotIds
  rw [List.map_filterMap]
  conv => rhs; rw [← List.map_fst_zip (l₂ := s.outgoingOrder) hl, List.filterMap_map]
  congr 1
  funext ⟨o, n⟩
  cases o <;> rfl

/-- both versions: the model stamps in MQTT 5 too -/
theorem unacked_eq_sorted {s : State} (hs : SInv s) {U : List (Nat × Nat)} (hU : UnackedOK U s) :
    (sortStamped (stamped s.outgoingPub s.outgoingOrder)).map (fun x => (x.2.pkid, x.2.tag)) = U := by
  have hsort := sortStamped_sorted (stamped s.outgoingPub s.outgoingOrder)
  have hperm := sortStamped_perm (stamped s.outgoingPub s.outgoingOrder)
  have hnd : ((sortStamped (stamped s.outgoingPub s.outgoingOrder)).map (fun x => x.2.pkid)).Nodup := by
    rw [(hperm.map _).nodup_iff, stamped_ids hs]
    exact slotIds_nodup _ fun i p hp => (hs.slotId i p hp).1
  generalize sortStamped (stamped s.outgoingPub s.outgoingOrder) = S at hsort hperm hnd
  -- the `(id, tag)` of a publish stored in slot `i` is the entry of the wire view for `i`
  have hslot : ∀ (i : Nat) (p : Pub), s.outgoingPub[i]? = some (some p) → (p.pkid, p.tag) ∈ U := by
    intro i p hp
    rw [← alookup_eq_some_iff U hU.nd, hU.look, (hs.slotId i p hp).1, slotTag_eq_some]
    exact ⟨p, hp, rfl⟩
  -- every element of the sorted list carries the stamp of the slot of its id and is in the wire view
  have hel : ∀ x ∈ S, x.1 = ordAt s x.2.pkid ∧ (x.2.pkid, x.2.tag) ∈ U := by
    intro x hx
    obtain ⟨i, h1, h2⟩ := (mem_stamped _ _ x.1 x.2).mp (hperm.subset hx)
    refine ⟨?_, hslot i x.2 h1⟩
    rw [ordAt, (hs.slotId i x.2 h1).1, h2]; rfl
  have hinj := lt_inj_of_pairwise (fun e : Nat × Nat => ordAt s e.1) U hU.stamps
  -- two lists with the same elements, both sorted by a key that is injective on them, are equal
  refine List.Perm.eq_of_pairwise (le := fun a b : Nat × Nat => ordAt s a.1 ≤ ordAt s b.1) ?_ ?_
    (hU.stamps.imp Nat.le_of_lt) ((List.perm_ext_iff_of_nodup ?_ ?_).mpr ?_)
  · intro a b ha hb h1 h2
    obtain ⟨x, hx, rfl⟩ := List.mem_map.mp ha
    exact hinj _ (hel x hx).2 b hb (Nat.le_antisymm h1 h2)
  · rw [List.pairwise_map]
    exact hsort.imp_of_mem fun ha hb hab => by rw [← (hel _ ha).1, ← (hel _ hb).1]; exact hab
  · exact List.Pairwise.of_map (S := (· ≠ ·)) Prod.fst (fun _ _ h e => h (congrArg Prod.fst e))
      (by rw [List.map_map]; exact hnd)
  · exact List.Pairwise.of_map Prod.fst (fun _ _ h e => h (congrArg Prod.fst e)) hU.nd
  · intro e
    constructor
    · intro he
      obtain ⟨x, hx, rfl⟩ := List.mem_map.mp he
      exact (hel x hx).2
    · intro he
      obtain ⟨i, t⟩ := e
      obtain ⟨p, hp, rfl⟩ := (slotTag_eq_some s i t).mp (by rw [← hU.look, alookup_eq_some_iff U hU.nd]; exact he)
      have hi : i < s.outgoingOrder.length := by
        obtain ⟨h, _⟩ := List.getElem?_eq_some_iff.mp hp; have := hs.lenPub; have := hs.lenOrd; omega
      have hm : (s.outgoingOrder[i], p) ∈ S :=
        hperm.symm.subset ((mem_stamped _ _ _ p).mpr ⟨i, hp, List.getElem?_eq_getElem hi⟩)
      exact List.mem_map.mpr ⟨_, hm, by rw [(hs.slotId i p hp).1]⟩

theorem cleanPubs_order {s : State} (hs : SInv s) (hv : s.ver = .v4) {U : List (Nat × Nat)} (hU : UnackedOK U s) :
    pubIds (cleanPubs s) = U.map (·.1) ∧ pubTags (cleanPubs s) = U.map (·.2) := by
  unfold cleanPubs
  rw [hv]
  simp only [pubIds_map_publish, pubTags_map_publish, ← unacked_eq_sorted hs hU, List.map_map]
  exact ⟨rfl, rfl⟩

theorem filter_three {α} (f : α → Bool) (A B C : List α) (hA : ∀ r ∈ A, f r = true) (hB : ∀ r ∈ B, f r = false)
    (hC : ∀ r ∈ C, f r = false) : (A ++ B ++ C).filter f = A := by
  rw [List.filter_append, List.filter_append, List.filter_eq_self.mpr hA, List.filter_eq_nil_iff.mpr (by simpa using hB),
    List.filter_eq_nil_iff.mpr (by simpa using hC)]
  simp

/-- the publish parked on a collision comes back unnumbered -/
theorem sentPubs_cleanRequests {l : LState} (h0 : Inv0 l) :
    sentPubs (cleanRequests l.st) = cleanPubs l.st := by
  have hs := h0.sinv
  unfold sentPubs cleanRequests
  apply filter_three
  · intro r hr
    obtain ⟨p, rfl, hp⟩ := (mem_cleanPubs hs r).mp hr
    obtain ⟨j, hj⟩ := List.mem_iff_getElem?.mp hp
    have h1 := (h0.slotLe j p hj).1
    have h2 := (hs.slotId j p hj).1
    simp only [bne_iff_ne, ne_eq]; omega
  · intro r hr
    obtain ⟨i, _, rfl⟩ := List.mem_map.mp hr
    rfl
  · intro r hr
    obtain ⟨c, -, rfl⟩ := (mem_cleanParked _ r).mp hr
    rfl

end Client
