/-
Below the effect relations: what an incoming PUBLISH records, and what freeing a packet id does to a publish parked on
it (`ReleaseEff`).
-/
import Proofs.Lemmas.ClientCall
namespace Client
open Client.Spec

theorem publishAlias_aliases {s s1 : State} {q : InPub} (h : publishAlias s q = some s1) (a : Nat) :
    a ∈ s1.aliases ↔
      (match s.ver, q.alias with
       | .v5, some b => if q.topicEmpty then a ∈ s.aliases else (a = b ∨ a ∈ s.aliases)
       | _, _ => a ∈ s.aliases) := by
  unfold publishAlias at h
  cases hv : s.ver with
  | v4 => rw [hv] at h; simp only at h; cases h; rfl
  | v5 =>
    rw [hv] at h; simp only at h
    cases hal : q.alias with
    | none => rw [hal] at h; simp only at h; cases h; rfl
    | some b =>
      rw [hal] at h; simp only at h
      cases ht : q.topicEmpty with
      | true =>
        simp only [ht, Bool.not_true, Bool.false_eq_true, if_false] at h
        split at h
        · cases h; simp
        · cases h
      | false =>
        simp only [ht, Bool.not_false, if_true] at h
        cases h
        simp only [Bool.false_eq_true, if_false]
        by_cases hc : s.aliases.contains b = true
        · have : b ∈ s.aliases := by simpa using hc
          simp only [hc, if_true]
          constructor
          · intro h'; exact Or.inr h'
          · rintro (rfl | h') <;> assumption
        · have hnb : b ∉ s.aliases := by simpa using hc
          simp [hnb]

theorem handlePublish_aliases (s : State) (q : InPub) :
    (handlePublish s q).1.aliases = match publishAlias s q with | some s1 => s1.aliases | none => s.aliases :=
  congrArg (fun r => r.1.aliases) (handlePublish_eq s q)

theorem handlePublish_incomingPub (s : State) (q : InPub) (i : Nat) :
    i ∈ (handlePublish s q).1.incomingPub ↔
      (if publishAlias s q = none then i ∈ s.incomingPub
       else if q.qos = 0 ∨ q.qos = 1 then i ∈ s.incomingPub else (i = q.pkid ∨ i ∈ s.incomingPub)) := by
  rw [handlePublish_eq]
  show i ∈ (if _ then _ else _) ↔ _
  by_cases ha : publishAlias s q = none
  · rw [if_pos (.inl ha), if_pos ha]
  · rw [if_neg ha]
    by_cases hq : q.qos = 0 ∨ q.qos = 1
    · rw [if_pos (.inr (hq.elim .inl (.inr ∘ .inl))), if_pos hq]
    · rw [if_neg hq]
      by_cases hm : q.pkid ∈ s.incomingPub
      · rw [if_pos (.inr (.inr (.inr hm)))]; exact ⟨.inr, fun h => h.elim (· ▸ hm) id⟩
      · rw [if_neg (by rintro (h | h | h | h) <;> first | exact ha h | exact hq (.inl h) | exact hq (.inr h) | exact hm h)]
        exact List.mem_cons

theorem ping_core (s : State) : (handleOutgoing s .pingreq).1.core = s.core := by
  obtain ⟨c, a, h⟩ := outgoingPing_eq s
  show (outgoingPing s).1.core = _
  rw [h]; rfl

/-- slot `i` has just been freed (by PUBACK, a refused PUBREC, or — with the release bit — PUBCOMP):
    `c0` is the core after freeing -/
inductive ReleaseEff (s : State) (i : Nat) (c0 : Core) : State × Outcome → Prop
  /-- nothing parked on this id -/
  | plain (s' : State) (hn : ∀ c, s.collision = some c → c.pkid ≠ i) (hc : s'.core = c0) :
      ReleaseEff s i c0 (s', .ok none)
  /-- the parked publish takes the slot and goes to the wire -/
  | released (s' : State) (c : Pub) (hcol : s.collision = some c) (hci : c.pkid = i)
      (hc : s'.core = ({ c0 with col := none }).store c) :
      ReleaseEff s i c0 (s', .ok (some (.publish c)))

theorem release_eff (s0 s : State) (i : Nat) (hcol : s.collision = s0.collision) :
    ReleaseEff s0 i s.core (release s i) := by
  unfold release
  cases hc : s.collision with
  | none =>
    exact .plain _ (by intro c hc'; rw [← hcol, hc] at hc'; cases hc') rfl
  | some c =>
    simp only
    by_cases hci : c.pkid = i
    · rw [if_pos hci]
      refine .released _ c (by rw [← hcol, hc]) hci ?_
      rw [core_pushOut, storePub_core]
      simp [State.core, hc]
    · rw [if_neg hci]
      exact .plain _ (by intro c' hc'; rw [← hcol, hc] at hc'; cases hc'; exact hci) rfl

theorem ReleaseEff.base {s s0 : State} {i : Nat} {c0 : Core} {res : State × Outcome}
    (h : ReleaseEff s0 i c0 res) (hcol : s0.collision = s.collision) : ReleaseEff s i c0 res := by
  cases h with
  | plain s' hn hc => exact .plain _ (hcol ▸ hn) hc
  | released s' c hc' hci hc => exact .released _ c (hcol ▸ hc') hci hc

theorem ReleaseEff.rel {s : State} {i : Nat} {c0 : Core} {res : State × Outcome} (h : ReleaseEff s i c0 res) :
    res.1.outgoingRel = c0.rel ∧ ∀ j, res.2 ≠ .ok (some (.pubrel j)) := by
  cases h with
  | plain s' _ hc => exact ⟨congrArg Core.rel hc, fun _ => nofun⟩
  | released s' c _ _ hc => exact ⟨congrArg Core.rel hc, fun _ => nofun⟩

theorem handleIncoming_puback (s : State) (i r : Nat) :
    handleIncoming s (.puback i r) = handlePuback (s.pushEv (.incoming (.puback i r))) i := rfl
theorem handleIncoming_pubrec (s : State) (i r : Nat) :
    handleIncoming s (.pubrec i r) = handlePubrec (s.pushEv (.incoming (.pubrec i r))) i r := rfl
theorem handleIncoming_pubcomp (s : State) (i r : Nat) :
    handleIncoming s (.pubcomp i r) = handlePubcomp (s.pushEv (.incoming (.pubcomp i r))) i := rfl

theorem user_nonpublish_core (s : State) (u : UserReq) (hu : ∀ q t, u ≠ .publish q t) :
    (handleOutgoing s u.toRequest).1.core = { s.core with lastPkid := (handleOutgoing s u.toRequest).1.lastPkid } := by
  cases u with
  | publish q t => exact absurd rfl (hu q t)
  | subscribe n =>
    simp only [UserReq.toRequest, handleOutgoing, outgoingSubscribe]
    split
    · rfl
    · split
      · rfl
      · rw [core_pushOut, nextPkidSt_core]; rfl
  | unsubscribe =>
    simp only [UserReq.toRequest, handleOutgoing, outgoingUnsubscribe]
    split
    · rfl
    · rw [core_pushOut, nextPkidSt_core]; rfl
  | _ => rfl

end Client
