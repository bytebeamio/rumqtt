/-
C19 (network part), `Model/Admission.lean`: which frames the listener's decoder turns into a CONNECT (only type-1
frames, only of the listener's level), `handle_auth` as one table, what `admit` has checked when it answers.
-/
import Model.Admission
import Model.AdmissionSpec
import Proofs.Lemmas.Codec.V4
import Proofs.Lemmas.Codec.V5
import Proofs.Lemmas.Router.Base.Basic

namespace Admission
open Codec

def isConnect : Packet → Bool
  | .connect .. => true
  | _ => false

/-- closes the goal `dec… = .ok p → False` for a body decoder that never builds a `.connect` -/
macro "nc_close" hp:ident : tactic =>
  `(tactic| (repeat' split) <;>
      (intro h; first
        | (simp at h; subst h; simp [isConnect] at $hp:ident; done)
        | (simp at h; done)))

theorem v4_decBody_connect {k ty b1 rem body p} (h : V4.decBody k ty b1 rem body = .ok p)
    (hp : isConnect p = true) : ty = 1 := by
  unfold V4.decBody at h
  split at h
  · rfl
  all_goals (exfalso; revert h)
  · unfold V4.decConnAck; nc_close hp
  · unfold V4.decPublish; nc_close hp
  · nc_close hp
  · nc_close hp
  · nc_close hp
  · nc_close hp
  · unfold V4.decSubscribe; nc_close hp
  · unfold V4.decSubAck; nc_close hp
  · unfold V4.decUnsubscribe; nc_close hp
  · unfold V4.decUnsubAck; nc_close hp
  · nc_close hp
  · nc_close hp
  · nc_close hp
  · nc_close hp

theorem v5_decBody_connect {k ty b1 rem body p} (h : V5.decBody k ty b1 rem body = .ok p)
    (hp : isConnect p = true) : ty = 1 := by
  unfold V5.decBody at h
  split at h
  · rfl
  all_goals (exfalso; revert h)
  · unfold V5.decConnAck; nc_close hp
  · unfold V5.decPublish; nc_close hp
  · unfold V5.decAckWith; nc_close hp
  · unfold V5.decAckWith; nc_close hp
  · unfold V5.decAckWith; nc_close hp
  · unfold V5.decAckWith; nc_close hp
  · unfold V5.decSubscribe; nc_close hp
  · unfold V5.decSubAck; nc_close hp
  · unfold V5.decUnsubscribe; nc_close hp
  · unfold V5.decUnsubAck; nc_close hp
  · nc_close hp
  · nc_close hp
  · unfold V5.decDisconnect; nc_close hp
  · nc_close hp

theorem v4_decConnect_level {k body level ka cid clean props will login}
    (h : V4.decConnect k body = .ok (.connect level ka cid clean props will login)) :
    V4.levelOk k level = true := by
  unfold V4.decConnect at h
  repeat' split at h
  all_goals first | (cases h; done) | skip
  -- the level that passed the check is the one in the packet
  cases h
  simpa using ‹¬(!V4.levelOk k level) = true›

theorem v5_decConnect_level {body level ka cid clean props will login}
    (h : V5.decConnect body = .ok (.connect level ka cid clean props will login)) :
    level = 5 := by
  unfold V5.decConnect at h
  repeat' split at h
  all_goals first | (cases h; done) | skip
  cases h
  rfl

theorem v4_decode_connect {k max bs p rest} (h : V4.decode k max bs = .packet p rest)
    (hp : isConnect p = true) :
    (∃ b r, bs = b :: r ∧ b.toNat / 16 = 1) ∧ ∃ body, V4.decConnect k body = .ok p := by
  unfold V4.decode at h
  split at h
  · cases h
  · rename_i s hs
    obtain ⟨b, r, hb, hb1⟩ := splitFrame_byte1 hs
    unfold V4.decodeFrame at h
    simp only at h
    split at h
    · cases h
    · split at h
      · split at h <;> cases h <;> cases hp
      · split at h
        · cases h
        · rename_i p' hb'
          cases h
          have := v4_decBody_connect hb' hp
          rw [this] at hb'
          exact ⟨⟨b, r, hb, hb1 ▸ this⟩, s.body, hb'⟩

theorem v5_decode_connect {k max bs p rest} (h : V5.decode k max bs = .packet p rest)
    (hp : isConnect p = true) :
    (∃ b r, bs = b :: r ∧ b.toNat / 16 = 1) ∧ ∃ body, V5.decConnect body = .ok p := by
  unfold V5.decode at h
  split at h
  · cases h
  · rename_i s hs
    obtain ⟨b, r, hb, hb1⟩ := splitFrame_byte1 hs
    unfold V5.decodeFrame at h
    simp only at h
    split at h
    · cases h
    · split at h
      · (repeat' split at h) <;> cases h <;> cases hp
      · split at h
        · cases h
        · cases h
        · rename_i p' hb'
          cases h
          have := v5_decBody_connect hb' hp
          rw [this] at hb'
          exact ⟨⟨b, r, hb, hb1 ▸ this⟩, s.body, hb'⟩

theorem decodeFirst_connect {cfg : Config} {bytes rest : Bytes} {level ka : Nat} {cid : Bytes}
    {clean : Bool} {props : Option Props} {will : Option Will} {login : Option Login}
    (h : decodeFirst cfg bytes = .packet (.connect level ka cid clean props will login) rest) :
    AdmissionSpec.startsWithConnect bytes = true ∧ level = cfg.version.level := by
  unfold decodeFirst at h
  split at h
  · rename_i hv
    obtain ⟨⟨b, r, hb, hty⟩, _, hbody⟩ := v4_decode_connect h rfl
    refine ⟨?_, ?_⟩
    · subst hb; simp [AdmissionSpec.startsWithConnect, hty]
    · rw [hv]; show level = 4; simpa [V4.levelOk] using v4_decConnect_level hbody
  · rename_i hv
    obtain ⟨⟨b, r, hb, hty⟩, _, hbody⟩ := v5_decode_connect h rfl
    refine ⟨?_, ?_⟩
    · subst hb; simp [AdmissionSpec.startsWithConnect, hty]
    · rw [hv]; exact v5_decConnect_level hbody

theorem lookup_mem {k v : Bytes} {ps : List (Bytes × Bytes)} (h : lookup k ps = some v) :
    (k, v) ∈ ps := by
  induction ps with
  | nil => cases h
  | cons kv r ih =>
    obtain ⟨k', v'⟩ := kv
    unfold lookup at h
    split at h
    · rename_i hk; cases h; subst hk; exact List.mem_cons_self ..
    · exact List.mem_cons_of_mem _ (ih h)

theorem lookup_of_mem {k v : Bytes} {ps : List (Bytes × Bytes)} (hn : (ps.map Prod.fst).Nodup)
    (h : (k, v) ∈ ps) : lookup k ps = some v := by
  induction ps with
  | nil => cases h
  | cons kv r ih =>
    obtain ⟨k', v'⟩ := kv
    rw [List.map_cons, List.nodup_cons] at hn
    unfold lookup
    rcases List.mem_cons.mp h with h | h
    · cases h; exact if_pos rfl
    · split
      · rename_i hk; subst hk
        exact absurd (List.mem_map.mpr ⟨(k', v), h, rfl⟩) hn.1
      · exact ih hn.2 h

theorem any_pair_iff_mem (u p : Bytes) (ps : List (Bytes × Bytes)) :
    ps.any (fun kv => kv.1 == u && kv.2 == p) = true ↔ (u, p) ∈ ps := by
  simp only [List.any_eq_true, Bool.and_eq_true, beq_iff_eq]
  constructor
  · rintro ⟨⟨a, b⟩, hm, h1, h2⟩; cases h1; cases h2; exact hm
  · intro h; exact ⟨(u, p), h, rfl, rfl⟩

theorem handleAuth_eq (a : AuthConfig) (login : Option Login) (cid : Bytes) :
    handleAuth a login cid =
      match a.external, a.static, login with
      | none, none, _ => true
      | _, _, none => false
      | some f, _, some l => f cid l.username l.password
      | none, some ps, some l => lookup l.username ps == some l.password := by
  obtain ⟨st, ex⟩ := a
  cases ex <;> cases st <;> cases login <;> simp only [handleAuth, AuthConfig.configured] <;> try rfl
  cases lookup _ _ <;> simp

theorem handleAuth_imp_accepted (a : AuthConfig) (login : Option Login) (cid : Bytes)
    (h : handleAuth a login cid = true) : AdmissionSpec.credentialsAccepted a login cid = true := by
  rw [handleAuth_eq] at h
  obtain ⟨st, ex⟩ := a
  cases ex <;> cases st <;> cases login <;> first | exact h | skip
  exact (any_pair_iff_mem ..).2 (lookup_mem (beq_iff_eq.1 h))

/-- distinct keys: the static table is a `HashMap` -/
theorem handleAuth_eq_accepted (a : AuthConfig) (login : Option Login) (cid : Bytes)
    (hk : ∀ ps, a.static = some ps → (ps.map Prod.fst).Nodup) :
    handleAuth a login cid = AdmissionSpec.credentialsAccepted a login cid := by
  rw [handleAuth_eq]
  obtain ⟨st, ex⟩ := a
  cases ex <;> cases st <;> cases login <;> first | rfl | skip
  -- the static table: `get` finds the pair iff it is in the table, the keys being distinct
  rename_i ps l
  refine Bool.eq_iff_iff.2 ⟨fun h => (any_pair_iff_mem ..).2 (lookup_mem (beq_iff_eq.1 h)), fun h => ?_⟩
  exact beq_iff_eq.2 (lookup_of_mem (hk ps rfl) ((any_pair_iff_mem ..).1 h))

theorem admit_proceed {cfg : Config} {bytes : Bytes} {tail : Tail} {c : Connect}
    (h : admit cfg bytes tail = .proceed c) :
    (∃ rest, decodeFirst cfg bytes = .packet c.toPacket rest) ∧
    handleAuth cfg.auth c.login c.clientId = true ∧ c.keepAlive ≠ 0 ∧
    (c.clientId ≠ [] ∨ c.clean = true) := by
  unfold admit at h
  split at h
  · rename_i p rest hd
    unfold mqttConnect at h
    split at h
    · (repeat' split at h) <;> first | (cases h; done) | skip
      rename_i lv ka cid cl pr wl lg h1 h2 h3
      cases h
      refine ⟨⟨rest, hd⟩, by simpa using h1, h2, ?_⟩
      cases cid with
      | nil => exact .inr (by simpa using h3)
      | cons => exact .inl (List.cons_ne_nil _ _)
    · cases h
  · split at h <;> cases h
  · cases h

theorem admit_reject {cfg : Config} {bytes : Bytes} {tail : Tail} {ck : Option ConnCode} {why : Reject}
    (h : admit cfg bytes tail = .reject ck why) :
    (ck = none ∧ why ≠ .invalidClientId) ∨
      (ck = some .ClientIdentifierNotValid ∧ why = .invalidClientId) := by
  unfold admit at h
  split at h
  · unfold mqttConnect at h
    (repeat' split at h) <;> simp at h <;> obtain ⟨h1, h2⟩ := h <;> subst h1 <;> subst h2 <;> simp
  · split at h <;> simp at h <;> obtain ⟨h1, h2⟩ := h <;> subst h1 <;> subst h2 <;> simp
  · simp at h; obtain ⟨h1, h2⟩ := h; subst h1; subst h2; simp

/-- a CONNECT the router refuses for its client id leaves a freshly emptied link buffer: no CONNACK -/
theorem validClientId_of_registered {s s' : Router.RState} {spec : Router.ConnectSpec}
    (h : Router.handleNewConnection s spec = .ok s') (hr : registered s' spec.link = true) :
    Router.validClientId spec.clientId = true := by
  cases hv : Router.validClientId spec.clientId
  · exfalso
    unfold Router.handleNewConnection at h
    simp only [hv, Bool.not_false, if_true] at h
    simp at h
    subst h
    simp [registered, Router.getLink_setLink_same] at hr
  · rfl

theorem toSpec_link {link dyn assigned c spec} (h : toSpec link dyn assigned c = some spec) :
    spec.link = link := by
  unfold toSpec at h
  split at h
  · simp at h
  · simp at h; subst h; rfl

theorem establish_cases {cfg : Config} {dyn : Bool} {assigned : String} {s s' : Router.RState} {link : Nat}
    {bytes : Bytes} {tail : Tail} {o : Outcome} {b : Bool}
    (h : establish cfg dyn assigned s link bytes tail = .ok (s', o, b)) :
    (∃ ck why, admit cfg bytes tail = .reject ck why ∧ s' = s ∧ o = .reject ck why ∧ b = false) ∨
    ∃ c, admit cfg bytes tail = .proceed c ∧ o = .proceed c ∧
      ((toSpec link dyn assigned c = none ∧ s' = s ∧ b = false) ∨
        ∃ spec, toSpec link dyn assigned c = some spec ∧ Router.handleNewConnection s spec = .ok s' ∧
          b = registered s' link) := by
  unfold establish at h
  split at h
  · rename_i ck why ha
    cases h; exact .inl ⟨ck, why, ha, rfl, rfl, rfl⟩
  · rename_i c ha
    refine .inr ⟨c, ha, ?_⟩
    split at h
    · rename_i hs
      cases h; exact ⟨rfl, .inl ⟨hs, rfl, rfl⟩⟩
    · rename_i spec hs
      split at h
      · cases h
      · rename_i s'' hn
        cases h; exact ⟨rfl, .inr ⟨spec, hs, hn, rfl⟩⟩

end Admission
