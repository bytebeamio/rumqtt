/-
`GInv0`: the part of the coupling between the ghost computed from observations and the model state that needs no
exclusion of any corner case: `pending`, the observed views, the limit, the gate flag, `rels` ↔ `outgoing_rel`, the
incoming QoS 2 ids, the aliases, and the static fields (upper limit, version, manual acks).
-/
import Proofs.Lemmas.ClientHandlerEff
namespace Client
open Client.Spec

/-- coupling of the set of release bits with a duplicate-free list of ids -/
structure RelsOK (R : List Nat) (s : State) : Prop where
  mem : ∀ i : Nat, i ∈ R ↔ relContains s i = true
  nd : R.Nodup
  len : R.length = relCount s.outgoingRel

theorem RelsOK.congr {R : List Nat} {s s' : State} (h : RelsOK R s) (he : s'.outgoingRel = s.outgoingRel) :
    RelsOK R s' := by
  refine ⟨?_, h.nd, by rw [he]; exact h.len⟩
  intro i; rw [h.mem i]; unfold relContains; rw [he]

theorem RelsOK.of_mem {R : List Nat} {s : State} (hm : ∀ i : Nat, i ∈ R ↔ relContains s i = true) (hn : R.Nodup) : RelsOK R s :=
  ⟨hm, hn, length_eq_relCount hn hm⟩

theorem RelsOK.set_true {R : List Nat} {s s' : State} (h : RelsOK R s) (i : Nat) (hi : i < s.outgoingRel.length)
    (he : s'.outgoingRel = s.outgoingRel.set i true) : RelsOK (addRel R i) s' := by
  refine .of_mem (fun j => ?_) (nodup_addRel _ _ h.nd)
  rw [mem_addRel, h.mem j, relContains_of_set he hi j]
  by_cases hij : i = j
  · subst hij; simp
  · simp only [hij, if_false]
    exact ⟨fun h' => h'.resolve_left fun e => hij e.symm, Or.inr⟩

theorem RelsOK.set_false {R : List Nat} {s s' : State} (h : RelsOK R s) (i : Nat) (hb : relContains s i = true)
    (he : s'.outgoingRel = s.outgoingRel.set i false) : RelsOK (R.filter (· != i)) s' := by
  have hi := getElem?_lt_of_some ((relContains_eq s i).mp hb)
  refine .of_mem (fun j => ?_) (h.nd.filter _)
  simp only [List.mem_filter, h.mem j]
  rw [relContains_of_set he hi j]
  by_cases hij : i = j
  · subst hij; simp
  · simp only [hij, if_false]
    exact ⟨fun h' => h'.1, fun h' => ⟨h', by simp; exact fun h'' => hij h''.symm⟩⟩

theorem RelsOK.filter_absent {R : List Nat} {s : State} (h : RelsOK R s) (i : Nat) (hb : relContains s i = false) :
    R.filter (· != i) = R := by
  apply List.filter_eq_self.mpr
  intro a ha
  have := (h.mem a).mp ha
  simp; intro hai; subst hai; rw [hb] at this; simp at this

theorem RelsOK.clean (s : State) : RelsOK [] (cleanState s) :=
  .of_mem (fun i => by rw [cleanState_rel]; simp) List.nodup_nil

structure GInv0 (l : LState) (g : Ghost) : Prop where
  pend : g.pending = l.pending
  view : g.pView = cleanRequests l.st
  col : g.pCol = l.st.collision
  inf : g.pInf = l.st.inflight
  lim : g.limit = l.st.maxInflight
  up : g.upper = l.st.upperLimit
  ver : g.ver = l.st.ver
  man : g.manual = l.st.manualAcks
  gated : g.gated = true
  rels : RelsOK g.rels l.st
  q2 : ∀ i : Nat, i ∈ g.inQos2 ↔ i ∈ l.st.incomingPub
  al : ∀ a : Nat, a ∈ g.aliases ↔ a ∈ l.st.aliases

theorem GInv0.new (ver : Version) (max : Nat) (m : Bool) :
    GInv0 (LState.new ver max m) (Ghost.init ver max m) := by
  refine ⟨rfl, ?_, rfl, rfl, rfl, rfl, rfl, rfl, rfl, .of_mem (fun i => ?_) List.nodup_nil,
    by simp [Ghost.init, LState.new, State.new], by simp [Ghost.init, LState.new, State.new]⟩
  · exact (cleanRequests_nil (SInv.new ver max m) (new_slot ver max m) (new_rel ver max m) rfl).symm
  · rw [show relContains (LState.new ver max m).st i = false from new_rel ver max m i]
    simp [Ghost.init]

theorem relsAfterIn_other (R : List Nat) (p : Incoming) (o : Outcome)
    (hp : ∀ i r, p ≠ .pubcomp i r) (ho : ∀ j, o ≠ .ok (some (.pubrel j))) : relsAfterIn R p o = R := by
  -- the hypotheses are the side conditions of the two catch-all branches
  simp only [relsAfterIn]

theorem RelsOK.handleIncoming {R : List Nat} {s : State} (h : RelsOK R s) (hs : SInv s) (p : Incoming) :
    RelsOK (relsAfterIn R p (handleIncoming s p).2) (handleIncoming s p).1 := by
  have he := handleIncoming_eff hs p
  generalize Client.handleIncoming s p = res at he ⊢
  -- a PUBCOMP that is not answered by a release takes its id out of `rels`
  have comp : ∀ (i r : Nat) (o : Outcome), (∀ j, o ≠ .ok (some (.pubrel j))) →
      relsAfterIn R (.pubcomp i r) o = R.filter (· != i) := by
    intro i r o ho
    unfold relsAfterIn
    cases o with
    | ok x =>
      cases x with
      | none => rfl
      | some pk => cases pk <;> first | rfl | exact absurd rfl (ho _)
    | err e => rfl
    | panic => rfl
  cases he with
  | unsol p i s' hp _ hc =>
    rw [relsAfterIn_other _ p (.err (.unsolicited i)) (fun _ _ e => by subst e; cases hp) fun _ => nofun]
    exact h.congr (congrArg Core.rel hc)
  | acked p i x _ hp _ he =>
    rw [relsAfterIn_other _ p _ (fun _ _ e => by subst e; cases hp) he.rel.2]; exact h.congr he.rel.1
  | moved i r x s' _ hi hc => exact h.set_true i hi (congrArg Core.rel hc)
  | unsolComp i r s' hb hc =>
    rw [comp i r (.err (.unsolicited i)) fun _ => nofun, h.filter_absent i hb]; exact h.congr (congrArg Core.rel hc)
  | comped i r _ hb he => rw [comp i r _ he.rel.2]; exact h.set_false i hb he.rel.1
  | other p s' o hq hc ho =>
    rw [relsAfterIn_other _ _ _ (fun _ _ e => by subst e; cases hq) ho.2]; exact h.congr (congrArg Core.rel hc)

theorem RelsOK.out {R : List Nat} {s : State} {pd pd' : List Request} {r : Request} {res : State × Outcome}
    (h : RelsOK R s) (he : OutEff s pd r pd' res) : RelsOK (relsAfterOut R r res.2) res.1 := by
  cases he with
  | idOnly r s' o _ hrel hc =>
    have : relsAfterOut R r o = R := by
      cases r <;> first | rfl | exact absurd rfl (hrel _)
    rw [this]; exact h.congr (congrArg Core.rel hc)
  | store p s' _ _ _ _ _ hc => exact h.congr (congrArg Core.rel hc)
  | park p s' _ _ _ _ hc => exact h.congr (congrArg Core.rel hc)
  | setRel i s' _ _ hi hc => exact h.set_true i hi (congrArg Core.rel hc)

theorem protocolError_iff (g : Ghost) (s : State) (q : InPub) (hv : g.ver = s.ver)
    (ha : ∀ a : Nat, a ∈ g.aliases ↔ a ∈ s.aliases) :
    protocolError g q = true ↔ publishAlias s q = none := by
  unfold protocolError publishAlias
  rw [hv]
  cases s.ver with
  | v4 => simp
  | v5 =>
    cases hal : q.alias with
    | none => simp
    | some a =>
      have hc : g.aliases.contains a = s.aliases.contains a := by
        cases h1 : s.aliases.contains a with
        | true => simpa using (ha a).mpr (by simpa using h1)
        | false =>
          cases h2 : g.aliases.contains a with
          | false => rfl
          | true => have := (ha a).mp (by simpa using h2); simp at h1; exact absurd this h1
      simp only [hc]
      cases q.topicEmpty <;> cases s.aliases.contains a <;> simp

theorem al_handleIncoming (g : Ghost) (s : State) (p : Incoming) (hv : g.ver = s.ver)
    (h : ∀ a : Nat, a ∈ g.aliases ↔ a ∈ s.aliases) :
    ∀ a : Nat, a ∈ aliasesAfter g p ↔ a ∈ (handleIncoming s p).1.aliases := by
  by_cases hp : ∃ q, p = .publish q
  · obtain ⟨q, rfl⟩ := hp
    intro a
    have hpe := protocolError_iff g (s.pushEv (.incoming (.publish q))) q hv h
    show _ ↔ a ∈ (handlePublish (s.pushEv (.incoming (.publish q))) q).1.aliases
    rw [handlePublish_aliases]
    simp only [aliasesAfter]
    cases hal : publishAlias (s.pushEv (.incoming (.publish q))) q with
    | none => rw [if_pos (hpe.mpr hal)]; exact h a
    | some s1 =>
      rw [if_neg (fun hp => by rw [hpe.mp hp] at hal; cases hal)]
      rw [publishAlias_aliases hal a, hv]
      show _ ↔ match s.ver, q.alias with
        | .v5, some b => if q.topicEmpty then a ∈ s.aliases else (a = b ∨ a ∈ s.aliases)
        | _, _ => a ∈ s.aliases
      cases s.ver <;> cases q.alias <;> try exact h a
      dsimp only
      split
      · exact h a
      · rw [mem_addRel, h a]
  · rw [(handleIncoming_same s p).al]
    have : aliasesAfter g p = g.aliases ∧ (quietState s p).aliases = s.aliases := by
      cases p <;> first | exact ⟨rfl, rfl⟩ | exact absurd ⟨_, rfl⟩ hp
    rw [this.1, this.2]; exact h

theorem q2_handleIncoming (g : Ghost) (s : State) (p : Incoming) (hv : g.ver = s.ver)
    (ha : ∀ a : Nat, a ∈ g.aliases ↔ a ∈ s.aliases) (h : ∀ i : Nat, i ∈ g.inQos2 ↔ i ∈ s.incomingPub) :
    ∀ i : Nat, i ∈ q2After g p ↔ i ∈ (handleIncoming s p).1.incomingPub := by
  intro i
  rw [(handleIncoming_same s p).inc]
  cases p with
  | publish q =>
    show _ ↔ i ∈ (handlePublish (s.pushEv (.incoming (.publish q))) q).1.incomingPub
    rw [handlePublish_incomingPub]
    have hpe := protocolError_iff g (s.pushEv (.incoming (.publish q))) q hv ha
    simp only [q2After]
    by_cases hp : protocolError g q = true
    · rw [if_pos hp, if_pos (hpe.mp hp)]; exact h i
    · rw [if_neg hp, if_neg (fun h' => hp (hpe.mpr h'))]
      by_cases hq : q.qos = 0 ∨ q.qos = 1
      · rw [if_pos (by simpa using hq), if_pos hq]; exact h i
      · rw [if_neg (by simpa using hq), if_neg hq, mem_addRel, h i]; rfl
  | pubrel j r =>
    show i ∈ g.inQos2.filter (· != j) ↔
      i ∈ (if s.incomingPub.contains j then s.incomingPub.filter (· != j) else s.incomingPub)
    split
    · simp only [List.mem_filter, h]
    · rename_i hc
      have : j ∉ s.incomingPub := by simpa using hc
      simp only [List.mem_filter, h i]
      exact ⟨fun h' => h'.1, fun h' => ⟨h', by simp; intro hij; subst hij; exact this h'⟩⟩
  | _ => exact h i

theorem GInv0.windowOpen {l : LState} {g : Ghost} (h : GInv0 l g) : g.windowOpen = windowOpen l.st := by
  unfold Ghost.windowOpen Client.windowOpen
  rw [h.inf, h.lim, h.col]
  cases hc : l.st.collision.isSome <;>
    by_cases hi : l.st.inflight < l.st.maxInflight <;> simp_all <;> omega

theorem GInv0.gateOpen {l : LState} {g : Ghost} (h : GInv0 l g) :
    g.gateOpen = (l.pending.isEmpty && selectEnabled l.st l.pending) := by
  unfold Ghost.gateOpen selectEnabled
  rw [h.pend, h.windowOpen]
  cases hp : l.pending with
  | nil => simp [pendingReady]
  | cons r rest => simp

/-- `pubAnswer` read off the wire view: the PUBLISH arm of `C10.ack` asks for this outcome -/
def Spec.Ghost.pubAnswer (g : Ghost) (q : InPub) : Outcome :=
  if protocolError g q then .ok (some (.disconnect 130))
  else if q.qos = 0 then .ok none
  else if g.manual then .ok none
  else if q.qos = 1 then .ok (some (.puback q.pkid))
  else .ok (some (.pubrec q.pkid))

theorem GInv0.pubAnswer {l : LState} {g : Ghost} (h : GInv0 l g) (q : InPub) : g.pubAnswer q = pubAnswer l.st q := by
  unfold Ghost.pubAnswer Client.pubAnswer
  simp only [protocolError_iff g l.st q h.ver h.al]
  rw [h.man]

/-- `hpd`: what the request leaves in `pending`; `hgate`: it is the loop's own or came through the open gate -/
theorem GInv0.out {s : State} {pd pd' : List Request} {g : Ghost} (hg : GInv0 ⟨s, pd⟩ g) (r : Request)
    (hpd : pendingAfterOut pd r = pd') (hgate : (g.loopOwn r || (isUserRequest r && g.gateOpen)) = true)
    (hrel : RelsOK (relsAfterOut g.rels r (handleOutgoing s r).2) (handleOutgoing s r).1) :
    GInv0 ⟨sstepSt s (.out r), pd'⟩ (g.step (sstepObs s (.out r))) := by
  have f := handleOutgoing_same s r
  have hR : RelsOK _ (sstepSt s (.out r)) := hrel.congr rfl
  rw [step_out, stepOut_eq]
  exact ⟨hg.pend ▸ hpd, rfl, rfl, rfl, hg.lim.trans f.max.symm, hg.up.trans f.up.symm, hg.ver.trans f.ver.symm,
    hg.man.trans f.man.symm, by rw [← hgate, hg.gated]; rfl, hR,
    fun i => (hg.q2 i).trans (by rw [← f.inc]; rfl), fun a => (hg.al a).trans (by rw [← f.al]; rfl)⟩

theorem GInv0.inc {s : State} {pd : List Request} {g : Ghost} (hg : GInv0 ⟨s, pd⟩ g) (hs : SInv s) (p : Incoming) :
    GInv0 ⟨sstepSt s (.inc p), pd⟩ (g.step (sstepObs s (.inc p))) := by
  have f := handleIncoming_same s p
  have hR : RelsOK _ (sstepSt s (.inc p)) := (hg.rels.handleIncoming hs p).congr rfl
  have hlim : limitAfter g p = (quietState s p).maxInflight := by
    rw [quietState_maxInflight, ← hg.ver, ← hg.up, ← hg.lim]
    cases p with
    | connack ok _ rm _ => simp only [limitAfter]; cases g.ver <;> cases ok <;> cases rm <;> rfl
    | _ => rfl
  rw [step_inc, released_eq, stepIn_eq]
  exact ⟨hg.pend, rfl, rfl, rfl, hlim.trans f.max.symm, hg.up.trans f.up.symm, hg.ver.trans f.ver.symm,
    hg.man.trans f.man.symm, hg.gated, hR, q2_handleIncoming g s p hg.ver hg.al hg.q2,
    al_handleIncoming g s p hg.ver hg.al⟩

theorem GInv0.lstep {l : LState} {g : Ghost} (h0 : Inv0 l) (hg : GInv0 l g) (op : LOp) :
    match (lstep l op).2 with
    | none => GInv0 (lstep l op).1 g
    | some o => GInv0 (lstep l op).1 (g.step o) := by
  obtain ⟨s, pd⟩ := l
  refine lstep_inv op hg fun sop pd' hf => ?_
  have hR := hg.rels
  cases hf with
  | user u hpd hgt =>
    subst hpd
    have hu : isUserRequest u.toRequest = true := by cases u <;> rfl
    refine hg.out u.toRequest (by cases u <;> rfl) ?_ (hR.out (handleOutgoing_eff h0 (.user u rfl hgt)))
    rw [hu, hg.gateOpen, hgt]; simp
  | pend r rest hpd hr =>
    subst hpd
    have hrel := hR.out (handleOutgoing_eff h0 (.pend r pd' rfl hr))
    -- the head of `pending` is a publish or a release: the loop's own
    rcases pend_cases h0 with ⟨p, rfl, _⟩ | ⟨i, rfl, _⟩
    · refine hg.out _ (eraseFirst_head _ _) ?_ hrel
      have : g.loopOwn (.publish p) = true := by
        rw [Ghost.loopOwn, hg.pend, hg.windowOpen]; simpa [pendingReady] using hr
      rw [this]; rfl
    · refine hg.out _ (eraseFirst_head _ _) ?_ hrel
      have : g.loopOwn (.pubrel i) = true := by simp [Ghost.loopOwn, hg.pend]
      rw [this]; rfl
  | ping => exact hg.out .pingreq rfl rfl (hR.out (handleOutgoing_eff h0 .ping))
  | inc p => exact hg.inc h0.sinv p
  | fail =>
    have hR' := RelsOK.clean s
    rw [step_clean]
    exact ⟨by rw [hg.pend], rfl, rfl, rfl, hg.lim, hg.up, hg.ver, hg.man, hg.gated, hR',
      fun _ => Iff.rfl, hg.al⟩
  | newSession =>
    rw [step_drop]
    exact ⟨rfl, rfl, rfl, rfl, hg.lim, hg.up, hg.ver, hg.man, hg.gated, hg.rels, hg.q2, hg.al⟩

end Client
