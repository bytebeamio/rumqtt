/-
`Inv0`: the invariant of the loop's use of the state machine that holds on every run without `unsafeConnack`: id
counter, window (counter + `pending` + parked publish ≤ limit), ids in range, well-formed `pending`. Proved by walking
the handlers.
-/
import Proofs.Lemmas.ClientClean
import Proofs.Lemmas.ClientGhostStep
namespace Client
open Client.Spec

/-- a request `clean()` may have returned: a stored publish (numbered), a pending release, or the
    publish that was parked on a collision (unnumbered) -/
def PendOK (s : State) : Request → Prop
  | .publish p => p.qos ≠ 0 ∧ p.pkid ≤ s.maxInflight ∧ p.alias = none
  | .pubrel i => 1 ≤ i ∧ i ≤ s.maxInflight
  | _ => False

def colCount (s : State) : Nat := if s.collision.isSome then 1 else 0

structure Inv0 (l : LState) : Prop where
  sinv : SInv l.st
  maxPos : 1 ≤ l.st.maxInflight
  maxLe : l.st.maxInflight ≤ l.st.upperLimit
  upLe : l.st.upperLimit ≤ u16Max
  pk : nextPkidBase l.st < l.st.maxInflight
  window : l.st.inflight + l.pending.length + colCount l.st ≤ l.st.maxInflight
  slotLe : ∀ (i : Nat) (p : Pub), l.st.outgoingPub[i]? = some (some p) → 1 ≤ i ∧ i ≤ l.st.maxInflight ∧ p.alias = none
  relLe : ∀ i : Nat, relContains l.st i = true → 1 ≤ i ∧ i ≤ l.st.maxInflight
  colLe : ∀ c : Pub, l.st.collision = some c → 1 ≤ c.pkid ∧ c.pkid ≤ l.st.maxInflight ∧ c.alias = none
  pendWF : ∀ r ∈ l.pending, PendOK l.st r

theorem Inv0.new (ver : Version) (max : Nat) (m : Bool) (h1 : 1 ≤ max) (h2 : max ≤ u16Max) :
    Inv0 (LState.new ver max m) := by
  refine ⟨SInv.new _ _ _, h1, Nat.le_refl _, h2, ?_, by simp [LState.new, State.new, colCount], ?_, ?_, ?_, ?_⟩
  · cases ver <;> simp [LState.new, State.new, nextPkidBase] <;> omega
  · exact fun i p h => absurd h (new_slot ver max m i p)
  · exact fun i h => nomatch (new_rel ver max m i).symm.trans h
  · intro c h; simp [LState.new, State.new] at h
  · intro r h; simp [LState.new] at h

theorem PendOK.mono {s s' : State} (h : s.maxInflight ≤ s'.maxInflight) {r : Request} (hr : PendOK s r) :
    PendOK s' r := by
  cases r with
  | publish p => exact ⟨hr.1, Nat.le_trans hr.2.1 h, hr.2.2⟩
  | pubrel i => exact ⟨hr.1, Nat.le_trans hr.2 h⟩
  | _ => exact hr

/-- the arithmetic clauses with the loop state taken apart (the form `omega` can read) -/
theorem Inv0.bounds {s : State} {pd : List Request} (h : Inv0 ⟨s, pd⟩) :
    1 ≤ s.maxInflight ∧ s.maxInflight ≤ s.upperLimit ∧ s.upperLimit ≤ u16Max ∧ nextPkidBase s < s.maxInflight ∧
    s.inflight + pd.length + colCount s ≤ s.maxInflight ∧ occ s.outgoingPub + relCount s.outgoingRel ≤ s.inflight :=
  ⟨h.maxPos, h.maxLe, h.upLe, h.pk, h.window, h.sinv.counter⟩

/-- the fields `Inv0` does not read may be written freely -/
theorem Inv0.frame {s : State} {pd : List Request} (h : Inv0 ⟨s, pd⟩) {a : Bool} {c : Nat} {inc : List Nat}
    {ev : List Event} {al : List Nat} {b : Nat} :
    Inv0 ⟨{ s with awaitPingresp := a, collisionPingCount := c, incomingPub := inc, events := ev, aliases := al,
                   brokerAliasMax := b }, pd⟩ :=
  ⟨h.sinv.frame _ _ _ _ _ _ _ _, h.maxPos, h.maxLe, h.upLe, h.pk, h.window, h.slotLe, h.relLe, h.colLe, h.pendWF⟩

theorem Inv0.pushEv {s : State} {pd : List Request} (h : Inv0 ⟨s, pd⟩) (e : Event) : Inv0 ⟨s.pushEv e, pd⟩ :=
  h.frame

theorem Inv0.pushOut {s : State} {pd : List Request} (h : Inv0 ⟨s, pd⟩) {o : Outgoing} : Inv0 ⟨s.pushOut o, pd⟩ :=
  h.pushEv _

theorem Inv0.drain {s : State} {pd : List Request} (h : Inv0 ⟨s, pd⟩) : Inv0 ⟨drainEvents s, pd⟩ :=
  h.frame

/-- the new `last_pkid` is 0 or the id just handed out, which did not reach the limit -/
theorem nextPkidBase_nextPkidSt (s : State) (hm : 1 ≤ s.maxInflight) (hb : nextPkidBase s < s.maxInflight) :
    nextPkidBase (nextPkidSt s) < s.maxInflight := by
  have hl : (nextPkidSt s).lastPkid < s.maxInflight := by
    unfold nextPkidSt
    split
    · exact hm
    · rename_i hw
      show nextPkidBase s + 1 < s.maxInflight
      unfold nextPkidWraps nextPkidVal at hw
      cases hv : s.ver <;> simp only [hv, decide_eq_true_eq] at hw <;> omega
  obtain ⟨k, e⟩ := nextPkidSt_eq s
  rw [e] at hl ⊢
  unfold nextPkidBase
  split
  · exact hl
  · show (if k ≥ s.maxInflight then 0 else k) < s.maxInflight
    split <;> omega

theorem Inv0.nextPkid {s : State} {pd : List Request} (h : Inv0 ⟨s, pd⟩) :
    nextPkidPanics s = false ∧ 1 ≤ nextPkidVal s ∧ nextPkidVal s ≤ s.maxInflight ∧
    nextPkidBase (nextPkidSt s) < s.maxInflight := by
  obtain ⟨b1, b2, b3, b4, -⟩ := h.bounds
  refine ⟨by simp [nextPkidPanics]; omega, by simp [nextPkidVal], by simp [nextPkidVal]; omega,
    nextPkidBase_nextPkidSt s b1 b4⟩

theorem Inv0.nextPkidSt {s : State} {pd : List Request} (h : Inv0 ⟨s, pd⟩) : Inv0 ⟨nextPkidSt s, pd⟩ := by
  have hl := h.nextPkid.2.2.2
  obtain ⟨k, e⟩ := nextPkidSt_eq s
  rw [e] at hl ⊢
  exact ⟨h.sinv.frame _ _ _ _ _ _ _ _, h.maxPos, h.maxLe, h.upLe, hl, h.window, h.slotLe, h.relLe, h.colLe, h.pendWF⟩

/-- `pd'`: what is left of `pending` -/
theorem Inv0.store {s : State} {pd pd' : List Request} (h : Inv0 ⟨s, pd⟩) (p : Pub)
    (hq : p.qos ≠ 0) (h1 : 1 ≤ p.pkid) (h2 : p.pkid ≤ s.maxInflight) (ha : p.alias = none)
    (hw : s.inflight + 1 + pd'.length + colCount s ≤ s.maxInflight)
    (hsub : ∀ r ∈ pd', r ∈ pd) : Inv0 ⟨storePub s p, pd'⟩ :=
  ⟨h.sinv.storePub p hq, h.maxPos, h.maxLe, h.upLe, h.pk, hw,
    slots_set h.slotLe p.pkid (some p) (fun _ e => Option.some.inj e ▸ ⟨h1, h2, ha⟩), h.relLe, h.colLe,
    fun r hr => h.pendWF r (hsub r hr)⟩

theorem Inv0.setCol {s : State} {pd pd' : List Request} (h : Inv0 ⟨s, pd⟩) (c : Option Pub)
    (hc : ∀ q, c = some q → q.qos ≠ 0 ∧ 1 ≤ q.pkid ∧ q.pkid ≤ s.maxInflight ∧ q.alias = none) (k : Nat)
    (hw : s.inflight + pd'.length + (if c.isSome then 1 else 0) ≤ s.maxInflight) (hsub : ∀ r ∈ pd', r ∈ pd) :
    Inv0 ⟨{ s with collision := c, collisionPingCount := k }, pd'⟩ :=
  ⟨h.sinv.setCol c (fun q e => (hc q e).1) k, h.maxPos, h.maxLe, h.upLe, h.pk, hw, h.slotLe, h.relLe,
    fun q e => (hc q e).2, fun r hr => h.pendWF r (hsub r hr)⟩

theorem Inv0.free {s : State} {pd : List Request} (h : Inv0 ⟨s, pd⟩) (i : Nat) (x : Pub)
    (hslot : s.outgoingPub[i]? = some (some x)) (n : Nat) (hn : s.inflight ≤ n + 1) (hn' : n ≤ s.inflight) :
    Inv0 ⟨{ s with outgoingPub := s.outgoingPub.set i none, inflight := n }, pd⟩ :=
  ⟨h.sinv.freeSlot i x hslot n hn, h.maxPos, h.maxLe, h.upLe, h.pk,
    by have := h.bounds; show n + pd.length + colCount s ≤ s.maxInflight; omega,
    slots_set h.slotLe i none nofun, h.relLe, h.colLe, h.pendWF⟩

theorem Inv0.moveToRel {s : State} {pd : List Request} (h : Inv0 ⟨s, pd⟩) (i : Nat) (x : Pub)
    (hslot : s.outgoingPub[i]? = some (some x)) :
    Inv0 ⟨{ s with outgoingPub := s.outgoingPub.set i none, outgoingRel := s.outgoingRel.set i true }, pd⟩ :=
  have hi := h.slotLe i x hslot
  ⟨h.sinv.moveToRel i x hslot, h.maxPos, h.maxLe, h.upLe, h.pk, h.window, slots_set h.slotLe i none nofun,
    bits_set h.relLe i true (fun _ => ⟨hi.1, hi.2.1⟩), h.colLe, h.pendWF⟩

theorem Inv0.setRel {s : State} {pd pd' : List Request} (h : Inv0 ⟨s, pd⟩) (i : Nat) (b : Bool)
    (hb : b = true → 1 ≤ i ∧ i ≤ s.maxInflight) (n : Nat)
    (hn : occ s.outgoingPub + relCount (s.outgoingRel.set i b) ≤ n)
    (hw : n + pd'.length + colCount s ≤ s.maxInflight) (hsub : ∀ r ∈ pd', r ∈ pd) :
    Inv0 ⟨{ s with outgoingRel := s.outgoingRel.set i b, inflight := n }, pd'⟩ :=
  ⟨h.sinv.setRel i b n hn, h.maxPos, h.maxLe, h.upLe, h.pk, hw, h.slotLe, bits_set h.relLe i b hb, h.colLe,
    fun r hr => h.pendWF r (hsub r hr)⟩

theorem Inv0.shrink {s : State} {pd pd' : List Request} (h : Inv0 ⟨s, pd⟩) (hl : pd'.length ≤ pd.length)
    (hsub : ∀ r ∈ pd', r ∈ pd) : Inv0 ⟨s, pd'⟩ :=
  ⟨h.sinv, h.maxPos, h.maxLe, h.upLe, h.pk,
    by have := h.bounds; show s.inflight + pd'.length + colCount s ≤ s.maxInflight; omega,
    h.slotLe, h.relLe, h.colLe, fun r hr => h.pendWF r (hsub r hr)⟩

theorem aliasTooLarge_none (s : State) (p : Pub) (ha : p.alias = none) : aliasTooLarge s p = false := by
  unfold aliasTooLarge; rw [ha]; cases s.ver <;> rfl

theorem publish_fresh_eq (s : State) (p : Pub) (ha : p.alias = none) (hq : p.qos ≠ 0) (hid : p.pkid = 0)
    (hp : nextPkidPanics s = false) :
    handleOutgoing s (.publish p) = publishWithId (nextPkidSt s) { p with pkid := nextPkidVal s } := by
  simp [handleOutgoing, outgoingPublish, aliasTooLarge_none s p ha, hq, hid, hp]

theorem publish_qos0_eq (s : State) (t : Nat) :
    handleOutgoing s (.publish { qos := 0, pkid := 0, tag := t }) =
      (s.pushOut (.publish 0), .ok (some (.publish { qos := 0, pkid := 0, tag := t }))) := by
  simp [handleOutgoing, outgoingPublish, publishTail, aliasTooLarge]

theorem publish_replay_eq (s : State) (p : Pub) (ha : p.alias = none) (hq : p.qos ≠ 0) (hid : p.pkid ≠ 0) :
    handleOutgoing s (.publish p) = publishWithId s p := by
  simp [handleOutgoing, outgoingPublish, aliasTooLarge_none s p ha, hq, hid]

theorem publishWithId_store_eq (s : State) (p : Pub) (hslot : s.outgoingPub[p.pkid]? = some none)
    (hrel : relContains s p.pkid = false) (hinf : s.inflight < u16Max) :
    publishWithId s p = ((storePub s p).pushOut (.publish p.pkid), .ok (some (.publish p))) := by
  unfold publishWithId
  rw [hslot]
  simp only [hrel, Option.isSome_none, Bool.or_self, Bool.false_eq_true, if_false, publishTail]
  rw [if_neg (by omega)]

theorem publishWithId_park_eq (s : State) (p : Pub) (slot : Option Pub) (hslot : s.outgoingPub[p.pkid]? = some slot)
    (hbusy : slot.isSome = true ∨ relContains s p.pkid = true) :
    publishWithId s p = ({ s with collision := some p }.pushOut (.awaitAck p.pkid), .ok none) := by
  unfold publishWithId; rw [hslot]
  simp only
  rw [if_pos (by rcases hbusy with h | h <;> simp [h])]

theorem pubrel_replay_eq (s : State) (i : Nat) (hi : i ≠ 0) (hlt : i < s.outgoingRel.length) (hinf : s.inflight < u16Max) :
    handleOutgoing s (.pubrel i) =
      ({ s with outgoingRel := s.outgoingRel.set i true, inflight := s.inflight + 1 }.pushOut (.pubrel i),
        .ok (some (.pubrel i))) := by
  simp [handleOutgoing, outgoingPubrel, pubrelWithId, hi, hlt]
  omega

theorem Inv0.slot_some {s : State} {pd : List Request} (h : Inv0 ⟨s, pd⟩) (i : Nat) (hi : i ≤ s.maxInflight) :
    ∃ slot, s.outgoingPub[i]? = some slot := by
  have hs : SInv s := h.sinv
  have := hs.lenPub; have := h.bounds
  exact ⟨_, List.getElem?_eq_getElem (by omega)⟩

theorem Inv0.publishWithId {s : State} {pd pd' : List Request} (h : Inv0 ⟨s, pd⟩) (p : Pub)
    (hq : p.qos ≠ 0) (h1 : 1 ≤ p.pkid) (h2 : p.pkid ≤ s.maxInflight) (ha : p.alias = none)
    (hw : s.inflight + pd'.length + 1 + colCount s ≤ s.maxInflight) (hl : pd'.length ≤ pd.length)
    (hsub : ∀ r ∈ pd', r ∈ pd) : Inv0 ⟨(publishWithId s p).1, pd'⟩ := by
  fun_cases Client.publishWithId s p
  · exact h.shrink hl hsub
  · exact (h.setCol (some p) (fun _ e => Option.some.inj e ▸ ⟨hq, h1, h2, ha⟩) _
      (by show _ + _ + 1 ≤ _; omega) hsub).pushOut
  · exact h.shrink hl hsub
  · exact (h.store p hq h1 h2 ha (by omega) hsub).pushOut

theorem Inv0.publishFresh {s : State} {pd pd' : List Request} (h : Inv0 ⟨s, pd⟩) (p : Pub)
    (hq : p.qos ≠ 0) (hid : p.pkid = 0) (ha : p.alias = none)
    (hw : s.inflight + pd'.length + 1 + colCount s ≤ s.maxInflight) (hl : pd'.length ≤ pd.length)
    (hsub : ∀ r ∈ pd', r ∈ pd) : Inv0 ⟨(handleOutgoing s (.publish p)).1, pd'⟩ := by
  obtain ⟨hp, hv1, hv2, _⟩ := h.nextPkid
  have h1 := h.nextPkidSt
  rw [publish_fresh_eq s p ha hq hid hp]
  obtain ⟨k, e⟩ := nextPkidSt_eq s
  rw [e] at h1 ⊢
  exact h1.publishWithId _ hq hv1 hv2 ha hw hl hsub

theorem windowOpen_iff (s : State) : windowOpen s = true ↔ (s.inflight < s.maxInflight ∧ s.collision = none) := by
  unfold windowOpen
  cases s.collision <;> simp

/-- with nothing pending `selectEnabled` is `windowOpen` -/
theorem gate_open {s : State} (hg : selectEnabled s [] = true) : s.inflight < s.maxInflight ∧ s.collision = none :=
  (windowOpen_iff s).mp hg

theorem Inv0.user {s : State} (h : Inv0 ⟨s, []⟩) (u : UserReq) (hg : selectEnabled s [] = true) :
    Inv0 ⟨(handleOutgoing s u.toRequest).1, []⟩ := by
  have hgate := gate_open hg
  have hp := h.nextPkid.1
  cases u with
  | publish q t =>
    by_cases hq : q = 0
    · subst hq; rw [UserReq.toRequest, publish_qos0_eq]; exact h.pushOut
    · exact h.publishFresh _ hq rfl rfl (by simp [colCount, hgate.2]; omega) (Nat.le_refl _) (fun r hr => hr)
  | subscribe n =>
    show Inv0 ⟨(outgoingSubscribe s n).1, []⟩
    unfold outgoingSubscribe
    split
    · exact h
    · rw [hp]; exact h.nextPkidSt.pushOut
  | unsubscribe =>
    show Inv0 ⟨(outgoingUnsubscribe s).1, []⟩
    unfold outgoingUnsubscribe
    rw [hp]; exact h.nextPkidSt.pushOut
  | disconnect => exact h.pushOut
  | puback i => exact h.pushOut
  | pubrec i => exact h.pushOut

theorem Inv0.pend {s : State} {r : Request} {rest : List Request} (h : Inv0 ⟨s, r :: rest⟩) :
    Inv0 ⟨(handleOutgoing s r).1, rest⟩ := by
  obtain ⟨-, b2, -, -, hw, hc⟩ := h.bounds
  rw [List.length_cons] at hw
  have hsub : ∀ x ∈ rest, x ∈ r :: rest := fun x hx => List.mem_cons_of_mem _ hx
  have hl : rest.length ≤ (r :: rest).length := Nat.le_succ _
  have hr : PendOK s r := h.pendWF r List.mem_cons_self
  cases r with
  | publish p =>
    obtain ⟨hq, h2, ha⟩ := hr
    by_cases hid : p.pkid = 0
    · exact h.publishFresh p hq hid ha (by omega) hl hsub
    · rw [publish_replay_eq s p ha hq hid]
      exact h.publishWithId p hq (by omega) h2 ha (by omega) hl hsub
  | pubrel i =>
    obtain ⟨h1, h2⟩ := hr
    have hs : SInv s := h.sinv
    have := hs.lenRel
    show Inv0 ⟨(outgoingPubrel s i).1, rest⟩
    unfold outgoingPubrel pubrelWithId
    rw [if_neg (by omega), if_pos (by omega)]
    split
    · exact h.shrink hl hsub
    · have := relCount_set_le s.outgoingRel i true
      exact (h.setRel i true (fun _ => ⟨h1, h2⟩) (s.inflight + 1) (by omega) (by omega) hsub).pushOut
  | _ => exact hr.elim

theorem Inv0.ping {s : State} {pd : List Request} (h : Inv0 ⟨s, pd⟩) : Inv0 ⟨(handleOutgoing s .pingreq).1, pd⟩ := by
  obtain ⟨c, a, he⟩ := outgoingPing_eq s
  show Inv0 ⟨(outgoingPing s).1, pd⟩
  rw [he]; exact h.frame

theorem Inv0.release {s : State} {pd : List Request} (h : Inv0 ⟨s, pd⟩) (i : Nat)
    (hw : s.inflight + 1 + pd.length + colCount s ≤ s.maxInflight) : Inv0 ⟨(release s i).1, pd⟩ := by
  fun_cases Client.release s i
  · rename_i c hc _
    obtain ⟨c1, c2, c3⟩ := h.colLe c hc
    have h1 := h.setCol none nofun 0 (pd' := pd)
      (by show s.inflight + pd.length + 0 ≤ s.maxInflight; omega) (fun r hr => hr)
    exact (h1.store c (h.sinv.colQos c hc) c1 c2 c3
      (by show s.inflight + 1 + pd.length + 0 ≤ s.maxInflight; omega) (fun r hr => hr)).pushOut
  · exact h
  · exact h

theorem Inv0.handlePuback {s : State} {pd : List Request} (h : Inv0 ⟨s, pd⟩) (i : Nat) :
    Inv0 ⟨(handlePuback s i).1, pd⟩ := by
  fun_cases Client.handlePuback s i
  · exact h
  · exact h
  · exact h
  · have := h.bounds
    exact (h.free i _ ‹_› (s.inflight - 1) (by omega) (by omega)).release i
      (by show s.inflight - 1 + 1 + pd.length + colCount s ≤ s.maxInflight; omega)

theorem Inv0.handlePubrec {s : State} {pd : List Request} (h : Inv0 ⟨s, pd⟩) (i r : Nat) :
    Inv0 ⟨(handlePubrec s i r).1, pd⟩ := by
  fun_cases Client.handlePubrec s i r
  · exact h
  · exact h
  · exact h.free i _ ‹_› s.inflight (by omega) (by omega)
  · have := h.bounds
    have : ¬ s.inflight = 0 := ‹_›
    exact (h.free i _ ‹_› (s.inflight - 1) (by omega) (by omega)).release i
      (by show s.inflight - 1 + 1 + pd.length + colCount s ≤ s.maxInflight; omega)
  · exact (h.moveToRel i _ ‹_›).pushOut
  · exact h.free i _ ‹_› s.inflight (by omega) (by omega)

theorem Inv0.handlePubcomp {s : State} {pd : List Request} (h : Inv0 ⟨s, pd⟩) (i : Nat) :
    Inv0 ⟨(handlePubcomp s i).1, pd⟩ := by
  obtain ⟨-, -, -, -, hw, hc⟩ := h.bounds
  fun_cases Client.handlePubcomp s i
  · have := relCount_set_false _ _ ((relContains_eq s i).mp ‹_›)
    exact h.setRel i false nofun s.inflight (by omega) hw (fun r hr => hr)
  · have := relCount_set_false _ _ ((relContains_eq s i).mp ‹_›)
    exact (h.setRel i false nofun (s.inflight - 1) (by omega) (by omega) (fun r hr => hr)).release i
      (by show s.inflight - 1 + 1 + pd.length + colCount s ≤ s.maxInflight; omega)
  · exact h

/-- MQTT 5: the limit may be raised, or set anywhere in `1..upperLimit` while nothing is in use -/
theorem Inv0.setMax {s : State} {pd : List Request} (h : Inv0 ⟨s, pd⟩) (hv : s.ver = .v5) (m : Nat)
    (h1 : 1 ≤ m) (h2 : m ≤ s.upperLimit)
    (hsafe : s.maxInflight ≤ m ∨ (s.inflight = 0 ∧ pd = [] ∧ s.collision = none)) (b : Nat) :
    Inv0 ⟨{ s with maxInflight := m, brokerAliasMax := b }, pd⟩ := by
  have hpk : nextPkidBase { s with maxInflight := m, brokerAliasMax := b } < m := by
    unfold nextPkidBase
    rw [show State.ver _ = s.ver from rfl, hv]
    show (if s.lastPkid ≥ m then 0 else s.lastPkid) < m
    split <;> omega
  have hs : SInv { s with maxInflight := m, brokerAliasMax := b } := h.sinv.frame _ _ _ _ _ _ _ _
  obtain ⟨-, -, -, -, hw, hc⟩ := h.bounds
  rcases hsafe with hge | ⟨hz, rfl, hcol⟩
  · exact ⟨hs, h1, h2, h.upLe, hpk, (by show s.inflight + pd.length + colCount s ≤ m; omega),
      fun i p hp => (h.slotLe i p hp).imp_right (.imp_left (Nat.le_trans · hge)),
      fun i hi => (h.relLe i hi).imp_right (Nat.le_trans · hge),
      fun c hc => (h.colLe c hc).imp_right (.imp_left (Nat.le_trans · hge)),
      fun r hr => (h.pendWF r hr).mono hge⟩
  · exact ⟨hs, h1, h2, h.upLe, hpk,
      (by show s.inflight + 0 + colCount s ≤ m; rw [colCount, hcol]; show s.inflight + 0 + 0 ≤ m; omega),
      fun i p hp => absurd (occ_pos_of_slot s.outgoingPub i p hp) (by omega),
      fun i hi => absurd (relCount_pos_of_bit s.outgoingRel i ((relContains_eq s i).mp hi)) (by omega),
      (fun c hc => nomatch hcol.symm.trans (hc : s.collision = some c)), fun _ hr => absurd hr List.not_mem_nil⟩

theorem Inv0.handleConnack {s : State} {pd : List Request} (h : Inv0 ⟨s, pd⟩) (hv : s.ver = .v5)
    (ok : Bool) (rm am : Option Nat)
    (hsafe : ∀ m, ok = true → rm = some m →
      1 ≤ min m s.upperLimit ∧
        (s.maxInflight ≤ min m s.upperLimit ∨ (s.inflight = 0 ∧ pd = [] ∧ s.collision = none))) :
    Inv0 ⟨(handleConnack s ok rm am).1, pd⟩ := by
  unfold Client.handleConnack
  split
  · exact h
  · rename_i hok
    have hself := h.setMax hv s.maxInflight h.maxPos h.maxLe (.inl (Nat.le_refl _))
    cases rm with
    | none => cases am <;> exact hself _
    | some m =>
      obtain ⟨k1, k2⟩ := hsafe m (by simpa using hok) rfl
      cases am <;> exact h.setMax hv _ k1 (Nat.min_le_right _ _) k2 _

theorem Inv0.handleIncoming {s : State} {pd : List Request} (h : Inv0 ⟨s, pd⟩) (p : Incoming)
    (hn : ¬ unsafeConnack ⟨s, pd⟩ (.inc p)) : Inv0 ⟨(handleIncoming s p).1, pd⟩ := by
  have h0 := h.pushEv (.incoming p)
  cases p with
  | puback i r => exact h0.handlePuback i
  | pubrec i r => exact h0.handlePubrec i r
  | pubcomp i r => exact h0.handlePubcomp i
  | connack ok sp rm am =>
    show Inv0 ⟨(match s.ver with | .v4 => _ | .v5 => Client.handleConnack _ ok rm am).1, pd⟩
    split
    · exact h0
    · rename_i hv
      refine h0.handleConnack hv ok rm am fun m hok hrm => ?_
      subst hok hrm
      exact Classical.not_not.mp fun h' => hn ⟨hv, h'⟩
  | _ => rw [handleIncoming_quiet s _ rfl]; exact h.frame

theorem Inv0.cleanRequests_ok {s : State} {pd : List Request} (h : Inv0 ⟨s, pd⟩) (r : Request)
    (hr : r ∈ cleanRequests s) : PendOK s r := by
  rcases (mem_cleanRequests h.sinv r).mp hr with ⟨p, rfl, hp⟩ | ⟨i, rfl, hi⟩ | ⟨c, hc, rfl⟩
  · obtain ⟨j, hj⟩ := List.mem_iff_getElem?.mp hp
    obtain ⟨-, g2, g3⟩ := h.slotLe j p hj
    obtain ⟨rfl, g4⟩ := h.sinv.slotId j p hj
    exact ⟨g4, g2, g3⟩
  · exact h.relLe i hi
  · exact ⟨h.sinv.colQos c hc, Nat.zero_le _, (h.colLe c hc).2.2⟩

/-- a connection failure: `EventLoop::clean` -/
theorem Inv0.fail {s : State} {pd : List Request} (h : Inv0 ⟨s, pd⟩) :
    Inv0 ⟨cleanState s, cleanRequests s ++ pd⟩ := by
  obtain ⟨-, -, -, -, hw, hc⟩ := h.bounds
  have hs : SInv s := h.sinv
  have hlen := length_cleanRequests hs
  exact ⟨h.sinv.cleanState, h.maxPos, h.maxLe, h.upLe, h.pk,
    (by show 0 + (cleanRequests s ++ pd).length + 0 ≤ s.maxInflight
        rw [List.length_append, hlen]; unfold colCount at hw; omega),
    fun i p hp => absurd hp (cleanState_slot s i p),
    (fun i hi => nomatch (cleanState_rel s i).symm.trans hi), nofun,
    fun r hr => (List.mem_append.mp hr).elim (h.cleanRequests_ok r) (h.pendWF r)⟩

theorem Inv0.newSession {s : State} {pd : List Request} (h : Inv0 ⟨s, pd⟩) : Inv0 ⟨s, []⟩ :=
  h.shrink (Nat.zero_le _) fun _ hr => absurd hr List.not_mem_nil

theorem Inv0.lstep {l : LState} (h : Inv0 l) (op : LOp) (hn : ¬ unsafeConnack l op) : Inv0 (lstep l op).1 := by
  obtain ⟨s, pd⟩ := l
  rcases lstep_cases s pd op with he | ⟨sop, pd', hf, he⟩ <;> rw [he]
  · exact h
  cases hf with
  | user u hpd hg => subst hpd; exact (h.user u hg).drain
  | pend r rest hpd hr => subst hpd; exact h.pend.drain
  | ping => exact h.ping.drain
  | inc p => exact (h.handleIncoming p hn).drain
  | fail => exact h.fail
  | newSession => exact h.newSession

theorem pend_cases {s : State} {r : Request} {rest : List Request} (h0 : Inv0 ⟨s, r :: rest⟩) :
    (∃ p, r = .publish p ∧ p.qos ≠ 0 ∧ p.pkid ≤ s.maxInflight ∧ p.alias = none) ∨
    (∃ i, r = .pubrel i ∧ i < s.outgoingRel.length ∧
      handleOutgoing s (.pubrel i) =
        ({ s with outgoingRel := s.outgoingRel.set i true, inflight := s.inflight + 1 }.pushOut (.pubrel i),
          .ok (some (.pubrel i)))) := by
  have hok := h0.pendWF r (by simp)
  cases r with
  | publish p => exact Or.inl ⟨p, rfl, hok⟩
  | pubrel i =>
    have hw := h0.window; have hml := h0.maxLe; have hul := h0.upLe; have hlen := h0.sinv.lenRel
    simp only [PendOK, List.length_cons] at hok hw hml hul hlen
    have hlt : i < s.outgoingRel.length := by omega
    exact Or.inr ⟨i, rfl, hlt, pubrel_replay_eq s i (by omega) hlt (by omega)⟩
  | _ => exact hok.elim

theorem storePub_frame (s : State) (p : Pub) :
    (storePub s p).outgoingRel = s.outgoingRel ∧ (storePub s p).collision = s.collision ∧
    (storePub s p).maxInflight = s.maxInflight ∧ (storePub s p).upperLimit = s.upperLimit ∧
    (storePub s p).lastPkid = s.lastPkid ∧ (storePub s p).ver = s.ver ∧ (storePub s p).inflight = s.inflight + 1 ∧
    (storePub s p).outgoingPub = s.outgoingPub.set p.pkid (some p) := ⟨rfl, rfl, rfl, rfl, rfl, rfl, rfl, rfl⟩

end Client
