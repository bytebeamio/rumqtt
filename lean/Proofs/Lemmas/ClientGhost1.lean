/-
Coupling of the wire view `unacked` with `outgoing_pub` (`UnackedOK`: same entries, in send order, with increasing
stamps) and of `accepted` with what is done or held (`GInv1.kept`). Proved along runs on which `Inv2` holds.
-/
import Proofs.Lemmas.ClientInv234
import Proofs.Lemmas.ClientGhost0
namespace Client
open Client.Spec

/-- send stamp recorded for id `i` -/
def ordAt (s : State) (i : Nat) : Nat := s.outgoingOrder[i]?.getD 0

theorem ordAt_congr {s s' : State} (h : s'.outgoingOrder = s.outgoingOrder) (i : Nat) : ordAt s' i = ordAt s i := by
  unfold ordAt; rw [h]

theorem ordAt_set {s s' : State} {k c : Nat} (h : s'.outgoingOrder = s.outgoingOrder.set k c) (j : Nat) :
    ordAt s' j = if k = j ∧ k < s.outgoingOrder.length then c else ordAt s j := by
  unfold ordAt
  rw [h, List.getElem?_set]
  by_cases hkj : k = j
  · subst hkj
    by_cases hlt : k < s.outgoingOrder.length
    · simp [hlt]
    · simp [hlt]
  · simp [hkj]

/-- the wire view `U` (send order) and the publish table agree, and the send stamps of the table
    follow the order of `U` -/
structure UnackedOK (U : List (Nat × Nat)) (s : State) : Prop where
  look : ∀ i : Nat, alookup U i = slotTag s i
  nd : (U.map (·.1)).Nodup
  len : U.length = occ s.outgoingPub
  stamps : U.Pairwise (fun a b => ordAt s a.1 < ordAt s b.1)
  below : ∀ e ∈ U, ordAt s e.1 < s.outgoingCount

/-- the equations with `:= by rfl` need no argument when the new state is written as `{ s with … }` -/
theorem UnackedOK.congr {U : List (Nat × Nat)} {s s' : State} (h : UnackedOK U s) (he : s'.outgoingPub = s.outgoingPub)
    (ho : s'.outgoingOrder = s.outgoingOrder := by rfl) (hc : s'.outgoingCount = s.outgoingCount := by rfl) :
    UnackedOK U s' :=
  ⟨fun i => by unfold slotTag; rw [he]; exact h.look i, h.nd, by rw [he]; exact h.len,
    h.stamps.imp (by intro a b hab; rw [ordAt_congr ho, ordAt_congr ho]; exact hab),
    fun e he' => by rw [ordAt_congr ho, hc]; exact h.below e he'⟩

theorem UnackedOK.of_look {U : List (Nat × Nat)} {s : State} (look : ∀ i : Nat, alookup U i = slotTag s i)
    (stamps : U.Pairwise (fun a b => ordAt s a.1 < ordAt s b.1)) (below : ∀ e ∈ U, ordAt s e.1 < s.outgoingCount) :
    UnackedOK U s := by
  have nd : (U.map (·.1)).Nodup :=
    List.pairwise_map.mpr (stamps.imp fun h e => by rw [e] at h; exact Nat.lt_irrefl _ h)
  refine ⟨look, nd, ?_, stamps, below⟩
  rw [← List.length_map (·.1)]
  refine length_eq_countP Option.isSome _ nd fun i => ?_
  rw [← Decidable.not_iff_not, ← alookup_none_iff, look]
  unfold slotTag
  cases s.outgoingPub[i]? with
  | none => simp
  | some v => cases v <;> simp

theorem slotTag_set (s s' : State) (i : Nat) (v : Option Pub) (he : s'.outgoingPub = s.outgoingPub.set i v)
    (hi : i < s.outgoingPub.length) (j : Nat) :
    slotTag s' j = if i = j then v.map (·.tag) else slotTag s j := by
  unfold slotTag
  rw [he, List.getElem?_set]
  by_cases hij : i = j
  · simp only [hij, if_true]
    subst hij
    simp only [hi, if_true]
    cases v <;> rfl
  · simp only [hij, if_false]

theorem UnackedOK.store {U : List (Nat × Nat)} {s s' : State} (h : UnackedOK U s) (p : Pub)
    (hslot : s.outgoingPub[p.pkid]? = some none) (hlo : p.pkid < s.outgoingOrder.length)
    (he : s'.outgoingPub = s.outgoingPub.set p.pkid (some p))
    (ho : s'.outgoingOrder = s.outgoingOrder.set p.pkid s.outgoingCount := by rfl)
    (hc : s'.outgoingCount = s.outgoingCount + 1 := by rfl) :
    UnackedOK (U ++ [(p.pkid, p.tag)]) s' := by
  have hi := getElem?_lt_of_some hslot
  have hnone : alookup U p.pkid = none := by rw [h.look]; simp [slotTag, hslot]
  have hnk : ∀ e ∈ U, e.1 ≠ p.pkid := by
    intro e he' heq
    exact (alookup_none_iff U _).mp hnone (by rw [← heq]; exact List.mem_map_of_mem he')
  have hold : ∀ e ∈ U, ordAt s' e.1 = ordAt s e.1 := by
    intro e he'
    rw [ordAt_set ho]
    have := hnk e he'
    simp [Ne.symm this]
  have hnew : ordAt s' p.pkid = s.outgoingCount := by rw [ordAt_set ho]; simp [hlo]
  refine .of_look ?_ ?_ ?_
  · intro j
    rw [alookup_append, slotTag_set s s' p.pkid (some p) he hi j, h.look j]
    by_cases hj : p.pkid = j
    · subst hj
      simp [slotTag, hslot]
    · simp only [hj, if_false]
      cases slotTag s j <;> rfl
  · rw [List.pairwise_append]
    refine ⟨?_, by simp, ?_⟩
    · apply h.stamps.imp_of_mem
      intro a b ha hb hab
      rw [hold a ha, hold b hb]; exact hab
    · intro a ha b hb
      simp only [List.mem_singleton] at hb
      subst hb
      rw [hold a ha, hnew]
      exact h.below a ha
  · intro e he'
    rcases List.mem_append.mp he' with he' | he'
    · rw [hold e he', hc]; have := h.below e he'; omega
    · simp only [List.mem_singleton] at he'
      subst he'
      rw [hnew, hc]; omega

theorem UnackedOK.free {U : List (Nat × Nat)} {s s' : State} (h : UnackedOK U s) (i : Nat) (x : Pub)
    (hslot : s.outgoingPub[i]? = some (some x))
    (he : s'.outgoingPub = s.outgoingPub.set i none)
    (ho : s'.outgoingOrder = s.outgoingOrder := by rfl) (hc : s'.outgoingCount = s.outgoingCount := by rfl) :
    UnackedOK (aerase U i) s' ∧ alookup U i = some x.tag := by
  have hi := getElem?_lt_of_some hslot
  have hsome : alookup U i = some x.tag := by rw [h.look]; simp [slotTag, hslot]
  have hsub := aerase_sublist U i
  refine ⟨.of_look ?_ ?_ ?_, hsome⟩
  · intro j
    rw [alookup_aerase U i j h.nd, slotTag_set s s' i none he hi j, h.look j]
    rfl
  · apply (h.stamps.sublist hsub).imp
    intro a b hab; rw [ordAt_congr ho, ordAt_congr ho]; exact hab
  · intro e he'
    rw [ordAt_congr ho, hc]; exact h.below e (hsub.subset he')

theorem UnackedOK.absent {U : List (Nat × Nat)} {s : State} (h : UnackedOK U s) (i : Nat)
    (hslot : s.outgoingPub[i]? = none ∨ s.outgoingPub[i]? = some none) : alookup U i = none := by
  rw [h.look]; unfold slotTag
  rcases hslot with h' | h' <;> rw [h']

theorem UnackedOK.clean (s : State) : UnackedOK [] (cleanState s) := by
  refine .of_look ?_ (by simp) (by simp)
  intro i
  simp only [alookup, slotTag, cleanState, List.getElem?_map]
  cases s.outgoingPub[i]? <;> rfl

theorem UnackedOK.new (ver : Version) (max : Nat) (m : Bool) : UnackedOK [] (State.new ver max m) := by
  refine .of_look ?_ (by simp) (by simp)
  intro i
  simp only [alookup, slotTag, State.new, List.getElem?_replicate]
  by_cases h : i < max + 1 <;> simp [h]

theorem UnackedOK.isSome_look {U : List (Nat × Nat)} {s : State} (h : UnackedOK U s) (i : Nat) :
    (alookup U i).isSome = occAt s i := by
  rw [h.look]; unfold slotTag occAt; split <;> rfl

theorem UnackedOK.slot_empty {U : List (Nat × Nat)} {s : State} (h : UnackedOK U s) {i : Nat}
    (hn : (alookup U i).isNone = true) : s.outgoingPub[i]? = none ∨ s.outgoingPub[i]? = some none := by
  refine (occAt_false_iff s i).mp ?_
  rw [← h.isSome_look i]
  cases h1 : alookup U i with
  | none => rfl
  | some t => rw [h1] at hn; cases hn

theorem mem_keys_iff_occ {U : List (Nat × Nat)} {s : State} (h : UnackedOK U s) (i : Nat) :
    i ∈ U.map (·.1) ↔ occAt s i = true := by
  rw [← h.isSome_look, ← Decidable.not_iff_not, ← alookup_none_iff]
  cases alookup U i <;> simp

/-- tag `t` is held: in a slot of `outgoing_pub`, in the collision slot, or in `pending` -/
def Held (l : LState) (t : Nat) : Prop :=
  (∃ (i : Nat) (p : Pub), l.st.outgoingPub[i]? = some (some p) ∧ p.tag = t) ∨
  (∃ c : Pub, l.st.collision = some c ∧ c.tag = t) ∨
  (∃ p : Pub, .publish p ∈ l.pending ∧ p.tag = t)

structure GInv1 (l : LState) (g : Ghost) : Prop where
  unacked : UnackedOK g.unacked l.st
  kept : ∀ t ∈ g.accepted, t ∈ g.done ∨ Held l t

theorem GInv1.new (ver : Version) (max : Nat) (m : Bool) : GInv1 (LState.new ver max m) (Ghost.init ver max m) :=
  ⟨UnackedOK.new ver max m, by intro t ht; simp [Ghost.init] at ht⟩

theorem Held.congr {l l' : LState} {t : Nat} (h : Held l t) (e1 : l'.st.outgoingPub = l.st.outgoingPub)
    (e2 : l'.st.collision = l.st.collision) (e3 : ∀ p : Pub, .publish p ∈ l.pending → .publish p ∈ l'.pending) :
    Held l' t := by
  rcases h with ⟨i, p, hp, ht⟩ | ⟨c, hc, ht⟩ | ⟨p, hp, ht⟩
  · exact Or.inl ⟨i, p, by rw [e1]; exact hp, ht⟩
  · exact Or.inr (Or.inl ⟨c, by rw [e2]; exact hc, ht⟩)
  · exact Or.inr (Or.inr ⟨p, e3 p hp, ht⟩)

theorem Held.park {s s' : State} {pd : List Request} {t : Nat} (h : Held ⟨s, pd⟩ t) (hcol : s.collision = none)
    (e1 : s'.outgoingPub = s.outgoingPub) : Held ⟨s', pd⟩ t := by
  rcases h with ⟨i, x, hx, hxt⟩ | ⟨c, hc, ht⟩ | h3
  · exact Or.inl ⟨i, x, by rw [e1]; exact hx, hxt⟩
  · simp only at hc; rw [hcol] at hc; cases hc
  · exact Or.inr (Or.inr h3)

theorem relPub_not_publish (U : List (Nat × Nat)) (o : Outcome) (h : ∀ q, o ≠ .ok (some (.publish q))) : relPub U o = U := by
  unfold relPub
  split
  · rename_i q; exact absurd rfl (h q)
  · rfl

theorem acceptedAfterOut_sub (A : List Nat) (p : Pub) (o : Outcome)
    (ho : ∀ q, o = .ok (some (.publish q)) → q.tag = p.tag) :
    ∀ t ∈ acceptedAfterOut A (.publish p) o, t ∈ p.tag :: A := by
  intro t ht
  cases o with
  | ok x =>
    cases x with
    | none =>
      simp only [acceptedAfterOut] at ht
      split at ht
      · exact List.mem_cons_of_mem _ ht
      · split at ht
        · exact ht
        · exact List.mem_cons_of_mem _ ht
    | some pkt =>
      cases pkt with
      | publish q =>
        simp only [acceptedAfterOut] at ht
        split at ht
        · exact List.mem_cons_of_mem _ ht
        · split at ht
          · rw [← ho q rfl]; exact ht
          · exact List.mem_cons_of_mem _ ht
      | _ => exact List.mem_cons_of_mem _ ht
  | _ => exact List.mem_cons_of_mem _ ht

theorem kept_out {A D : List Nat} {l : LState} {p : Pub} {o : Outcome} (hK : ∀ t ∈ A, t ∈ D ∨ Held l t)
    (hp : Held l p.tag) (ho : ∀ q, o = .ok (some (.publish q)) → q.tag = p.tag) :
    ∀ t ∈ acceptedAfterOut A (.publish p) o, t ∈ D ∨ Held l t :=
  fun t ht => (List.mem_cons.mp (acceptedAfterOut_sub A p o ho t ht)).elim (fun h => h ▸ Or.inr hp) (hK t)

theorem Held.tail {s : State} {r : Request} {rest : List Request} {t : Nat} (h : Held ⟨s, r :: rest⟩ t) :
    Held ⟨s, rest⟩ t ∨ ∃ p, r = .publish p ∧ p.tag = t := by
  rcases h with h | h | ⟨x, hx, hxt⟩
  · exact .inl (.inl h)
  · exact .inl (.inr (.inl h))
  · rcases List.mem_cons.mp hx with hx | hx
    · exact .inr ⟨x, hx.symm, hxt⟩
    · exact .inl (.inr (.inr ⟨x, hx, hxt⟩))

/-! In `coupled_store` and `coupled_park` what was held may be the publish itself (it was the head of `pending`, or
parked): `∨ t = p.tag`. -/

theorem coupled_unchanged {s s' : State} {pd : List Request} {U : List (Nat × Nat)} {A D : List Nat} {c : Core} (hc : s'.core = c)
    (hU : UnackedOK U s) (hK : ∀ t ∈ A, t ∈ D ∨ Held ⟨s, pd⟩ t)
    (e1 : c.pub = s.outgoingPub := by rfl) (e5 : c.ord = s.outgoingOrder := by rfl) (e6 : c.cnt = s.outgoingCount := by rfl)
    (e4 : c.col = s.collision := by rfl) :
    UnackedOK U s' ∧ ∀ t ∈ A, t ∈ D ∨ Held ⟨s', pd⟩ t :=
  have e1 : s'.outgoingPub = s.outgoingPub := (congrArg Core.pub hc).trans e1
  ⟨hU.congr e1 ((congrArg Core.ord hc).trans e5) ((congrArg Core.cnt hc).trans e6),
    fun t ht => (hK t ht).imp_right (·.congr e1 ((congrArg Core.col hc).trans e4) fun _ hp => hp)⟩

theorem coupled_store {s s' : State} {pd : List Request} {U : List (Nat × Nat)} {A D : List Nat} {p : Pub} {c : Core}
    (hU : UnackedOK U s) (hK : ∀ t ∈ A, t ∈ D ∨ Held ⟨s, pd⟩ t ∨ t = p.tag) (hslot : s.outgoingPub[p.pkid]? = some none)
    (hlo : p.pkid < s.outgoingOrder.length) (hc : s'.core = c.store p)
    (hcol : ∀ x, s.collision = some x → c.col = some x ∨ x.tag = p.tag)
    (e1 : c.pub = s.outgoingPub := by rfl) (e5 : c.ord = s.outgoingOrder := by rfl) (e6 : c.cnt = s.outgoingCount := by rfl) :
    UnackedOK (U ++ [(p.pkid, p.tag)]) s' ∧ (∀ t ∈ A, t ∈ D ∨ Held ⟨s', pd⟩ t) ∧ Held ⟨s', pd⟩ p.tag := by
  have hlt := getElem?_lt_of_some hslot
  have e1 : s'.outgoingPub = s.outgoingPub.set p.pkid (some p) := (congrArg Core.pub hc).trans (e1 ▸ rfl)
  have hnew : Held ⟨s', pd⟩ p.tag := .inl ⟨p.pkid, p, by simp [e1, hlt], rfl⟩
  refine ⟨hU.store p hslot hlo e1 ((congrArg Core.ord hc).trans (e5 ▸ e6 ▸ rfl)) ((congrArg Core.cnt hc).trans (e6 ▸ rfl)),
    fun t ht => (hK t ht).imp_right fun h => ?_, hnew⟩
  rcases h with (⟨i, x, hx, hxt⟩ | ⟨x, hx, hxt⟩ | h) | rfl
  · refine .inl ⟨i, x, ?_, hxt⟩
    rw [e1, List.getElem?_set]
    split
    · rename_i hi; subst hi; rw [hslot] at hx; cases hx
    · exact hx
  · rcases hcol x hx with h | h
    · exact .inr (.inl ⟨x, (congrArg Core.col hc).trans h, hxt⟩)
    · exact hxt ▸ h ▸ hnew
  · exact .inr (.inr h)
  · exact hnew

theorem coupled_park {s s' : State} {pd : List Request} {U : List (Nat × Nat)} {A D : List Nat} {p : Pub} {n : Nat}
    (hU : UnackedOK U s) (hK : ∀ t ∈ A, t ∈ D ∨ Held ⟨s, pd⟩ t ∨ t = p.tag) (hcol : s.collision = none)
    (hc : s'.core = { s.core with lastPkid := n, col := some p }) :
    UnackedOK U s' ∧ (∀ t ∈ A, t ∈ D ∨ Held ⟨s', pd⟩ t) ∧ Held ⟨s', pd⟩ p.tag := by
  have e1 : s'.outgoingPub = s.outgoingPub := congrArg Core.pub hc
  have hnew : Held ⟨s', pd⟩ p.tag := .inr (.inl ⟨p, congrArg Core.col hc, rfl⟩)
  exact ⟨hU.congr e1 (congrArg Core.ord hc) (congrArg Core.cnt hc),
    fun t ht => (hK t ht).imp_right fun h => h.elim (·.park hcol e1) (· ▸ hnew), hnew⟩

theorem GInv1.out {s : State} {pd pd' : List Request} {g : Ghost} {r : Request} {res : State × Outcome}
    (hs : SInv s) (h2 : Inv2 ⟨s, pd⟩) (h1 : GInv1 ⟨s, pd⟩ g) (he : OutEff s pd r pd' res) :
    UnackedOK (unackedAfterOut g.unacked r res.2) res.1 ∧
    ∀ t ∈ acceptedAfterOut g.accepted r res.2, t ∈ g.done ∨ Held ⟨res.1, pd'⟩ t := by
  obtain ⟨hU, hK⟩ := h1
  -- a publish with QoS > 0 gets through: nothing is parked, and `pending` loses at most this publish
  have from_ : ∀ {p : Pub}, PubFrom s pd p pd' →
      s.collision = none ∧ ∀ t ∈ g.accepted, t ∈ g.done ∨ Held ⟨s, pd'⟩ t ∨ t = (withId s p).tag := by
    rintro p (⟨rfl, rfl, -, hcol⟩ | rfl)
    · exact ⟨hcol, fun t ht => (hK t ht).imp_right .inl⟩
    · refine ⟨h2.col_none, fun t ht => (hK t ht).imp_right fun h => h.tail.imp_right ?_⟩
      rintro ⟨_, ⟨⟩, rfl⟩
      exact (withId_fields s p).1.symm
  cases he with
  | idOnly _ s' o hpub hrel hc =>
    have hu : unackedAfterOut g.unacked r o = g.unacked ∧ acceptedAfterOut g.accepted r o = g.accepted := by
      cases r with
      | publish p => obtain ⟨hq, rfl⟩ := hpub p rfl; simp [unackedAfterOut, relPub, acceptedAfterOut, hq]
      | pubrel i => exact absurd rfl (hrel i)
      | _ => exact ⟨rfl, rfl⟩
    rw [hu.1, hu.2]
    exact coupled_unchanged hc hU hK
  | store p s' _ hpd hq hslot hrel hc =>
    obtain ⟨ht, hq'⟩ := withId_fields s p
    obtain ⟨hcol, hK'⟩ := from_ hpd
    have hlo : (withId s p).pkid < s.outgoingOrder.length := by
      have := hs.lenOrd; have := hs.lenPub; have := getElem?_lt_of_some hslot; omega
    obtain ⟨k1, k2, k3⟩ := coupled_store hU hK' hslot hlo hc (by rw [hcol]; exact nofun)
    refine ⟨?_, kept_out k2 (ht ▸ k3) fun q e => by cases e; exact ht⟩
    simp only [unackedAfterOut, relPub, hq' ▸ hq, if_false]
    exact k1
  | park p s' _ hpd hq hbusy hc =>
    obtain ⟨hcol, hK'⟩ := from_ hpd
    obtain ⟨k1, k2, k3⟩ := coupled_park hU hK' hcol hc
    exact ⟨k1, kept_out k2 ((withId_fields s p).1 ▸ k3) nofun⟩
  | setRel i s' _ hpd hi hc =>
    subst hpd
    exact coupled_unchanged hc hU fun t ht => (hK t ht).imp_right fun h => h.tail.resolve_right (by rintro ⟨_, ⟨⟩, _⟩)

theorem kept_free {s s' : State} {pd : List Request} {A D : List Nat} {i : Nat} {x : Pub}
    (hK : ∀ t ∈ A, t ∈ D ∨ Held ⟨s, pd⟩ t) (hx : s.outgoingPub[i]? = some (some x))
    (e1 : s'.outgoingPub = s.outgoingPub.set i none) (e4 : s'.collision = s.collision) :
    ∀ t ∈ A, t ∈ x.tag :: D ∨ Held ⟨s', pd⟩ t := by
  intro t ht
  rcases hK t ht with h' | ⟨j, y, hy, hyt⟩ | ⟨c', hc', hct⟩ | h3
  · exact Or.inl (List.mem_cons_of_mem _ h')
  · by_cases hij : i = j
    · subst hij; rw [hx] at hy; cases hy
      exact Or.inl (by rw [hyt]; exact List.mem_cons_self)
    · refine Or.inr (Or.inl ⟨j, y, ?_, hyt⟩)
      simp only [e1, List.getElem?_set, hij, if_false]; exact hy
  · exact Or.inr (Or.inr (Or.inl ⟨c', by rw [e4]; exact hc', hct⟩))
  · exact Or.inr (Or.inr (Or.inr h3))

/-- `s2`: `s0` with id `i` just freed -/
theorem GInv1.release {s0 s2 : State} {pd : List Request} {U : List (Nat × Nat)} {A D : List Nat} {i : Nat}
    (hcol : s2.collision = s0.collision) (hU : UnackedOK U s2) (hK : ∀ t ∈ A, t ∈ D ∨ Held ⟨s2, pd⟩ t)
    (hfree : s2.outgoingPub[i]? = some none) (hlo : i < s2.outgoingOrder.length)
    (hq : ∀ c, s0.collision = some c → c.qos ≠ 0)
    {res : State × Outcome} (he : ReleaseEff s0 i s2.core res) :
    UnackedOK (relPub U res.2) res.1 ∧ ∀ t ∈ A, t ∈ D ∨ Held ⟨res.1, pd⟩ t := by
  cases he with
  | plain s' hn hc => exact coupled_unchanged hc hU hK
  | released s' c hc' hci hc =>
    subst hci
    obtain ⟨k1, k2, -⟩ := coupled_store hU (fun t ht => (hK t ht).imp_right .inl) hfree hlo hc
      (by rw [hcol, hc']; rintro _ ⟨⟩; exact .inr rfl)
    exact ⟨by simpa [relPub, hq c hc'] using k1, k2⟩

theorem GInv1.acked {s0 : State} {pd : List Request} {U : List (Nat × Nat)} {A D : List Nat} {i : Nat} {x : Pub}
    (hs0 : SInv s0) (hU0 : UnackedOK U s0) (hK0 : ∀ t ∈ A, t ∈ D ∨ Held ⟨s0, pd⟩ t)
    (hx : s0.outgoingPub[i]? = some (some x)) {res : State × Outcome}
    (he : ReleaseEff s0 i { s0.core with pub := s0.outgoingPub.set i none, inf := s0.inflight - 1 } res) :
    alookup U i = some x.tag ∧ UnackedOK (relPub (aerase U i) res.2) res.1 ∧
    ∀ t ∈ A, t ∈ x.tag :: D ∨ Held ⟨res.1, pd⟩ t := by
  have hlt := getElem?_lt_of_some hx
  let s2 : State := { s0 with outgoingPub := s0.outgoingPub.set i none, inflight := s0.inflight - 1 }
  obtain ⟨hf, hl⟩ := hU0.free (s' := s2) i x hx rfl
  have hK2 : ∀ t ∈ A, t ∈ x.tag :: D ∨ Held ⟨s2, pd⟩ t := kept_free hK0 hx rfl rfl
  have hlo : i < s2.outgoingOrder.length := by
    have := hs0.lenOrd; have := hs0.lenPub; simp only [s2]; omega
  have := GInv1.release (s0 := s0) (s2 := s2) (pd := pd) (i := i) rfl hf hK2 (by simp [s2, hlt]) hlo hs0.colQos he
  exact ⟨hl, this.1, this.2⟩

/-- of the state only `SInv` and the disjointness of slots and release bits are needed (the latter for PUBCOMP) -/
theorem coupled_incoming {s : State} {pd : List Request} {U : List (Nat × Nat)} {A D : List Nat} (hs : SInv s)
    (hd : ∀ i : Nat, occAt s i = true → relContains s i = false)
    (hU : UnackedOK U s) (hK : ∀ t ∈ A, t ∈ D ∨ Held ⟨s, pd⟩ t) (p : Incoming) :
    UnackedOK (relPub (unackedAfterIn U p) (handleIncoming s p).2) (handleIncoming s p).1 ∧
    ∀ t ∈ A, t ∈ doneAfterIn D U p ∨ Held ⟨(handleIncoming s p).1, pd⟩ t := by
  have he := handleIncoming_eff hs p
  generalize handleIncoming s p = res at he ⊢
  cases he with
  | unsol p i s' hp h hc =>
    have hab := hU.absent i h
    simp only [unackedAfterIn, doneAfterIn, hp]
    rw [aerase_absent _ _ hab, hab]
    exact coupled_unchanged hc hU hK
  | acked p i x _ hp hx he =>
    obtain ⟨k1, k2, k3⟩ := GInv1.acked hs hU hK hx he
    simp only [unackedAfterIn, doneAfterIn, hp]
    rw [k1]; exact ⟨k2, k3⟩
  | moved i r x s' hx hi hc =>
    obtain ⟨hf, hl⟩ := hU.free i x hx (congrArg Core.pub hc) (congrArg Core.ord hc) (congrArg Core.cnt hc)
    simp only [unackedAfterIn, doneAfterIn, ackedId]
    rw [hl]
    exact ⟨hf, kept_free hK hx (congrArg Core.pub hc) (congrArg Core.col hc)⟩
  | unsolComp i r s' h hc => exact coupled_unchanged hc hU hK
  | comped i r _ hx he =>
    -- the id awaited its PUBCOMP, so no publish is stored under it
    have hbit := (relContains_eq s i).mp hx
    have hfree := slot_free_of_rel hs (hd i) hx
    let s2 : State := { s with outgoingRel := s.outgoingRel.set i false, inflight := s.inflight - 1 }
    have hlo : i < s2.outgoingOrder.length := by
      have := hs.lenOrd; have := hs.lenRel; have := getElem?_lt_of_some hbit; simp only [s2]; omega
    exact GInv1.release (s0 := s) (s2 := s2) (pd := pd) (i := i) rfl (hU.congr rfl)
      (fun t ht => (hK t ht).imp_right (·.congr rfl rfl fun _ hp => hp)) hfree hlo hs.colQos he
  | other p s' o hq hc ho =>
    simp only [unackedAfterIn, doneAfterIn, ackedId_of_not_ack hq]
    rw [relPub_not_publish _ _ ho.1]
    exact coupled_unchanged hc hU hK

theorem GInv1.incoming {s : State} {pd : List Request} {g : Ghost} (h0 : Inv0 ⟨s, pd⟩) (h2 : Inv2 ⟨s, pd⟩)
    (h1 : GInv1 ⟨s, pd⟩ g) (p : Incoming) :
    UnackedOK (relPub (unackedAfterIn g.unacked p) (handleIncoming s p).2) (handleIncoming s p).1 ∧
    ∀ t ∈ g.accepted, t ∈ doneAfterIn g.done g.unacked p ∨ Held ⟨(handleIncoming s p).1, pd⟩ t :=
  coupled_incoming h0.sinv h2.disj h1.unacked h1.kept p

theorem Held.fail {s : State} {pd : List Request} {t : Nat} (hs : SInv s) (h : Held ⟨s, pd⟩ t) :
    Held ⟨cleanState s, cleanRequests s ++ pd⟩ t := by
  rcases h with ⟨i, p, hp, ht⟩ | ⟨c, hc, ht⟩ | ⟨p, hp, ht⟩
  · refine Or.inr (Or.inr ⟨p, ?_, ht⟩)
    apply List.mem_append_left
    exact (mem_cleanRequests hs _).mpr (Or.inl ⟨p, rfl, List.mem_iff_getElem?.mpr ⟨i, hp⟩⟩)
  · refine Or.inr (Or.inr ⟨{ c with pkid := 0 }, ?_, ht⟩)
    apply List.mem_append_left
    exact (mem_cleanRequests hs _).mpr (Or.inr (Or.inr ⟨c, hc, rfl⟩))
  · exact Or.inr (Or.inr ⟨p, List.mem_append_right _ hp, ht⟩)

theorem Held.pending_tag {s : State} {pd : List Request} {t : Nat} (h : Held ⟨s, pd⟩ t) :
    t ∈ pubTags pd ∨ Held ⟨s, []⟩ t := by
  rcases h with ⟨i, p, hp, ht⟩ | ⟨c, hc, ht⟩ | ⟨p, hp, ht⟩
  · exact Or.inr (Or.inl ⟨i, p, hp, ht⟩)
  · exact Or.inr (Or.inr (Or.inl ⟨c, hc, ht⟩))
  · exact Or.inl ((mem_pubTags _ _).mpr ⟨p, hp, ht⟩)

theorem GInv1.lstep {l : LState} {g : Ghost} (h0 : Inv0 l) (h2 : Inv2 l) (hg0 : GInv0 l g) (h1 : GInv1 l g) (op : LOp) :
    match (lstep l op).2 with
    | none => GInv1 (lstep l op).1 g
    | some o => GInv1 (lstep l op).1 (g.step o) := by
  obtain ⟨s, pd⟩ := l
  refine lstep_inv op h1 fun sop pd' hf => ?_
  -- draining the events changes nothing the coupling reads
  have drained : ∀ {s' : State} {pd' : List Request} {U : List (Nat × Nat)} {A D : List Nat},
      (UnackedOK U s' ∧ ∀ t ∈ A, t ∈ D ∨ Held ⟨s', pd'⟩ t) →
      UnackedOK U (drainEvents s') ∧ ∀ t ∈ A, t ∈ D ∨ Held ⟨drainEvents s', pd'⟩ t :=
    fun k => ⟨k.1.congr rfl, fun t ht => (k.2 t ht).imp_right (·.congr rfl rfl fun _ hp => hp)⟩
  have out : ∀ {op : LOp} {r : Request} {pd' : List Request}, LFires s pd op (.out r) pd' →
      GInv1 ⟨sstepSt s (.out r), pd'⟩ (g.step (sstepObs s (.out r))) := fun hf => by
    obtain ⟨k1, k2⟩ := drained (h1.out h0.sinv h2 (handleOutgoing_eff h0 hf))
    rw [step_out, stepOut_eq]
    exact ⟨k1, k2⟩
  cases hf with
  | user u hpd hgt => exact out (.user u hpd hgt)
  | pend r _ hpd hr => exact out (.pend r _ hpd hr)
  | ping => exact out .ping
  | inc p =>
    obtain ⟨k1, k2⟩ := drained (h1.incoming h0 h2 p)
    rw [step_inc, released_eq, stepIn_eq]
    exact ⟨k1, k2⟩
  | fail =>
    rw [step_clean]
    exact ⟨UnackedOK.clean s, fun t ht => (h1.kept t ht).imp_right (·.fail h0.sinv)⟩
  | newSession =>
    rw [step_drop]
    refine ⟨h1.unacked, fun t ht => ?_⟩
    rcases h1.kept t ht with h | h
    · exact Or.inl (List.mem_append_right _ h)
    · rcases h.pending_tag with h' | h'
      · rw [hg0.pend]; exact Or.inl (List.mem_append_left _ h')
      · exact Or.inr h'

end Client
