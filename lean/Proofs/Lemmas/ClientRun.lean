/-
Runs. `B1` bundles the invariants of loop state and ghost; every operation keeps it that is not an `unsafeConnack` (an
MQTT 5 CONNACK that lowers the limit under what is in use; no MQTT 3.1.1 run has one). `along_inv` is the one induction
over a run.
-/
import Proofs.Lemmas.ClientGhost1
namespace Client
open Client.Spec

/-- `P l g o l' g'` holds at every operation of the run that reaches the state machine
    (`l`,`g` before, `o` the observation, `l'`,`g'` after); the ghost is threaded as `runChecks` does -/
def Along (P : LState → Ghost → Obs → LState → Ghost → Prop) : LState → Ghost → List LOp → Prop
  | _, _, [] => True
  | l, g, op :: ops =>
    match (lstep l op).2 with
    | none => Along P (lstep l op).1 g ops
    | some o => P l g o (lstep l op).1 (g.step o) ∧ Along P (lstep l op).1 (g.step o) ops

theorem runChecks_ok (c : Check) (l : LState) (g : Ghost) (d : Diag) (n : Nat) (ops : List LOp)
    (h : Along (fun _ g o _ g' => ∀ d d', c g d o g' d' = none) l g ops) : runChecks c g d n (ltrace l ops) = .ok := by
  induction ops generalizing l g d n with
  | nil => rfl
  | cons op ops ih =>
    simp only [Along] at h
    simp only [ltrace]
    cases ho : (lstep l op).2 with
    | none => rw [ho] at h; exact ih _ _ _ _ h
    | some o =>
      rw [ho] at h
      simp only [runChecks, h.1]
      exact ih _ _ _ _ h.2

theorem Along.mono {P Q : LState → Ghost → Obs → LState → Ghost → Prop} {l : LState} {g : Ghost} {ops : List LOp}
    (h : Along P l g ops) (hpq : ∀ l g o l' g', P l g o l' g' → Q l g o l' g') : Along Q l g ops := by
  induction ops generalizing l g with
  | nil => trivial
  | cons op ops ih =>
    simp only [Along] at h ⊢
    cases ho : (lstep l op).2 with
    | none => rw [ho] at h; exact ih h
    | some o => rw [ho] at h; exact ⟨hpq _ _ _ _ _ h.1, ih h.2⟩

theorem Along.and {P Q : LState → Ghost → Obs → LState → Ghost → Prop} {l : LState} {g : Ghost} {ops : List LOp}
    (h1 : Along P l g ops) (h2 : Along Q l g ops) : Along (fun l g o l' g' => P l g o l' g' ∧ Q l g o l' g') l g ops := by
  induction ops generalizing l g with
  | nil => trivial
  | cons op ops ih =>
    simp only [Along] at h1 h2 ⊢
    cases ho : (lstep l op).2 with
    | none => rw [ho] at h1 h2; exact ih h1 h2
    | some o => rw [ho] at h1 h2; exact ⟨⟨h1.1, h2.1⟩, ih h1.2 h2.2⟩

theorem along_of_inv (I : LState → Ghost → Prop) (ok : LState → LOp → Prop)
    (step : ∀ l g op, I l g → ok l op →
      match (lstep l op).2 with
      | none => I (lstep l op).1 g
      | some o => I (lstep l op).1 (g.step o))
    (l : LState) (g : Ghost) (ops : List LOp) (hi : I l g)
    (hok : Avoids (fun l op => ¬ ok l op) l ops) :
    Along (fun l g _ l' g' => I l g ∧ I l' g') l g ops := by
  induction ops generalizing l g with
  | nil => trivial
  | cons op ops ih =>
    simp only [Avoids] at hok
    have hst := step l g op hi (Classical.not_not.mp hok.1)
    simp only [Along]
    cases ho : (lstep l op).2 with
    | none => rw [ho] at hst; exact ih _ _ hst hok.2
    | some o => rw [ho] at hst; exact ⟨⟨hi, hst⟩, ih _ _ hst hok.2⟩

theorem Spec.Avoids.imp {t1 t2 : LState → LOp → Prop} (h12 : ∀ l op, t2 l op → t1 l op) {l : LState} {ops : List LOp}
    (h : Avoids t1 l ops) : Avoids t2 l ops := by
  induction ops generalizing l with
  | nil => trivial
  | cons op ops ih => exact ⟨fun h' => h.1 (h12 _ _ h'), ih h.2⟩

theorem Spec.Avoids.or_left {t1 t2 : LState → LOp → Prop} {l : LState} {ops : List LOp}
    (h : Avoids (fun l op => t1 l op ∨ t2 l op) l ops) : Avoids t1 l ops :=
  h.imp fun _ _ => Or.inl

theorem Spec.Avoids.or_right {t1 t2 : LState → LOp → Prop} {l : LState} {ops : List LOp}
    (h : Avoids (fun l op => t1 l op ∨ t2 l op) l ops) : Avoids t2 l ops :=
  h.imp fun _ _ => Or.inr

theorem Spec.Avoids.mk_or {t1 t2 : LState → LOp → Prop} {l : LState} {ops : List LOp}
    (h1 : Avoids t1 l ops) (h2 : Avoids t2 l ops) : Avoids (fun l op => t1 l op ∨ t2 l op) l ops := by
  induction ops generalizing l with
  | nil => trivial
  | cons op ops ih =>
    exact ⟨fun h' => h'.elim h1.1 h2.1, ih h1.2 h2.2⟩

theorem lstep_events (l : LState) (op : LOp) (h : l.st.events = []) : (lstep l op).1.st.events = [] := by
  obtain ⟨s, pd⟩ := l
  rcases lstep_cases s pd op with he | ⟨sop, pd', hf, he⟩ <;> rw [he]
  · exact h
  · cases hf <;> first | rfl | exact h

theorem Inv2.lstep {l : LState} (h0 : Inv0 l) (h : Inv2 l) (op : LOp) : Inv2 (lstep l op).1 := by
  have := lstep_trans h0 op
  obtain ⟨s, pd⟩ := l
  exact h.step h0 this

theorem Inv3.lstep {l : LState} (h0 : Inv0 l) (h2 : Inv2 l) (h : Inv3 l) (op : LOp) : Inv3 (lstep l op).1 := by
  have := lstep_trans h0 op
  obtain ⟨s, pd⟩ := l
  exact Inv3.step h0.sinv h2 h this

theorem Inv4.lstep {l : LState} (h0 : Inv0 l) (h : Inv4 l) (op : LOp) : Inv4 (lstep l op).1 := by
  have := lstep_trans h0 op
  obtain ⟨s, pd⟩ := l
  exact Inv4.step h this

/-- all invariants of loop state and ghost, and the event queue drained -/
structure B1 (l : LState) (g : Ghost) : Prop where
  inv0 : Inv0 l
  g0 : GInv0 l g
  evs : l.st.events = []
  i4 : Inv4 l
  i2 : Inv2 l
  i3 : Inv3 l
  g1 : GInv1 l g

theorem B1.step (l : LState) (g : Ghost) (op : LOp) (h : B1 l g) (hn : ¬ unsafeConnack l op) :
    match (lstep l op).2 with
    | none => B1 (lstep l op).1 g
    | some o => B1 (lstep l op).1 (g.step o) := by
  have h1 := h.inv0.lstep op hn
  have h2 := h.g0.lstep h.inv0 op
  have h3 := lstep_events l op h.evs
  have h4 := h.i4.lstep h.inv0 op
  have h5 := h.i2.lstep h.inv0 op
  have h6 := Inv3.lstep h.inv0 h.i2 h.i3 op
  have h7 := h.g1.lstep h.inv0 h.i2 h.g0 op
  cases ho : (lstep l op).2 with
  | none => rw [ho] at h2 h7; exact ⟨h1, h2, h3, h4, h5, h6, h7⟩
  | some o => rw [ho] at h2 h7; exact ⟨h1, h2, h3, h4, h5, h6, h7⟩

theorem B1.new (ver : Version) (max : Nat) (m : Bool) (h1 : 1 ≤ max) (h2 : max ≤ u16Max) :
    B1 (LState.new ver max m) (Ghost.init ver max m) :=
  ⟨Inv0.new ver max m h1 h2, GInv0.new ver max m, rfl, Inv4.new ver max m, Inv2.new ver max m, Inv3.new ver max m,
    GInv1.new ver max m⟩

theorem lstep_static (l : LState) (op : LOp) :
    (lstep l op).1.st.ver = l.st.ver ∧ (l.st.ver = .v4 → (lstep l op).1.st.maxInflight = l.st.maxInflight) := by
  unfold lstep
  cases lop? l op with
  | none => exact ⟨rfl, fun _ => rfl⟩
  | some sop =>
    cases sop with
    | out r => exact ⟨(handleOutgoing_same l.st r).ver, fun _ => (handleOutgoing_same l.st r).max⟩
    | inc p =>
      refine ⟨(handleIncoming_same l.st p).ver, fun hv => (handleIncoming_same l.st p).max.trans ?_⟩
      rw [quietState_maxInflight, hv]
      cases p <;> first | rfl | (rename_i ok _ rm _; cases ok <;> cases rm <;> rfl)
    | _ => exact ⟨rfl, fun _ => rfl⟩

theorem lrun_static_v4 (l : LState) (hv : l.st.ver = .v4) (ops : List LOp) :
    (lrun l ops).st.maxInflight = l.st.maxInflight ∧ (lrun l ops).st.ver = .v4 := by
  induction ops generalizing l with
  | nil => exact ⟨rfl, hv⟩
  | cons op ops ih =>
    obtain ⟨h1, h2⟩ := lstep_static l op
    obtain ⟨k1, k2⟩ := ih (lstep l op).1 (h1.trans hv)
    exact ⟨k1.trans (h2 hv), k2⟩

theorem unsafeConnack_v4 {l : LState} (hv : l.st.ver = .v4) (op : LOp) : ¬ unsafeConnack l op := by
  unfold unsafeConnack
  split
  · rw [hv]; exact fun h => Version.noConfusion h.1
  · exact id

theorem avoids_unsafe_v4 (l : LState) (hv : l.st.ver = .v4) (ops : List LOp) : Avoids unsafeConnack l ops := by
  induction ops generalizing l with
  | nil => trivial
  | cons op ops ih => exact ⟨unsafeConnack_v4 hv op, ih _ ((lstep_static l op).1.trans hv)⟩

theorem lstep_obs {l : LState} {op : LOp} {o : Obs} (ho : (lstep l op).2 = some o) :
    ∃ sop, o = sstepObs l.st sop := by
  unfold lstep at ho
  cases hl : lop? l op with
  | none => rw [hl] at ho; cases ho
  | some sop => rw [hl] at ho; cases ho; exact ⟨sop, rfl⟩

/-- an operation that reached the state machine: `l`, `g` before, `o` observed, `l'`, `g'` after -/
structure Step (l : LState) (g : Ghost) (o : Obs) (l' : LState) (g' : Ghost) : Prop where
  pre : B1 l g
  post : B1 l' g'
  obs : ∃ op, lstep l op = (l', some o)
  ghost : g' = g.step o

theorem Step.fires {l l' : LState} {g g' : Ghost} {o : Obs} (h : Step l g o l' g') :
    ∃ op sop pd', LFires l.st l.pending op sop pd' ∧ o = sstepObs l.st sop ∧ l' = ⟨sstepSt l.st sop, pd'⟩ := by
  obtain ⟨op, ho⟩ := h.obs
  obtain ⟨s, pd⟩ := l
  rcases lstep_cases s pd op with he | ⟨sop, pd', hf, he⟩ <;> rw [he] at ho <;> cases ho
  exact ⟨op, sop, pd', hf, rfl, rfl⟩

theorem Step.sop {l l' : LState} {g g' : Ghost} {o : Obs} (h : Step l g o l' g') : ∃ sop, o = sstepObs l.st sop :=
  let ⟨_, sop, _, _, ho, _⟩ := h.fires
  ⟨sop, ho⟩

/-- the ghost remembers what was observable after the step -/
theorem Step.fields {l l' : LState} {g g' : Ghost} {o : Obs} (h : Step l g o l' g') :
    o.view = g'.pView ∧ o.col = g'.pCol ∧ o.inf = g'.pInf := by
  rw [h.ghost]; exact ⟨rfl, rfl, rfl⟩

/-- `J` may use `B1` to get through a step; at the end of the run both hold of ONE ghost -/
theorem along_inv {J : LState → Ghost → Prop}
    (step : ∀ l g op, B1 l g → J l g → ¬ unsafeConnack l op →
      match (lstep l op).2 with
      | none => J (lstep l op).1 g
      | some o => J (lstep l op).1 (g.step o))
    {l : LState} {g : Ghost} (h : B1 l g) (hj : J l g) (ops : List LOp) (hn : Avoids unsafeConnack l ops) :
    Along (fun l g o l' g' => Step l g o l' g' ∧ J l g ∧ J l' g') l g ops ∧ ∃ g', B1 (lrun l ops) g' ∧ J (lrun l ops) g' := by
  induction ops generalizing l g with
  | nil => exact ⟨trivial, g, h, hj⟩
  | cons op ops ih =>
    have hs := h.step l g op hn.1
    have hs' := step l g op h hj hn.1
    simp only [Along]
    cases ho : (lstep l op).2 with
    | none => rw [ho] at hs hs'; exact ih hs hs' hn.2
    | some o =>
      rw [ho] at hs hs'
      obtain ⟨k1, k2⟩ := ih hs hs' hn.2
      exact ⟨⟨⟨⟨h, hs, ⟨op, Prod.ext rfl ho⟩, rfl⟩, hj, hs'⟩, k1⟩, k2⟩

theorem new_along (ver : Version) (max : Nat) (m : Bool) (h1 : 1 ≤ max) (h2 : max ≤ u16Max) (ops : List LOp)
    (hn : Avoids unsafeConnack (LState.new ver max m) ops) :
    Along (fun l g o l' g' => Step l g o l' g' ∧ l'.st.ver = ver) (LState.new ver max m) (Ghost.init ver max m) ops :=
  (along_inv (J := fun l _ => l.st.ver = ver)
    (fun l _ op _ hv _ => by
      have := (lstep_static l op).1.trans hv
      cases (lstep l op).2 <;> exact this)
    (B1.new ver max m h1 h2) rfl ops hn).1.mono fun _ _ _ _ _ h => ⟨h.1, h.2.2⟩

theorem new_along_v4 (max : Nat) (m : Bool) (h1 : 1 ≤ max) (h2 : max ≤ u16Max) (ops : List LOp) :
    Along (fun l g o l' g' => Step l g o l' g' ∧ l'.st.ver = .v4) (LState.new .v4 max m) (Ghost.init .v4 max m) ops :=
  new_along .v4 max m h1 h2 ops (avoids_unsafe_v4 _ rfl ops)

theorem new_b1 (ver : Version) (max : Nat) (m : Bool) (h1 : 1 ≤ max) (h2 : max ≤ u16Max) (ops : List LOp)
    (hn : Avoids unsafeConnack (LState.new ver max m) ops) : ∃ g, B1 (lrun (LState.new ver max m) ops) g :=
  let ⟨g, h, _⟩ := (along_inv (J := fun _ _ => True) (fun l _ op _ _ _ => by cases (lstep l op).2 <;> trivial)
    (B1.new ver max m h1 h2) trivial ops hn).2
  ⟨g, h⟩

theorem new_b1_v4 (max : Nat) (m : Bool) (h1 : 1 ≤ max) (h2 : max ≤ u16Max) (ops : List LOp) :
    ∃ g, B1 (lrun (LState.new .v4 max m) ops) g :=
  new_b1 .v4 max m h1 h2 ops (avoids_unsafe_v4 _ rfl ops)

theorem firstFail_cons_chk {ok : Bool} {t d : String} {cs : List (Option (String × String))} (h : ok = true)
    (hcs : firstFail cs = none) : firstFail (chk ok t d :: cs) = none := by
  subst h; exact hcs


theorem monitor_ok (c : Check) {ver : Version}
    (hc : ∀ l g o l' g', Step l g o l' g' → l'.st.ver = ver → ∀ d d', c g d o g' d' = none)
    (max : Nat) (m : Bool) (h1 : 1 ≤ max) (h2 : max ≤ u16Max) (ops : List LOp)
    (hn : Avoids unsafeConnack (LState.new ver max m) ops) :
    runChecks c (Ghost.init ver max m) {} 0 (ltrace (LState.new ver max m) ops) = .ok :=
  runChecks_ok _ _ _ _ _ _ ((new_along ver max m h1 h2 ops hn).mono fun l g o l' g' h => hc l g o l' g' h.1 h.2)

end Client
