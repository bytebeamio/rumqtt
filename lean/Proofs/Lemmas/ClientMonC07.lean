/-
The C07 clauses at a `Step`. All but the range clause come from `B1.unackedIds`: the ids the wire view holds as
unacknowledged are, each once, the ids in use, and number `inflight`.
-/
import Proofs.Lemmas.ClientRun
namespace Client
open Client.Spec

/-- the id is the next fresh one, the one a replayed publish carries, or that of the parked publish an
    acknowledgement released -/
theorem range_step {l l' : LState} {g g' : Ghost} {o : Obs} (h : Step l g o l' g')
    (pkt : Packet) (i : Nat) (hp : o.outcome = .ok (some pkt)) (hc : chosenId pkt = some i) :
    1 ≤ i ∧ i ≤ l.st.maxInflight := by
  have h0 := h.pre.inv0
  obtain ⟨op, sop, pd', hf, rfl, -⟩ := h.fires
  obtain ⟨s, pd⟩ := l
  obtain ⟨-, hn1, hn2, -⟩ := h0.nextPkid
  have parked : ∀ {j : Nat} {c0 : Core} {res : State × Outcome}, ReleaseEff s j c0 res → res.2 = .ok (some pkt) →
      1 ≤ i ∧ i ≤ s.maxInflight := by
    intro j c0 res he hp
    cases he with
    | plain => cases hp
    | released _ c hcol _ _ =>
      cases hp
      have := h0.colLe c hcol
      simp only [chosenId, h0.sinv.colQos c hcol, if_false, Option.some.injEq] at hc
      exact hc ▸ ⟨this.1, this.2.1⟩
  cases sop with
  | out r =>
    replace hp : (handleOutgoing s r).2 = .ok (some pkt) := hp
    have he := handleOutgoing_eff h0 hf
    generalize hres : handleOutgoing s r = res at he hp
    cases he with
    | idOnly _ s' o hpub hrel _ =>
      by_cases hr : ∃ p, r = .publish p
      · obtain ⟨p, rfl⟩ := hr
        obtain ⟨hq, rfl⟩ := hpub p rfl
        cases hp
        simp [chosenId, hq] at hc
      · exact request_chosen s r pkt i (fun p e => hr ⟨p, e⟩) hrel (hres ▸ hp) hc ▸ ⟨hn1, hn2⟩
    | store p s' _ hpd hq =>
      cases hp
      simp only [chosenId, (withId_fields s p).2 ▸ hq, if_false, Option.some.injEq] at hc
      subst hc
      by_cases hid : p.pkid = 0
      · rw [withId_of_eq hid]; exact ⟨hn1, hn2⟩
      · rw [withId_of_ne hid]
        rcases hpd with ⟨-, -, h, -⟩ | hpd
        · exact absurd h hid
        · have hok : PendOK s (.publish p) := h0.pendWF _ (hpd ▸ List.mem_cons_self)
          exact ⟨Nat.pos_of_ne_zero hid, hok.2.1⟩
    | park => cases hp
    | setRel => cases hp; cases hc
  | inc p =>
    replace hp : (handleIncoming s p).2 = .ok (some pkt) := hp
    have he := handleIncoming_eff h0.sinv p
    generalize hres : handleIncoming s p = res at he hp
    cases he with
    | unsol => cases hp
    | acked _ _ _ _ _ _ he => exact parked he hp
    | moved => cases hp; cases hc
    | unsolComp => cases hp
    | comped _ _ _ _ he => exact parked he hp
    | other p s' o hq =>
      -- a packet that is no acknowledgement is answered with nothing that carries an id of the client's choosing
      rw [(quietOutcome_facts _ p).2.2.2 pkt
        ((congrArg Prod.snd (handleIncoming_quiet s p hq)).symm.trans ((congrArg Prod.snd hres).trans hp))] at hc
      cases hc
  | _ => cases hp

variable {l l' : LState} {g g' : Ghost} {o : Obs}

theorem C07_range_ok (h : Step l g o l' g') : C07.range g o g' = true := by
  unfold C07.range
  rw [Bool.or_eq_true]
  right
  split
  · rename_i pkt hoc
    split
    · rename_i i hch
      have := range_step h pkt i hoc hch
      rw [h.pre.g0.lim]
      simp [this.1, this.2]
    · rfl
  · rfl

theorem B1.unackedIds (h : B1 l g) :
    (unackedIds g).Nodup ∧ (∀ i, i ∈ unackedIds g ↔ busyId l.st i) ∧ (unackedIds g).length = l.st.inflight := by
  unfold Spec.unackedIds
  refine ⟨List.nodup_append.mpr ⟨h.g1.unacked.nd, h.g0.rels.nd, ?_⟩, fun i => ?_, ?_⟩
  · rintro a ha _ hb rfl
    have h3 := (h.g0.rels.mem a).mp hb
    rw [h.i2.disj a ((mem_keys_iff_occ h.g1.unacked a).mp ha)] at h3
    cases h3
  · rw [List.mem_append, mem_keys_iff_occ h.g1.unacked, h.g0.rels.mem, busyId_iff]
  · rw [List.length_append, List.length_map, h.g1.unacked.len, h.g0.rels.len]; exact h.i3.symm

theorem C07_dupId_ok (h : Step l g o l' g') : C07.dupId g' = true := by
  have h := h.post
  simp only [C07.dupId, Bool.or_eq_true, decide_eq_true_eq]
  exact .inr h.unackedIds.1

theorem C07_window_ok (h : Step l g o l' g') : C07.window g' = true := by
  have h := h.post
  simp only [C07.window, Bool.or_eq_true, decide_eq_true_eq, h.unackedIds.2.2, h.g0.lim]
  have := h.inv0.window
  exact .inr (by omega)

theorem C07_resumes_ok (h : Step l g o l' g') : C07.resumes g' o = true := by
  have hv := h.fields.2.2
  have h := h.post
  simp only [C07.resumes, Bool.or_eq_true, Bool.not_eq_true', Bool.and_eq_false_iff, decide_eq_true_eq, decide_eq_false_iff_not,
    h.unackedIds.2.2, hv, h.g0.inf]
  by_cases hc : l'.st.inflight < g'.limit
  · exact .inr hc
  · exact .inl (.inr (.inr hc))

theorem C07_resolvable_ok (h : Step l g o l' g') : C07.resolvable g' o = true := by
  have hv := h.fields.2.1
  have h := h.post
  unfold C07.resolvable
  rw [Bool.or_eq_true, hv, h.g0.col]
  right
  cases hc : l'.st.collision with
  | none => rfl
  | some c => exact List.contains_iff_mem.mpr ((h.unackedIds.2.1 _).mpr ((busyId_iff _ _).mpr (h.i4 c hc)))

theorem B1.window_bound (h : B1 l g) :
    occ l.st.outgoingPub + relCount l.st.outgoingRel + l.pending.length ≤ l.st.maxInflight := by
  have := h.inv0.sinv.counter; have := h.inv0.window
  omega

theorem B1.window_open (h : B1 l g) (hp : l.pending ≠ []) : windowOpen l.st = true := by
  obtain ⟨s, pd⟩ := l
  cases pd with
  | nil => exact absurd rfl hp
  | cons r rest =>
    have hw := h.inv0.window
    exact (windowOpen_iff s).mpr ⟨by simp only [List.length_cons] at hw; omega, h.i2.col_none⟩

theorem C07_checks_ok (h : Step l g o l' g') (d d' : Diag) : C07.checks g d o g' d' = none :=
  firstFail_cons_chk (C07_range_ok h) <| firstFail_cons_chk (C07_dupId_ok h) <|
    firstFail_cons_chk (C07_window_ok h) <| firstFail_cons_chk (C07_resumes_ok h) <|
      firstFail_cons_chk (C07_resolvable_ok h) rfl


end Client
