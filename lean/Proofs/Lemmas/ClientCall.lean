/-
What ONE call of the state machine writes, announces and returns, in every state (no invariant, no history). The
requests and the acknowledgement handlers are walked once, for `Same` and `Shape` together (`CoreWrite`); a packet
that is no acknowledgement touches no table, and its result is one equation (`handleIncoming_quiet`).
-/
import Proofs.Lemmas.ClientBasic
namespace Client
open Client.Spec

theorem nextPkidSt_eq (s : State) : ∃ k, nextPkidSt s = { s with lastPkid := k } := by
  unfold nextPkidSt; split <;> exact ⟨_, rfl⟩

theorem publishAlias_eq {s s1 : State} {p : InPub} (h : publishAlias s p = some s1) :
    ∃ al, s1 = { s with aliases := al } := by
  revert h
  fun_cases publishAlias s p <;> intro h <;> cases h
  · exact ⟨_, rfl⟩
  · exact ⟨_, rfl⟩
  · split <;> exact ⟨_, rfl⟩
  · exact ⟨_, rfl⟩


/-- what the requests and the acknowledgement handlers write besides the two ping fields and `events` -/
structure Core where
  pub : List (Option Pub)
  rel : List Bool
  inf : Nat
  col : Option Pub
  ord : List Nat
  cnt : Nat
  lastPkid : Nat
  deriving DecidableEq

def State.core (s : State) : Core :=
  ⟨s.outgoingPub, s.outgoingRel, s.inflight, s.collision, s.outgoingOrder, s.outgoingCount, s.lastPkid⟩


@[simp] theorem core_pushEv (s : State) (e : Event) : (s.pushEv e).core = s.core := rfl
@[simp] theorem core_pushOut (s : State) (o : Outgoing) : (s.pushOut o).core = s.core := rfl

def Core.store (c : Core) (p : Pub) : Core :=
  { c with pub := c.pub.set p.pkid (some p), ord := c.ord.set p.pkid c.cnt, cnt := c.cnt + 1, inf := c.inf + 1 }

theorem storePub_core (s : State) (p : Pub) : (storePub s p).core = s.core.store p := rfl

theorem nextPkidSt_core (s : State) : (nextPkidSt s).core = { s.core with lastPkid := (nextPkidSt s).lastPkid } := by
  unfold nextPkidSt; split <;> rfl


/-- what a call should announce: exactly the packet it returns -/
def expectedAnn : Outcome → List Event
  | .ok (some pkt) => [.outgoing (outgoingOf pkt)]
  | _ => []

/-- `r` (result of a call on `s`) appended only `Outgoing` events, and they announce exactly the
    returned packet (`AwaitAck` excepted) -/
def Shape (s : State) (r : State × Outcome) : Prop :=
  ∃ outs : List Event, r.1.events = s.events ++ outs ∧ (∀ e ∈ outs, isIncomingEv e = false) ∧
    (r.2 = .panic ∨ announced outs = expectedAnn r.2)

theorem shape_nil (s s' : State) (o : Outcome) (he : s'.events = s.events)
    (ho : o = .panic ∨ expectedAnn o = []) : Shape s (s', o) :=
  ⟨[], he.trans (List.append_nil _).symm, (fun _ h => nomatch h), ho.imp_right Eq.symm⟩

theorem shape_push (s s' : State) (og : Outgoing) (o : Outcome) (he : s'.events = s.events)
    (ha : announced [.outgoing og] = expectedAnn o) : Shape s (s'.pushOut og, o) :=
  ⟨[.outgoing og], (congrArg (fun l => l ++ [Event.outgoing og]) he : s'.events ++ _ = _),
    fun _ h => List.mem_singleton.mp h ▸ rfl, .inr ha⟩

theorem shape_ann (s s' : State) (o : Outcome) (he : s'.events = s.events ++ expectedAnn o) : Shape s (s', o) := by
  cases o with
  | ok x =>
    cases x with
    | none => exact shape_nil _ _ _ (he.trans (List.append_nil _)) (.inr rfl)
    | some pkt =>
      refine ⟨[.outgoing (outgoingOf pkt)], he, fun e h => ?_, .inr ?_⟩
      · cases List.mem_singleton.mp h; rfl
      · cases pkt <;> rfl
  | err e => exact shape_nil _ _ _ (he.trans (List.append_nil _)) (.inr rfl)
  | panic => exact shape_nil _ _ _ (he.trans (List.append_nil _)) (.inl rfl)


/-- the fields outside `State.core` that an invariant reads are untouched (none reads `awaitPingresp`,
    `collisionPingCount`, `events`, `brokerAliasMax`) -/
structure Same (s s' : State) : Prop where
  up : s'.upperLimit = s.upperLimit
  ver : s'.ver = s.ver
  man : s'.manualAcks = s.manualAcks
  max : s'.maxInflight = s.maxInflight
  al : s'.aliases = s.aliases
  inc : s'.incomingPub = s.incomingPub

theorem nextPkidSt_same (s : State) : Same s (nextPkidSt s) := by
  obtain ⟨k, h⟩ := nextPkidSt_eq s
  rw [h]; exact ⟨rfl, rfl, rfl, rfl, rfl, rfl⟩

/-- what one walk through the requests and the acknowledgement handlers shows of a call -/
structure CoreWrite (s : State) (res : State × Outcome) : Prop where
  same : Same s res.1
  shape : Shape s res

/-- the written values are found by unifying the record -/
theorem CoreWrite.of (s : State) {pub : List (Option Pub)} {rel : List Bool} {inf : Nat} {col : Option Pub}
    {ord : List Nat} {cnt c k : Nat} {a : Bool} {ev : List Event} {o : Outcome} (h : Shape s ({ s with events := ev }, o)) :
    CoreWrite s ({ s with outgoingPub := pub, outgoingRel := rel, inflight := inf, collision := col, outgoingOrder := ord,
                          outgoingCount := cnt, collisionPingCount := c, lastPkid := k, awaitPingresp := a, events := ev }, o) :=
  ⟨⟨rfl, rfl, rfl, rfl, rfl, rfl⟩, h⟩

theorem CoreWrite.ann (s : State) {pub : List (Option Pub)} {rel : List Bool} {inf : Nat} {col : Option Pub}
    {ord : List Nat} {cnt c k : Nat} {a : Bool} {ev : List Event} {o : Outcome} (he : ev = s.events ++ expectedAnn o) :
    CoreWrite s ({ s with outgoingPub := pub, outgoingRel := rel, inflight := inf, collision := col, outgoingOrder := ord,
                          outgoingCount := cnt, collisionPingCount := c, lastPkid := k, awaitPingresp := a, events := ev }, o) :=
  .of s (shape_ann _ _ _ he)

theorem CoreWrite.none (s : State) (o : Outcome) (ho : expectedAnn o = []) : CoreWrite s (s, o) :=
  .ann s (o := o) (by rw [ho, List.append_nil])

theorem release_coreWrite (s : State) (pub : List (Option Pub)) (rel : List Bool) (inf i : Nat) :
    CoreWrite s (release { s with outgoingPub := pub, outgoingRel := rel, inflight := inf } i) := by
  fun_cases release { s with outgoingPub := pub, outgoingRel := rel, inflight := inf } i
  · exact .ann s rfl
  · exact .ann s (List.append_nil _).symm
  · exact .ann s (List.append_nil _).symm

theorem ack_coreWrite (s : State) (i r : Nat) :
    CoreWrite s (handlePuback s i) ∧ CoreWrite s (handlePubrec s i r) ∧ CoreWrite s (handlePubcomp s i) := by
  have rel := release_coreWrite s
  refine ⟨?_, ?_, ?_⟩
  · fun_cases handlePuback s i
    · exact .none s _ rfl
    · exact .none s _ rfl
    · exact .none s _ rfl
    · exact rel _ s.outgoingRel _ i
  · fun_cases handlePubrec s i r
    · exact .none s _ rfl
    · exact .none s _ rfl
    · exact .ann s (List.append_nil _).symm
    · exact rel _ s.outgoingRel _ i
    · exact .ann s rfl
    · exact .ann s (List.append_nil _).symm
  · fun_cases handlePubcomp s i
    · exact .ann s (List.append_nil _).symm
    · exact rel s.outgoingPub _ _ i
    · exact .none s _ rfl

theorem publishWithId_coreWrite (s : State) (k : Nat) (p : Pub) : CoreWrite s (publishWithId { s with lastPkid := k } p) := by
  fun_cases publishWithId { s with lastPkid := k } p
  · exact .ann s (List.append_nil _).symm
  · exact .of s (shape_push s s (.awaitAck p.pkid) _ rfl rfl)  -- parked: `AwaitAck` announces nothing
  · exact .ann s (List.append_nil _).symm
  · exact .ann s rfl

theorem pubrelWithId_coreWrite (s : State) (k i : Nat) : CoreWrite s (pubrelWithId { s with lastPkid := k } i) := by
  fun_cases pubrelWithId { s with lastPkid := k } i
  · exact .ann s (List.append_nil _).symm
  · exact .ann s rfl
  · exact .ann s (List.append_nil _).symm

theorem outgoingPing_eq (s : State) :
    ∃ c a, outgoingPing s = ({ s with collisionPingCount := c, awaitPingresp := a,
                                      events := s.events ++ expectedAnn (outgoingPing s).2 }, (outgoingPing s).2) := by
  have h1 : ∃ c, (if s.collision.isSome then { s with collisionPingCount := s.collisionPingCount + 1 } else s)
      = { s with collisionPingCount := c } := by split <;> exact ⟨_, rfl⟩
  obtain ⟨c, h1⟩ := h1
  unfold outgoingPing
  rw [h1]
  dsimp only
  split
  · exact ⟨_, _, Prod.ext (by simp only [expectedAnn, List.append_nil]; rfl) rfl⟩
  · split
    · exact ⟨_, _, Prod.ext (by simp only [expectedAnn, List.append_nil]; rfl) rfl⟩
    · exact ⟨_, _, rfl⟩

theorem handleOutgoing_coreWrite (s : State) (r : Request) : CoreWrite s (handleOutgoing s r) := by
  obtain ⟨k, hk⟩ := nextPkidSt_eq s
  cases r with
  | publish p =>
    show CoreWrite s (outgoingPublish s p)
    fun_cases outgoingPublish s p
    · exact .none s _ rfl
    · exact .ann s rfl
    · exact .none s _ rfl
    · rw [hk]; exact publishWithId_coreWrite s k _
    · exact publishWithId_coreWrite s s.lastPkid p
  | pubrel i =>
    show CoreWrite s (outgoingPubrel s i)
    fun_cases outgoingPubrel s i
    · exact .none s _ rfl
    · rw [hk]; exact pubrelWithId_coreWrite s k _
    · exact pubrelWithId_coreWrite s s.lastPkid i
  | subscribe n =>
    show CoreWrite s (outgoingSubscribe s n)
    fun_cases outgoingSubscribe s n
    · exact .none s _ rfl
    · exact .none s _ rfl
    · rw [hk]; exact .ann s rfl
  | unsubscribe =>
    show CoreWrite s (outgoingUnsubscribe s)
    fun_cases outgoingUnsubscribe s
    · exact .none s _ rfl
    · rw [hk]; exact .ann s rfl
  | pingreq =>
    obtain ⟨c, a, e⟩ := outgoingPing_eq s
    show CoreWrite s (outgoingPing s)
    rw [e]; exact .ann s rfl
  | other => exact .none s _ rfl
  | _ => exact .ann s rfl

theorem handleOutgoing_same (s : State) (r : Request) : Same s (handleOutgoing s r).1 := (handleOutgoing_coreWrite s r).same

theorem shape_handleOutgoing (s : State) (r : Request) : Shape s (handleOutgoing s r) := (handleOutgoing_coreWrite s r).shape


theorem publishWithId_out (s : State) (p : Pub) (pkt : Packet) (h : (publishWithId s p).2 = .ok (some pkt)) :
    pkt = .publish p := by
  revert h
  fun_cases publishWithId s p <;> intro h <;> cases h
  rfl

theorem publish_out (s : State) (p : Pub) (pkt : Packet) (ho : (handleOutgoing s (.publish p)).2 = .ok (some pkt)) :
    (pkt = .publish p ∧ (p.qos = 0 ∨ p.pkid ≠ 0)) ∨
      (nextPkidPanics s = false ∧ p.pkid = 0 ∧ pkt = .publish { p with pkid := nextPkidVal s }) := by
  revert ho
  show (outgoingPublish s p).2 = _ → _
  fun_cases outgoingPublish s p <;> intro ho
  · cases ho
  · cases ho; exact .inl ⟨rfl, .inl ‹_›⟩
  · cases ho
  · exact .inr ⟨Bool.eq_false_iff.mpr ‹_›, ‹_›, publishWithId_out _ _ _ ho⟩
  · exact .inl ⟨publishWithId_out _ _ _ ho, .inr ‹_›⟩

theorem request_chosen (s : State) (r : Request) (pkt : Packet) (i : Nat) (hpub : ∀ p, r ≠ .publish p)
    (hrel : ∀ j, r ≠ .pubrel j) (ho : (handleOutgoing s r).2 = .ok (some pkt)) (hc : chosenId pkt = some i) :
    i = nextPkidVal s := by
  revert ho
  cases r with
  | publish p => exact absurd rfl (hpub p)
  | pubrel j => exact absurd rfl (hrel j)
  | subscribe n =>
    show (outgoingSubscribe s n).2 = _ → _
    fun_cases outgoingSubscribe s n <;> intro ho <;> cases ho
    cases hc; rfl
  | unsubscribe =>
    show (outgoingUnsubscribe s).2 = _ → _
    fun_cases outgoingUnsubscribe s <;> intro ho <;> cases ho
    cases hc; rfl
  | pingreq =>
    show (outgoingPing s).2 = _ → _
    fun_cases outgoingPing s <;> intro ho <;> cases ho
    cases hc
  | _ => intro ho; cases ho <;> cases hc

theorem handlePuback_unsol {s : State} {i : Nat} (h : s.outgoingPub[i]? = none ∨ s.outgoingPub[i]? = some none) :
    handlePuback s i = (s, .err (.unsolicited i)) := by
  unfold handlePuback; rcases h with h | h <;> rw [h]

theorem handlePubrec_unsol {s : State} {i : Nat} (r : Nat)
    (h : s.outgoingPub[i]? = none ∨ s.outgoingPub[i]? = some none) :
    handlePubrec s i r = (s, .err (.unsolicited i)) := by
  unfold handlePubrec; rcases h with h | h <;> rw [h]

theorem handlePubcomp_unsol {s : State} {i : Nat} (h : relContains s i = false) :
    handlePubcomp s i = (s, .err (.unsolicited i)) := by
  unfold handlePubcomp; rw [h]; rfl

/-- the packets that touch the tables of the outgoing flows -/
def Incoming.isAck : Incoming → Bool
  | .puback _ _ => true
  | .pubrec _ _ => true
  | .pubcomp _ _ => true
  | _ => false

theorem publishAlias_none_iff (s : State) (q : InPub) :
    publishAlias s q = none ↔
      (s.ver = .v5 ∧ ∃ a, q.alias = some a ∧ q.topicEmpty = true ∧ s.aliases.contains a = false) := by
  unfold publishAlias
  cases s.ver with
  | v4 => simp
  | v5 =>
    cases q.alias with
    | none => simp
    | some a => cases q.topicEmpty <;> cases s.aliases.contains a <;> simp

theorem publishAlias_pushEv_none (s : State) (e : Event) (q : InPub) :
    publishAlias (s.pushEv e) q = none ↔ publishAlias s q = none :=
  (publishAlias_none_iff (s.pushEv e) q).trans (publishAlias_none_iff s q).symm

def pubAnswer (s : State) (q : InPub) : Outcome :=
  if publishAlias s q = none then .ok (some (.disconnect 130))
  else if q.qos = 0 then .ok none
  else if s.manualAcks then .ok none
  else if q.qos = 1 then .ok (some (.puback q.pkid))
  else .ok (some (.pubrec q.pkid))

theorem handlePublish_eq (s : State) (q : InPub) :
    handlePublish s q =
      ({ s with aliases := (match publishAlias s q with | some s1 => s1.aliases | none => s.aliases),
                incomingPub := if publishAlias s q = none ∨ q.qos = 0 ∨ q.qos = 1 ∨ q.pkid ∈ s.incomingPub
                                then s.incomingPub else q.pkid :: s.incomingPub,
                events := s.events ++ expectedAnn (pubAnswer s q) }, pubAnswer s q) := by
  unfold handlePublish pubAnswer
  cases hal : publishAlias s q with
  | none => simp [outgoingDisconnect, State.pushOut, State.pushEv, expectedAnn, outgoingOf]
  | some s1 =>
    obtain ⟨al, rfl⟩ := publishAlias_eq hal
    by_cases h0 : q.qos = 0
    · simp [h0, expectedAnn]
    · by_cases h1 : q.qos = 1
      · cases s.manualAcks <;> simp [h1, expectedAnn, outgoingPuback, State.pushOut, State.pushEv, outgoingOf]
      · by_cases hc : q.pkid ∈ s.incomingPub <;> cases s.manualAcks <;>
          simp [h0, h1, hc, expectedAnn, outgoingPubrec, State.pushOut, State.pushEv, outgoingOf]

theorem pubAnswer_cases (s : State) (q : InPub) :
    pubAnswer s q = .ok (some (.disconnect 130)) ∨ pubAnswer s q = .ok none ∨
    pubAnswer s q = .ok (some (.puback q.pkid)) ∨ pubAnswer s q = .ok (some (.pubrec q.pkid)) := by
  unfold pubAnswer
  by_cases h1 : publishAlias s q = none
  · rw [if_pos h1]; exact .inl rfl
  rw [if_neg h1]
  by_cases h2 : q.qos = 0
  · rw [if_pos h2]; exact .inr (.inl rfl)
  rw [if_neg h2]
  by_cases h3 : s.manualAcks = true
  · rw [if_pos h3]; exact .inr (.inl rfl)
  rw [if_neg h3]
  by_cases h4 : q.qos = 1
  · rw [if_pos h4]; exact .inr (.inr (.inl rfl))
  · rw [if_neg h4]; exact .inr (.inr (.inr rfl))

theorem pubAnswer_pushEv (s : State) (e : Event) (q : InPub) : pubAnswer (s.pushEv e) q = pubAnswer s q := by
  simp only [pubAnswer, publishAlias_pushEv_none]; rfl

/-- what `handle_incoming_packet` returns for a packet that is no acknowledgement -/
def quietOutcome (s : State) : Incoming → Outcome
  | .publish q => pubAnswer s q
  | .pubrel i _ => if s.incomingPub.contains i then .ok (some (.pubcomp i)) else .err (.unsolicited i)
  | .connack ok _ _ _ =>
    (match s.ver with
     | .v4 => .err .wrongPacket
     | .v5 => if ok then .ok none else .err .connFail)
  | .disconnect _ =>
    (match s.ver with
     | .v4 => .err .wrongPacket
     | .v5 => .err .serverDisconnect)
  | .pingresp => .ok none
  | .suback _ => .ok none
  | .unsuback _ => .ok none
  | _ => .err .wrongPacket

/-- the state such a packet leaves (`s`: before the call): no table is touched -/
def quietState (s : State) (p : Incoming) : State :=
  let s0 := s.pushEv (.incoming p)
  { s with
      awaitPingresp := (match p with | .pingresp => false | _ => s.awaitPingresp),
      aliases := (match p with | .publish q => (handlePublish s0 q).1.aliases | _ => s.aliases),
      incomingPub := (match p with
        | .publish q => (handlePublish s0 q).1.incomingPub
        | .pubrel i _ => if s.incomingPub.contains i then s.incomingPub.filter (· != i) else s.incomingPub
        | _ => s.incomingPub),
      brokerAliasMax := (match p with
        | .connack true _ _ (some a) => (match s.ver with | .v5 => a | .v4 => s.brokerAliasMax)
        | _ => s.brokerAliasMax),
      maxInflight := (match p with
        | .connack true _ (some m) _ => (match s.ver with | .v5 => min m s.upperLimit | .v4 => s.maxInflight)
        | _ => s.maxInflight),
      events := s0.events ++ expectedAnn (quietOutcome s p) }

theorem quietState_maxInflight (s : State) (p : Incoming) :
    (quietState s p).maxInflight = match p with
      | .connack true _ (some m) _ => (match s.ver with | .v5 => min m s.upperLimit | .v4 => s.maxInflight)
      | _ => s.maxInflight := rfl

theorem handleIncoming_quiet (s : State) (p : Incoming) (hq : p.isAck = false) :
    handleIncoming s p = (quietState s p, quietOutcome s p) := by
  cases p with
  | puback i r => cases hq
  | pubrec i r => cases hq
  | pubcomp i r => cases hq
  | publish q =>
    have e := handlePublish_eq (s.pushEv (.incoming (.publish q))) q
    rw [pubAnswer_pushEv] at e
    exact e.trans (by simp only [quietState, quietOutcome, e]; rfl)
  | pubrel i r =>
    show handlePubrel _ i = _
    unfold handlePubrel quietOutcome quietState
    by_cases h : i ∈ s.incomingPub
    · simp [State.pushEv, State.pushOut, h, expectedAnn, outgoingOf, quietOutcome]
    · simp [State.pushEv, h, expectedAnn, quietOutcome]
  | connack ok sp rm am =>
    -- the state taken apart, so that `match s.ver` reduces once the version is a constructor
    obtain ⟨ver, _, _, _, _, _, _, _, _, _, _, _, _, _, _, _, _⟩ := s
    cases ver <;> cases ok <;> cases rm <;> cases am <;>
      simp [handleIncoming, quietState, quietOutcome, expectedAnn, handleConnack, State.pushEv]
  | disconnect _ =>
    obtain ⟨ver, _, _, _, _, _, _, _, _, _, _, _, _, _, _, _, _⟩ := s
    cases ver <;> simp only [handleIncoming, quietState, quietOutcome, expectedAnn, List.append_nil, State.pushEv]
  | _ => simp only [handleIncoming, quietState, quietOutcome, expectedAnn, List.append_nil, State.pushEv]

theorem quietOutcome_cases (s : State) (p : Incoming) :
    quietOutcome s p = .ok none ∨ (∃ e, quietOutcome s p = .err e) ∨
    ∃ pkt, quietOutcome s p = .ok (some pkt) ∧
      (pkt = .disconnect 130 ∨ ∃ i, pkt = .puback i ∨ pkt = .pubrec i ∨ pkt = .pubcomp i) := by
  cases p with
  | publish q =>
    show pubAnswer s q = _ ∨ (∃ e, pubAnswer s q = _) ∨ ∃ pkt, pubAnswer s q = _ ∧ _
    rcases pubAnswer_cases s q with h | h | h | h <;> rw [h]
    · exact .inr (.inr ⟨_, rfl, .inl rfl⟩)
    · exact .inl rfl
    · exact .inr (.inr ⟨_, rfl, .inr ⟨_, .inl rfl⟩⟩)
    · exact .inr (.inr ⟨_, rfl, .inr ⟨_, .inr (.inl rfl)⟩⟩)
  | pubrel i r =>
    simp only [quietOutcome]
    split
    · exact .inr (.inr ⟨_, rfl, .inr ⟨_, .inr (.inr rfl)⟩⟩)
    · exact .inr (.inl ⟨_, rfl⟩)
  | connack ok sp rm am =>
    simp only [quietOutcome]
    cases s.ver <;> cases ok <;> first | exact .inl rfl | exact .inr (.inl ⟨_, rfl⟩)
  | disconnect _ => simp only [quietOutcome]; cases s.ver <;> exact .inr (.inl ⟨_, rfl⟩)
  | pingresp => exact .inl rfl
  | suback _ => exact .inl rfl
  | unsuback _ => exact .inl rfl
  | _ => exact .inr (.inl ⟨_, rfl⟩)

theorem quietOutcome_facts (s : State) (p : Incoming) :
    quietOutcome s p ≠ .panic ∧ (∀ q, quietOutcome s p ≠ .ok (some (.publish q))) ∧
    (∀ j, quietOutcome s p ≠ .ok (some (.pubrel j))) ∧ ∀ pkt, quietOutcome s p = .ok (some pkt) → chosenId pkt = none := by
  rcases quietOutcome_cases s p with h | ⟨e, h⟩ | ⟨pkt, h, rfl | ⟨i, rfl | rfl | rfl⟩⟩ <;> rw [h] <;>
    exact ⟨nofun, fun _ => nofun, fun _ => nofun, fun _ e => by cases e <;> rfl⟩


/-- for an acknowledgement `quietState s p` has the six fields of `s` -/
theorem handleIncoming_same (s : State) (p : Incoming) : Same (quietState s p) (handleIncoming s p).1 := by
  have ack : ∀ {res : State × Outcome}, CoreWrite (s.pushEv (.incoming p)) res → p.isAck = true →
      Same (quietState s p) res.1 := fun h hp => by
    have h := h.same
    cases p <;> first | (cases hp; done) | exact ⟨h.up, h.ver, h.man, h.max, h.al, h.inc⟩
  cases p with
  | puback i r => exact ack (ack_coreWrite _ i r).1 rfl
  | pubrec i r => exact ack (ack_coreWrite _ i r).2.1 rfl
  | pubcomp i r => exact ack (ack_coreWrite _ i r).2.2 rfl
  | _ => rw [handleIncoming_quiet s _ rfl]; exact ⟨rfl, rfl, rfl, rfl, rfl, rfl⟩

/-- result of `handle_incoming_packet`: the packet is surfaced once, first, then only `Outgoing`
    events which announce exactly the packet returned -/
def InShape (s0 : State) (p : Incoming) (r : State × Outcome) : Prop :=
  ∃ outs : List Event, r.1.events = s0.events ++ .incoming p :: outs ∧ (∀ e ∈ outs, isIncomingEv e = false) ∧
    (r.2 = .panic ∨ announced outs = expectedAnn r.2)

theorem Shape.toIn {s0 : State} {p : Incoming} {r : State × Outcome} (h : Shape (s0.pushEv (.incoming p)) r) :
    InShape s0 p r := by
  obtain ⟨o, a, b, c⟩ := h
  exact ⟨o, by simp [a, State.pushEv], b, c⟩

theorem shape_handleIncoming (s0 : State) (p : Incoming) : InShape s0 p (handleIncoming s0 p) := by
  apply Shape.toIn
  cases p with
  | puback i r => exact (ack_coreWrite _ i r).1.shape
  | pubrec i r => exact (ack_coreWrite _ i r).2.1.shape
  | pubcomp i r => exact (ack_coreWrite _ i r).2.2.shape
  | _ => rw [handleIncoming_quiet s0 _ rfl]; exact shape_ann _ _ _ rfl

theorem handlePubrel_answer (s : State) (i : Nat) (hk : s.incomingPub.contains i = true) :
    (handlePubrel s i).2 = .ok (some (.pubcomp i)) := by
  unfold handlePubrel
  rw [if_pos hk]

end Client
