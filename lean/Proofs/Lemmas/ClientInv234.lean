/-
Invariants of the tables, by case analysis over `LTrans` (`OutEff` / `IncEff`). Each case is a write at one id
(`Inv2.write`, `Inv4.write`); "nothing written" is the write at id 0 of what is there.
-/
import Proofs.Lemmas.ClientHandlerEff
namespace Client
open Client.Spec

inductive LTrans (s : State) (pd : List Request) : LOp → State → List Request → Prop
  /-- branch disabled / nothing to do -/
  | skip (op : LOp) : LTrans s pd op s pd
  | out (op : LOp) (r : Request) (pd' : List Request) (res : State × Outcome) (hf : LFires s pd op (.out r) pd')
      (he : OutEff s pd r pd' res) : LTrans s pd op (drainEvents res.1) pd'
  | inc (p : Incoming) (res : State × Outcome) (he : IncEff s p res) : LTrans s pd (.inc p) (drainEvents res.1) pd
  | fail : LTrans s pd .fail (cleanState s) (cleanRequests s ++ pd)
  | newSession : LTrans s pd .newSession s []

theorem lstep_trans {l : LState} (h0 : Inv0 l) (op : LOp) :
    LTrans l.st l.pending op (lstep l op).1.st (lstep l op).1.pending := by
  obtain ⟨s, pd⟩ := l
  rcases lstep_cases s pd op with he | ⟨sop, pd', hf, he⟩ <;> rw [he]
  · exact .skip _
  cases sop with
  | out r => exact .out _ _ _ _ hf (handleOutgoing_eff h0 hf)
  | inc p => cases hf; exact .inc p _ (handleIncoming_eff h0.sinv p)
  | clean => cases hf; exact .fail
  | drop => cases hf; exact .newSession
  | inflight => cases hf

def reqId : Request → Nat
  | .publish p => p.pkid
  | .pubrel i => i
  | _ => 0

structure Inv2 (l : LState) : Prop where
  disj : ∀ i : Nat, occAt l.st i = true → relContains l.st i = false
  pendClear : ∀ r ∈ l.pending, relContains l.st (reqId r) = false ∧ occAt l.st (reqId r) = false
  pendNd : (l.pending.map reqId).Nodup
  /-- only the last element of `pending` may be unnumbered -/
  pendPos : ∀ r ∈ l.pending.dropLast, reqId r ≠ 0
  colPend : l.st.collision.isSome = true → l.pending = []

theorem Inv2.new (ver : Version) (max : Nat) (m : Bool) : Inv2 (LState.new ver max m) := by
  refine ⟨?_, by intro r hr; simp [LState.new] at hr, by simp [LState.new], by simp [LState.new], by simp [LState.new]⟩
  intro i hi
  obtain ⟨x, hx⟩ := (occAt_iff _ i).mp hi
  exact absurd hx (new_slot ver max m i x)

theorem map_reqId_pubs (l : List Request) (h : ∀ r ∈ l, ∃ p, r = .publish p) : l.map reqId = pubIds l := by
  induction l with
  | nil => rfl
  | cons a l ih =>
    obtain ⟨p, rfl⟩ := h a (by simp)
    have : pubIds (.publish p :: l) = p.pkid :: pubIds l := by simp [pubIds]
    simp only [List.map_cons, reqId, this]
    rw [ih (fun r hr => h r (List.mem_cons_of_mem _ hr))]

theorem map_reqId_cleanPubs {s : State} (hs : SInv s) : (cleanPubs s).map reqId = pubIds (cleanPubs s) := by
  apply map_reqId_pubs
  intro r hr
  obtain ⟨p, hp, _⟩ := (mem_cleanPubs hs r).mp hr
  exact ⟨p, hp⟩

theorem map_reqId_cleanRequests {s : State} (hs : SInv s) :
    (cleanRequests s).map reqId = pubIds (cleanPubs s) ++ relOnes s ++ (if s.collision.isSome then [0] else []) := by
  have h2 : (cleanParked s).map reqId = if s.collision.isSome then [0] else [] := by
    unfold cleanParked; cases s.collision <;> simp [reqId]
  simp [cleanRequests, map_reqId_cleanPubs hs, h2, reqId, Function.comp_def]

theorem mem_pubIds_cleanPubs (s : State) (hs : SInv s) (i : Nat) : i ∈ pubIds (cleanPubs s) ↔ occAt s i = true := by
  rw [mem_pubIds, occAt_iff]
  constructor
  · rintro ⟨p, hp, hpi⟩
    obtain ⟨p', hp', hm⟩ := (mem_cleanPubs hs _).mp hp
    cases hp'
    obtain ⟨j, hj⟩ := List.mem_iff_getElem?.mp hm
    have := (hs.slotId j p hj).1
    exact ⟨p, by rw [← hpi, this]; exact hj⟩
  · rintro ⟨x, hx⟩
    exact ⟨x, (mem_cleanPubs hs _).mpr ⟨x, rfl, List.mem_iff_getElem?.mpr ⟨i, hx⟩⟩, (hs.slotId i x hx).1⟩

theorem cleanState_tables (s : State) (j : Nat) : occAt (cleanState s) j = false ∧ relContains (cleanState s) j = false :=
  ⟨Bool.eq_false_iff.mpr fun h => have ⟨x, hx⟩ := (occAt_iff _ j).mp h; cleanState_slot s j x hx, cleanState_rel s j⟩

theorem reqId_pos_of {s : State} {pd : List Request} (h0 : Inv0 ⟨s, pd⟩) (r : Request) (hr : r ∈ pd)
    (hnum : ∀ p, r = .publish p → p.pkid ≠ 0) : reqId r ≠ 0 := by
  have hok := h0.pendWF r hr
  cases r with
  | publish p => exact hnum p rfl
  | pubrel i => simp only [PendOK] at hok; simp only [reqId]; omega
  | _ => exact hok.elim

theorem mem_dropLast_of_cons {α} (a : α) (l : List α) (x : α) (h : x ∈ l.dropLast) : x ∈ (a :: l).dropLast := by
  cases l with
  | nil => simp at h
  | cons b l => rw [List.dropLast_cons_cons]; exact List.mem_cons_of_mem _ h

theorem mem_dropLast_append {α} {a b : List α} {x : α} (h : x ∈ (a ++ b).dropLast) : x ∈ a ∨ x ∈ b.dropLast := by
  cases b with
  | nil => rw [List.append_nil] at h; exact Or.inl ((List.dropLast_sublist _).subset h)
  | cons y b => rw [List.dropLast_append_of_ne_nil (by simp)] at h; exact List.mem_append.mp h

theorem Inv2.head_free {s : State} {p : Pub} {rest : List Request} (h : Inv2 ⟨s, .publish p :: rest⟩) :
    ¬ busyId s p.pkid := by
  have := h.pendClear (.publish p) (by simp)
  simp only [reqId] at this
  rintro (⟨x, hx⟩ | hr)
  · have h' := (occAt_iff s p.pkid).mpr ⟨x, hx⟩
    rw [this.2] at h'; cases h'
  · rw [this.1] at hr; cases hr

theorem Inv2.unnumbered_last {s : State} {p : Pub} {rest : List Request} (h : Inv2 ⟨s, .publish p :: rest⟩)
    (hid : p.pkid = 0) : rest = [] := by
  cases rest with
  | nil => rfl
  | cons b l =>
    have := h.pendPos (.publish p) (by rw [List.dropLast_cons_cons]; exact List.mem_cons_self)
    simp only [reqId] at this
    exact absurd hid this

theorem Inv2.col_none {s : State} {r : Request} {rest : List Request} (h : Inv2 ⟨s, r :: rest⟩) : s.collision = none := by
  cases hc : s.collision with
  | none => rfl
  | some c => have := h.colPend (by simp [hc]); simp at this

theorem slot_free_of_rel {s : State} (hs : SInv s) {i : Nat} (hd : occAt s i = true → relContains s i = false)
    (hx : relContains s i = true) : s.outgoingPub[i]? = some none := by
  have hlt := getElem?_lt_of_some ((relContains_eq s i).mp hx)
  have hl1 := hs.lenPub; have hl2 := hs.lenRel
  have hocc : occAt s i = false := by
    cases ho : occAt s i with
    | false => rfl
    | true => rw [hd ho] at hx; cases hx
  rcases (occAt_false_iff s i).mp hocc with h' | h'
  · rw [List.getElem?_eq_none_iff] at h'; omega
  · exact h'

theorem Inv2.nil {s : State} (h : ∀ i : Nat, occAt s i = true → relContains s i = false) : Inv2 ⟨s, []⟩ :=
  ⟨h, fun _ hr => absurd hr List.not_mem_nil, List.nodup_nil, fun _ hr => absurd hr List.not_mem_nil, fun _ => rfl⟩

/-- the slot and the release bit of ONE id `i` are written (`a`, `b`: what they hold afterwards) and `pending`
    shrinks to `pd'` -/
theorem Inv2.write {s s' : State} {pd pd' : List Request}
    (h1 : ∀ j, occAt s j = true → relContains s j = false)
    (h2 : ∀ r ∈ pd, relContains s (reqId r) = false ∧ occAt s (reqId r) = false)
    (i : Nat) (a b : Bool) (ho : ∀ j, occAt s' j = if i = j then a else occAt s j)
    (hr : ∀ j, relContains s' j = if i = j then b else relContains s j)
    (hab : a = true → b = false) (hsub : ∀ r ∈ pd', r ∈ pd)
    (hp : ∀ r ∈ pd', reqId r = i → b = false ∧ a = false) :
    (∀ j, occAt s' j = true → relContains s' j = false) ∧
    ∀ r ∈ pd', relContains s' (reqId r) = false ∧ occAt s' (reqId r) = false := by
  refine ⟨fun j hj => ?_, fun r hr' => ?_⟩
  · rw [ho] at hj; rw [hr]
    by_cases hij : i = j
    · rw [if_pos hij] at hj ⊢; exact hab hj
    · rw [if_neg hij] at hj ⊢; exact h1 j hj
  · rw [ho, hr]
    by_cases hi : i = reqId r
    · rw [if_pos hi, if_pos hi]; exact hp r hr' hi.symm
    · rw [if_neg hi, if_neg hi]; exact h2 r (hsub r hr')

theorem Inv2.fail {s : State} {pd : List Request} (h0 : Inv0 ⟨s, pd⟩) (h : Inv2 ⟨s, pd⟩) :
    Inv2 ⟨cleanState s, cleanRequests s ++ pd⟩ := by
  have hs := h0.sinv
  obtain ⟨h1, h2, h3, h4, h5⟩ := h
  simp only at h1 h2 h3 h4 h5 hs
  have hclean : ∀ a ∈ pubIds (cleanPubs s) ++ relOnes s, a ≠ 0 := by
    intro a ha
    rcases List.mem_append.mp ha with ha | ha
    · obtain ⟨x, hx⟩ := (occAt_iff s a).mp ((mem_pubIds_cleanPubs s hs a).mp ha)
      have := (h0.slotLe a x hx).1; omega
    · have := (h0.relLe a ((mem_relOnes s a).mp ha)).1; omega
  refine ⟨?_, ?_, ?_, ?_, by simp [cleanState]⟩
  · intro i hi; rw [(cleanState_tables s i).1] at hi; simp at hi
  · intro r hr; exact ⟨(cleanState_tables s _).2, (cleanState_tables s _).1⟩
  · -- ids: stored, awaiting release, (parked: 0, then `pending` is empty), still pending
    rw [List.map_append, map_reqId_cleanRequests hs, List.nodup_append]
    refine ⟨?_, h3, ?_⟩
    · rw [List.nodup_append]
      refine ⟨?_, by split <;> simp, ?_⟩
      · rw [List.nodup_append]
        refine ⟨pubIds_cleanPubs_nodup hs, relOnes_nodup s, ?_⟩
        intro a ha b hb hab
        subst hab
        have := h1 a ((mem_pubIds_cleanPubs s hs a).mp ha)
        rw [(mem_relOnes s a).mp hb] at this; simp at this
      · intro a ha b hb hab
        subst hab
        split at hb
        · simp at hb; exact hclean a ha hb
        · simp at hb
    · intro a ha b hb hab
      subst hab
      obtain ⟨r, hr, hra⟩ := List.mem_map.mp hb
      have := h2 r hr
      rw [hra] at this
      rcases List.mem_append.mp ha with ha | ha
      · rcases List.mem_append.mp ha with ha | ha
        · rw [(mem_pubIds_cleanPubs s hs a).mp ha] at this; simp at this
        · rw [(mem_relOnes s a).mp ha] at this; simp at this
      · split at ha
        · rename_i hcol
          have := h5 hcol
          subst this
          simp at hr
        · simp at ha
  · intro r hr
    cases hc : s.collision with
    | none =>
      -- nothing is parked: `clean()` returns numbered requests only
      rcases mem_dropLast_append hr with hr | hr
      · apply hclean
        have hm : reqId r ∈ (cleanRequests s).map reqId := List.mem_map_of_mem hr
        rw [map_reqId_cleanRequests hs] at hm
        simpa [hc] using hm
      · exact h4 r hr
    | some c =>
      -- the parked publish is returned last, and nothing else is pending
      have hpd := h5 (by simp [hc])
      subst hpd
      have hsplit : cleanRequests s = (cleanPubs s ++ (relOnes s).map Request.pubrel) ++ [.publish { c with pkid := 0 }] := by
        simp [cleanRequests, cleanParked, hc]
      rw [List.append_nil, hsplit, List.dropLast_concat] at hr
      apply hclean
      have : reqId r ∈ (cleanPubs s ++ (relOnes s).map Request.pubrel).map reqId := List.mem_map_of_mem hr
      simpa [map_reqId_cleanPubs hs, reqId, Function.comp_def] using this

theorem Inv2.step {s : State} {pd : List Request} {op : LOp} {s' : State} {pd' : List Request}
    (h0 : Inv0 ⟨s, pd⟩) (h : Inv2 ⟨s, pd⟩) (ht : LTrans s pd op s' pd') :
    Inv2 ⟨s', pd'⟩ := by
  have hs := h0.sinv
  have hh := h
  obtain ⟨h1, h2, h3, h4, h5⟩ := h
  simp only at h1 h2 h3 h4 h5 hs
  have sub : ∀ r ∈ pd, r ∈ pd := fun _ hr => hr
  have nil : ∀ {P : Request → Prop}, ∀ r ∈ ([] : List Request), P r := fun _ hr => absurd hr List.not_mem_nil
  -- the tables are those of `s`: `Inv2.write` at id 0 with what is there (`occAt_noop`)
  have unchanged : ∀ {s1 : State} {c : Core}, s1.core = c → c.pub = s.outgoingPub → c.rel = s.outgoingRel →
      (∀ j, occAt (drainEvents s1) j = true → relContains (drainEvents s1) j = false) ∧
      ∀ r ∈ pd, relContains (drainEvents s1) (reqId r) = false ∧ occAt (drainEvents s1) (reqId r) = false := fun hc e1 e2 =>
    Inv2.write h1 h2 0 (occAt s 0) (relContains s 0) (occAt_noop ((congrArg Core.pub hc).trans e1) 0)
      (relContains_noop ((congrArg Core.rel hc).trans e2) 0) (h1 0) sub fun r hr h0' => h0' ▸ h2 r hr
  have tl : ∀ {r : Request}, pd = r :: pd' → (∀ x ∈ pd', x ∈ pd) ∧ reqId r ∉ pd'.map reqId ∧ (pd'.map reqId).Nodup ∧
      (∀ x ∈ pd'.dropLast, reqId x ≠ 0) ∧ s.collision = none := by
    intro r e
    subst e
    rw [List.map_cons, List.nodup_cons] at h3
    exact ⟨fun _ hx => List.mem_cons_of_mem _ hx, h3.1, h3.2, fun x hx => h4 x (mem_dropLast_of_cons _ _ _ hx), hh.col_none⟩
  cases ht with
  | skip => exact hh
  | out _ r _ res _ he =>
    cases he with
    | idOnly _ s1 o _ _ hc =>
      obtain ⟨k1, k2⟩ := unchanged hc rfl rfl
      exact ⟨k1, k2, h3, h4, by rw [show (drainEvents s1).collision = s.collision from congrArg Core.col hc]; exact h5⟩
    | store p s1 _ hpd hq hslot hrel hc =>
      have st : ∀ {pd'' : List Request}, (∀ x ∈ pd'', x ∈ pd) → (∀ x ∈ pd'', reqId x ≠ (withId s p).pkid) → _ :=
        fun hsub hne => Inv2.write (s' := drainEvents s1) h1 h2 _ true (relContains s _)
          (occAt_of_set (congrArg Core.pub hc) (getElem?_lt_of_some hslot)) (relContains_noop (congrArg Core.rel hc) _)
          (fun _ => hrel) hsub fun x hx hn => absurd hn (hne x hx)
      rcases hpd with ⟨_, rfl, _, _⟩ | e
      · exact .nil (st nil nil).1
      · obtain ⟨hsub, hni, nd, pos, hcol⟩ := tl e
        by_cases hid : p.pkid = 0
        · obtain rfl := (e ▸ hh : Inv2 ⟨s, .publish p :: pd'⟩).unnumbered_last hid
          exact .nil (st nil nil).1
        · rw [withId_of_ne hid] at st
          simp only [reqId] at hni
          obtain ⟨k1, k2⟩ := st hsub fun x hx he => hni (he ▸ List.mem_map_of_mem hx)
          exact ⟨k1, k2, nd, pos, by rw [show (drainEvents s1).collision = s.collision from congrArg Core.col hc, hcol]; nofun⟩
    | park p s1 _ hpd hq hbusy hc =>
      have hnil : pd' = [] := by
        rcases hpd with ⟨_, e, _, _⟩ | e
        · exact e
        · by_cases hid : p.pkid = 0
          · exact (e ▸ hh : Inv2 ⟨s, .publish p :: pd'⟩).unnumbered_last hid
          · rw [withId_of_ne hid] at hbusy
            exact absurd hbusy (e ▸ hh : Inv2 ⟨s, .publish p :: pd'⟩).head_free
      subst hnil
      exact .nil (unchanged hc rfl rfl).1
    | setRel i s1 _ hpd hi hc =>
      obtain ⟨hsub, hni, nd, pos, hcol⟩ := tl hpd
      have hp := h2 (.pubrel i) (hpd ▸ List.mem_cons_self)
      simp only [reqId] at hni hp
      obtain ⟨k1, k2⟩ := Inv2.write (s' := drainEvents s1) h1 h2 i (occAt s i) true (occAt_noop (congrArg Core.pub hc) i)
        (relContains_of_set (congrArg Core.rel hc) hi) (fun h => absurd (hp.2.symm.trans h) nofun)
        hsub fun r hr he => absurd (he ▸ List.mem_map_of_mem hr) hni
      exact ⟨k1, k2, nd, pos, by rw [show (drainEvents s1).collision = s.collision from congrArg Core.col hc, hcol]; nofun⟩
  | inc p res he =>
    have colp : ∀ {s1 : State}, s1.collision = s.collision → s1.collision.isSome = true → pd = [] := fun e hc => h5 (e ▸ hc)
    have unchanged : ∀ {s1 : State}, s1.core = s.core → Inv2 ⟨drainEvents s1, pd⟩ := fun hc =>
      have k := unchanged hc rfl rfl
      ⟨k.1, k.2, h3, h4, colp (s1 := drainEvents _) (congrArg Core.col hc)⟩
    cases he with
    | unsol _ i s1 _ _ hc | unsolComp i _ s1 _ hc | other _ s1 _ _ hc => exact unchanged hc
    | acked _ i x res _ hx he =>
      have hlt := getElem?_lt_of_some hx
      have hocc : occAt s i = true := (occAt_iff s i).mpr ⟨x, hx⟩
      cases he with
      | plain s1 hnc hc =>
        obtain ⟨k1, k2⟩ := Inv2.write (s' := drainEvents s1) h1 h2 i false (relContains s i)
          (occAt_of_set (congrArg Core.pub hc) hlt) (relContains_noop (congrArg Core.rel hc) i) nofun sub
          fun r hr he => ⟨he ▸ (h2 r hr).1, rfl⟩
        exact ⟨k1, k2, h3, h4, colp (s1 := drainEvents s1) (congrArg Core.col hc)⟩
      | released s1 c hcol hci hc =>
        -- the parked publish takes the slot just freed (so `pending` is empty)
        subst hci
        have hpd : pd = [] := h5 (by simp [hcol])
        subst hpd
        exact .nil (Inv2.write (s' := drainEvents s1) (pd' := []) h1 h2 c.pkid true (relContains s c.pkid)
          (occAt_of_set ((congrArg Core.pub hc).trans (List.set_set ..)) hlt) (relContains_noop (congrArg Core.rel hc) c.pkid)
          (fun _ => h1 _ hocc) nil nil).1
    | moved i r x s1 hx hi hc =>
      have hocc : occAt s i = true := (occAt_iff s i).mpr ⟨x, hx⟩
      obtain ⟨k1, k2⟩ := Inv2.write (s' := drainEvents s1) h1 h2 i false true
        (occAt_of_set (congrArg Core.pub hc) (getElem?_lt_of_some hx)) (relContains_of_set (congrArg Core.rel hc) hi) nofun sub
        fun r hr he => Bool.noConfusion (hocc.symm.trans (he ▸ (h2 r hr).2 : occAt s i = false))
      exact ⟨k1, k2, h3, h4, colp (s1 := drainEvents s1) (congrArg Core.col hc)⟩
    | comped i r res hx he =>
      have hlt := getElem?_lt_of_some ((relContains_eq s i).mp hx)
      cases he with
      | plain s1 hnc hc =>
        obtain ⟨k1, k2⟩ := Inv2.write (s' := drainEvents s1) h1 h2 i (occAt s i) false (occAt_noop (congrArg Core.pub hc) i)
          (relContains_of_set (congrArg Core.rel hc) hlt) (fun _ => rfl) sub fun r hr he => ⟨rfl, he ▸ (h2 r hr).2⟩
        exact ⟨k1, k2, h3, h4, colp (s1 := drainEvents s1) (congrArg Core.col hc)⟩
      | released s1 c hcol hci hc =>
        subst hci
        have hpd : pd = [] := h5 (by simp [hcol])
        subst hpd
        have hltp : c.pkid < s.outgoingPub.length := by have := hs.lenPub; have := hs.lenRel; omega
        exact .nil (Inv2.write (s' := drainEvents s1) (pd' := []) h1 h2 c.pkid true false (occAt_of_set (congrArg Core.pub hc) hltp)
          (relContains_of_set (congrArg Core.rel hc) hlt) (fun _ => rfl) nil nil).1
  | fail => exact hh.fail h0
  | newSession => exact .nil h1

def Inv3 (l : LState) : Prop := l.st.inflight = occ l.st.outgoingPub + relCount l.st.outgoingRel

theorem Inv3.new (ver : Version) (max : Nat) (m : Bool) : Inv3 (LState.new ver max m) := by
  simp [Inv3, LState.new, State.new, occ_replicate, relCount_replicate]

theorem Inv3.step {s : State} {pd : List Request} {op : LOp} {s' : State} {pd' : List Request}
    (hs : SInv s) (h2 : Inv2 ⟨s, pd⟩) (h : Inv3 ⟨s, pd⟩)
    (ht : LTrans s pd op s' pd') : Inv3 ⟨s', pd'⟩ := by
  unfold Inv3 at *
  simp only at h ⊢
  -- `s1`: the state before the events are drained
  have unchanged : ∀ {s1 : State} {c : Core}, s1.core = c → c.pub = s.outgoingPub → c.rel = s.outgoingRel → c.inf = s.inflight →
      (drainEvents s1).inflight = occ (drainEvents s1).outgoingPub + relCount (drainEvents s1).outgoingRel := by
    intro s1 c hc e1 e2 e3; subst hc
    show s1.inflight = occ s1.outgoingPub + relCount s1.outgoingRel
    rw [show s1.outgoingPub = _ from e1, show s1.outgoingRel = _ from e2, show s1.inflight = _ from e3]; exact h
  -- slot `i` freed or bit `i` cleared, counter lowered; a parked publish may then take the slot
  have released : ∀ {s1 : State} {o : Outcome} {i : Nat} {c0 : Core}, ReleaseEff s i c0 (s1, o) →
      c0.inf = s.inflight - 1 → c0.inf + 1 = occ c0.pub + relCount c0.rel + 1 → c0.pub[i]? = some none →
      (drainEvents s1).inflight = occ (drainEvents s1).outgoingPub + relCount (drainEvents s1).outgoingRel := by
    intro s1 o i c0 he e3 hcnt hfree
    show s1.inflight = occ s1.outgoingPub + relCount s1.outgoingRel
    cases he with
    | plain _ hnc hc =>
      rw [show s1.outgoingPub = c0.pub from congrArg Core.pub hc, show s1.outgoingRel = c0.rel from congrArg Core.rel hc,
        show s1.inflight = c0.inf from congrArg Core.inf hc]; omega
    | released _ c hcol hci hc =>
      subst hci
      rw [show s1.outgoingPub = c0.pub.set c.pkid (some c) from congrArg Core.pub hc,
        show s1.outgoingRel = c0.rel from congrArg Core.rel hc,
        show s1.inflight = c0.inf + 1 from congrArg Core.inf hc, occ_set_some _ _ _ hfree]; omega
  cases ht with
  | skip => exact h
  | out _ r _ res _ he =>
    cases he with
    | idOnly _ s1 o _ _ hc => exact unchanged hc rfl rfl rfl
    | store p s1 _ _ hq hslot hrel hc =>
      show s1.inflight = occ s1.outgoingPub + relCount s1.outgoingRel
      rw [show s1.outgoingPub = s.outgoingPub.set _ (some (withId s p)) from congrArg Core.pub hc,
        show s1.outgoingRel = s.outgoingRel from congrArg Core.rel hc,
        show s1.inflight = s.inflight + 1 from congrArg Core.inf hc, occ_set_some _ _ _ hslot]; omega
    | park p s1 _ _ hq hbusy hc => exact unchanged hc rfl rfl rfl
    | setRel i s1 _ hpd hi hc =>
      have hp : relContains s i = false := (h2.pendClear (.pubrel i) (hpd ▸ List.mem_cons_self)).1
      show s1.inflight = occ s1.outgoingPub + relCount s1.outgoingRel
      rw [show s1.outgoingPub = s.outgoingPub from congrArg Core.pub hc,
        show s1.outgoingRel = s.outgoingRel.set i true from congrArg Core.rel hc,
        show s1.inflight = s.inflight + 1 from congrArg Core.inf hc,
        relCount_set_true _ _ (relContains_false_of_lt s i hi hp)]; omega
  | inc p res he =>
    cases he with
    | unsol _ i s1 _ _ hc | unsolComp i _ s1 _ hc | other _ s1 _ _ hc => exact unchanged hc rfl rfl rfl
    | acked _ i x res _ hx he =>
      have := occ_set_none _ _ _ hx; have := occ_pos_of_slot _ _ _ hx
      exact released he rfl (by show s.inflight - 1 + 1 = occ (s.outgoingPub.set i none) + relCount s.outgoingRel + 1; omega)
        (by show (s.outgoingPub.set i none)[i]? = some none; simp [getElem?_lt_of_some hx])
    | moved i r x s1 hx hi hc =>
      have h1 := occ_set_none _ _ _ hx
      have hr := h2.disj i ((occAt_iff s i).mpr ⟨x, hx⟩)
      simp only at hr
      show s1.inflight = occ s1.outgoingPub + relCount s1.outgoingRel
      rw [show s1.outgoingPub = s.outgoingPub.set i none from congrArg Core.pub hc,
        show s1.outgoingRel = s.outgoingRel.set i true from congrArg Core.rel hc,
        show s1.inflight = s.inflight from congrArg Core.inf hc,
        relCount_set_true _ _ (relContains_false_of_lt s i hi hr)]; omega
    | comped i r res hx he =>
      have hbit := (relContains_eq s i).mp hx
      have := relCount_set_false _ _ hbit; have := relCount_pos_of_bit _ _ hbit
      exact released he rfl (by show s.inflight - 1 + 1 = occ s.outgoingPub + relCount (s.outgoingRel.set i false) + 1; omega)
        (slot_free_of_rel hs (h2.disj i) hx)
  | fail => simp [cleanState, occ_map_none, relCount_map_false]
  | newSession => exact h

def Inv4 (l : LState) : Prop :=
  ∀ c : Pub, l.st.collision = some c → occAt l.st c.pkid = true ∨ relContains l.st c.pkid = true

theorem Inv4.new (ver : Version) (max : Nat) (m : Bool) : Inv4 (LState.new ver max m) := by
  intro c hc; simp [LState.new, State.new] at hc

/-- as `Inv2.write`, the collision slot left alone: a publish parked on `i` must still find one of the two set -/
theorem Inv4.write {s s' : State}
    (h : ∀ c : Pub, s.collision = some c → occAt s c.pkid = true ∨ relContains s c.pkid = true)
    (i : Nat) (a b : Bool) (ho : ∀ j, occAt s' j = if i = j then a else occAt s j)
    (hr : ∀ j, relContains s' j = if i = j then b else relContains s j) (e4 : s'.collision = s.collision)
    (hc : ∀ c : Pub, s.collision = some c → c.pkid = i → a = true ∨ b = true) :
    ∀ c : Pub, s'.collision = some c → occAt s' c.pkid = true ∨ relContains s' c.pkid = true := by
  intro c hc'
  rw [e4] at hc'
  rw [ho, hr]
  by_cases hi : i = c.pkid
  · rw [if_pos hi, if_pos hi]; exact hc c hc' hi.symm
  · rw [if_neg hi, if_neg hi]; exact h c hc'

/-- a publish is only ever parked on an id in use, and that id is not given up without releasing the publish -/
theorem Inv4.step {s : State} {pd : List Request} {op : LOp} {s' : State} {pd' : List Request}
    (h : Inv4 ⟨s, pd⟩) (ht : LTrans s pd op s' pd') : Inv4 ⟨s', pd'⟩ := by
  unfold Inv4 at *
  simp only at h ⊢
  have wr := @Inv4.write s s' h
  have unchanged : ∀ {c : Core}, s'.core = c → c.pub = s.outgoingPub → c.rel = s.outgoingRel → c.col = s.collision →
      ∀ c : Pub, s'.collision = some c → occAt s' c.pkid = true ∨ relContains s' c.pkid = true := fun hc e1 e2 e3 =>
    wr 0 (occAt s 0) (relContains s 0) (occAt_noop ((congrArg Core.pub hc).trans e1) 0)
      (relContains_noop ((congrArg Core.rel hc).trans e2) 0) ((congrArg Core.col hc).trans e3) fun c hc' he => he ▸ h c hc'
  -- `a`, `b`: what slot and bit `i` hold after the acknowledgement
  have released : ∀ {s1 : State} {o : Outcome} {i : Nat} {c0 : Core} (a b : Bool), s' = drainEvents s1 → ReleaseEff s i c0 (s1, o) →
      (∀ {s2 : State}, s2.core = c0 → (∀ j, occAt s2 j = if i = j then a else occAt s j) ∧
        (∀ j, relContains s2 j = if i = j then b else relContains s j) ∧ s2.collision = s.collision) →
      ∀ c : Pub, s'.collision = some c → occAt s' c.pkid = true ∨ relContains s' c.pkid = true := by
    intro s1 o i c0 a b es he hw
    subst es
    cases he with
    | plain _ hnc hc =>
      obtain ⟨k1, k2, k3⟩ := hw (s2 := drainEvents s1) hc
      exact wr i a b k1 k2 k3 fun c hc' he => absurd he (hnc c hc')
    | released _ c hcol hci hc => exact fun c' hc' => nomatch (congrArg Core.col hc : (drainEvents s1).collision = none).symm.trans hc'
  cases ht with
  | skip => exact h
  | out _ r _ res _ he =>
    cases he with
    | idOnly _ s1 o _ _ hc => exact unchanged hc rfl rfl rfl
    | store p s1 _ _ hq hslot hrel hc =>
      exact wr _ true (relContains s _) (occAt_of_set (s' := drainEvents s1) (congrArg Core.pub hc) (getElem?_lt_of_some hslot))
        (relContains_noop (s' := drainEvents s1) (congrArg Core.rel hc) _) (congrArg Core.col hc) fun _ _ _ => .inl rfl
    | park p s1 _ _ hq hbusy hc =>
      intro c hc'
      rw [show (drainEvents s1).collision = some (withId s p) from congrArg Core.col hc] at hc'; cases hc'
      rw [occAt_congr (s' := drainEvents s1) (congrArg Core.pub hc), relContains_congr (s' := drainEvents s1) (congrArg Core.rel hc)]
      exact (busyId_iff s _).mp hbusy
    | setRel i s1 _ _ hi hc =>
      exact wr i (occAt s i) true (occAt_noop (s' := drainEvents s1) (congrArg Core.pub hc) i)
        (relContains_of_set (s' := drainEvents s1) (congrArg Core.rel hc) hi) (congrArg Core.col hc) fun _ _ _ => .inr rfl
  | inc p res he =>
    cases he with
    | unsol _ i s1 _ _ hc | unsolComp i _ s1 _ hc | other _ s1 _ _ hc => exact unchanged hc rfl rfl rfl
    | acked _ i x res _ hx he =>
      exact released false (relContains s i) rfl he fun hc =>
        ⟨occAt_of_set (congrArg Core.pub hc) (getElem?_lt_of_some hx), relContains_noop (congrArg Core.rel hc) i, congrArg Core.col hc⟩
    | moved i r x s1 hx hi hc =>
      exact wr i false true (occAt_of_set (s' := drainEvents s1) (congrArg Core.pub hc) (getElem?_lt_of_some hx))
        (relContains_of_set (s' := drainEvents s1) (congrArg Core.rel hc) hi) (congrArg Core.col hc) fun _ _ _ => .inr rfl
    | comped i r res hx he =>
      exact released (occAt s i) false rfl he fun hc =>
        ⟨occAt_noop (congrArg Core.pub hc) i,
          relContains_of_set (congrArg Core.rel hc) (getElem?_lt_of_some ((relContains_eq s i).mp hx)), congrArg Core.col hc⟩
  | fail => exact fun c hc' => nomatch hc'
  | newSession => exact h

end Client
