/- The C10 clauses at a `Step`. -/
import Proofs.Lemmas.ClientRun
namespace Client
open Client.Spec

theorem lop_inc {l : LState} {op : LOp} {p : Incoming} (hl : lop? l op = some (.inc p)) : op = .inc p := by
  revert hl
  fun_cases lop? l op <;> intro hl <;> cases hl
  rfl

variable {l l' : LState} {g g' : Ghost} {o : Obs}

theorem sstepObs_out (s : State) (r : Request) :
    (sstepObs s (.out r)).outcome = (handleOutgoing s r).2 ∧ (sstepObs s (.out r)).events = (handleOutgoing s r).1.events :=
  ⟨rfl, rfl⟩

theorem sstepObs_inc (s : State) (p : Incoming) :
    (sstepObs s (.inc p)).outcome = (handleIncoming s p).2 ∧ (sstepObs s (.inc p)).events = (handleIncoming s p).1.events :=
  ⟨rfl, rfl⟩

theorem sstepObs_shape (s : State) (he : s.events = []) (sop : SOp) :
    ∃ outs, (sstepObs s sop).events = (match sop with | .inc p => [Event.incoming p] | _ => []) ++ outs ∧
      (∀ e ∈ outs, isIncomingEv e = false) ∧
      ((sstepObs s sop).outcome = .panic ∨ announced outs = expectedAnn (sstepObs s sop).outcome) := by
  cases sop with
  | out r =>
    obtain ⟨outs, h1, h2, h3⟩ := shape_handleOutgoing s r
    rw [(sstepObs_out s r).1, (sstepObs_out s r).2, h1, he]
    exact ⟨outs, rfl, h2, h3⟩
  | inc p =>
    obtain ⟨outs, h1, h2, h3⟩ := shape_handleIncoming s p
    rw [(sstepObs_inc s p).1, (sstepObs_inc s p).2, h1, he]
    exact ⟨outs, rfl, h2, h3⟩
  | _ => exact ⟨[], rfl, fun _ h => absurd h List.not_mem_nil, .inr rfl⟩

theorem C10_noPanic_ok (h : Step l g o l' g') : C10.noPanic o = true := by
  obtain ⟨sop, rfl⟩ := h.sop
  cases sop with
  | inc p =>
    unfold C10.noPanic
    split
    · rename_i hp; exact absurd hp (handleIncoming_noPanic h.pre.inv0.sinv p)
    · rfl
  | _ => rfl

theorem C10_order_ok (h : Step l g o l' g') : C10.order o = true := by
  obtain ⟨sop, rfl⟩ := h.sop
  obtain ⟨outs, h1, h2, _⟩ := sstepObs_shape l.st h.pre.evs sop
  have hall : outs.all (fun e => !isIncomingEv e) = true :=
    List.all_eq_true.mpr fun e he => by rw [h2 e he]; rfl
  unfold C10.order
  rw [sstepObs_op, h1]
  split
  · rfl
  · cases sop with
    | inc p => exact (Bool.and_eq_true _ _).mpr ⟨beq_self_eq_true _, hall⟩
    | _ => exact hall

theorem C10_notify_ok (h : Step l g o l' g') : C10.notify o = true := by
  obtain ⟨sop, rfl⟩ := h.sop
  obtain ⟨outs, h1, _, h3⟩ := sstepObs_shape l.st h.pre.evs sop
  have ha : announced (sstepObs l.st sop).events = announced outs := by
    rw [h1]; cases sop <;> rfl
  unfold C10.notify
  rw [ha]
  generalize (sstepObs l.st sop).outcome = O at h3
  rcases h3 with rfl | h3
  · rfl
  · rw [h3]; rcases O with (_ | pkt) | e | _ <;> simp [expectedAnn]

theorem pubrel_known_answer (hg : GInv0 l g) {i : Nat} (r : Nat) (hk : g.inQos2.contains i = true) :
    (sstepObs l.st (.inc (.pubrel i r))).outcome = .ok (some (.pubcomp i)) :=
  handlePubrel_answer (l.st.pushEv (.incoming (.pubrel i r))) i
    (List.contains_iff_mem.mpr ((hg.q2 i).mp (List.contains_iff_mem.mp hk)))

theorem C10_ack_of (hpub : ∀ q, o.op = .inc (.publish q) → o.outcome = g.pubAnswer q)
    (hrel : ∀ i r, o.op = .inc (.pubrel i r) → g.inQos2.contains i = true → o.outcome = .ok (some (.pubcomp i))) :
    C10.ack g o = true := by
  unfold C10.ack
  split
  · rfl
  · split
    · rename_i q hop
      simp only [← apply_ite (o.outcome == ·)]
      show (o.outcome == g.pubAnswer q) = true
      exact beq_iff_eq.mpr (hpub q hop)
    · rename_i i r hop
      split
      · rename_i hk
        rw [hrel i r hop hk]
        split
        · rfl
        · exact beq_self_eq_true _
      · rfl
    · rfl

theorem C10_ack_ok (h : Step l g o l' g') : C10.ack g o = true := by
  obtain ⟨sop, rfl⟩ := h.sop
  have hg := h.pre.g0
  refine C10_ack_of (fun q hop => ?_) (fun i r hop hk => ?_) <;> rw [sstepObs_op] at hop <;> subst hop
  · show (handleIncoming l.st (.publish q)).2 = _
    rw [handleIncoming_quiet l.st _ rfl]
    exact (hg.pubAnswer q).symm
  · exact pubrel_known_answer hg r hk

theorem C10_relAnswered_of
    (hrel : ∀ i r, o.op = .inc (.pubrel i r) → g.inQos2.contains i = true → o.outcome = .ok (some (.pubcomp i))) :
    C10.relAnswered g o = true := by
  unfold C10.relAnswered
  split
  · rfl
  · split
    · rename_i i r hop
      split
      · rename_i hk
        rw [Bool.and_eq_true, Bool.and_eq_true] at hk
        rw [hrel i r hop hk.1.1]
        exact beq_self_eq_true _
      · rfl
    · rfl

theorem C10_relAnswered_ok (h : Step l g o l' g') : C10.relAnswered g o = true := by
  obtain ⟨sop, rfl⟩ := h.sop
  refine C10_relAnswered_of fun i r hop hk => ?_
  rw [sstepObs_op] at hop
  subst hop
  exact pubrel_known_answer h.pre.g0 r hk

/-- an acknowledgement the wire view did not expect finds nothing under its id -/
theorem unsolicited_step (h : B1 l g) {sop : SOp} {i : Nat} (hu : unsolicitedAck g sop = some i) :
    ∃ p, sop = .inc p ∧ handleIncoming l.st p = (l.st.pushEv (.incoming p), .err (.unsolicited i)) := by
  revert hu
  fun_cases unsolicitedAck g sop <;> intro hu <;> cases hu
  · exact ⟨_, rfl, handlePuback_unsol (s := l.st.pushEv _) (h.g1.unacked.slot_empty ‹_›)⟩
  · exact ⟨_, rfl, handlePubrec_unsol (s := l.st.pushEv _) _ (h.g1.unacked.slot_empty ‹_›)⟩
  · rename_i hin
    refine ⟨_, rfl, handlePubcomp_unsol (s := l.st.pushEv _) ?_⟩
    cases hc : relContains l.st i with
    | false => exact hc
    | true => exact absurd (List.contains_iff_mem.mpr ((h.g0.rels.mem i).mpr hc)) hin

theorem sameMultiset_self (a : List Request) : sameMultiset a a = true := by
  simp [sameMultiset]

theorem C10_unsolicited_ok (h : Step l g o l' g') :
    C10.unsolicitedErr g o = true ∧ C10.unsolicitedKeeps g o = true := by
  obtain ⟨sop, rfl⟩ := h.sop
  unfold C10.unsolicitedErr C10.unsolicitedKeeps
  rw [sstepObs_op]
  cases hu : unsolicitedAck g sop with
  | none => constructor <;> split <;> rfl
  | some i =>
    obtain ⟨p, rfl, hp⟩ := unsolicited_step h.pre hu
    have hout : (sstepObs l.st (.inc p)).outcome = .err (.unsolicited i) := congrArg Prod.snd hp
    have hst : sstepSt l.st (.inc p) = { l.st with events := [] } := by
      show drainEvents (handleIncoming l.st p).1 = _; rw [hp]; rfl
    obtain ⟨v1, v2, v3⟩ := sstepObs_view l.st (.inc p)
    -- the tables, the counter and the collision slot do not see the event queue
    have hcl : cleanRequests { l.st with events := [] } = cleanRequests l.st := rfl
    rw [hout, v1, v2, v3, hst, hcl, h.pre.g0.inf, h.pre.g0.col, h.pre.g0.view, sameMultiset_self]
    exact ⟨beq_self_eq_true _, by simp⟩

theorem C10_checks_ok (h : Step l g o l' g') (d d' : Diag) : C10.checks g d o g' d' = none :=
  firstFail_cons_chk (C10_noPanic_ok h) <| firstFail_cons_chk (C10_order_ok h) <| firstFail_cons_chk (C10_ack_ok h) <|
    firstFail_cons_chk (C10_relAnswered_ok h) <| firstFail_cons_chk (C10_unsolicited_ok h).1 <|
      firstFail_cons_chk (C10_unsolicited_ok h).2 <| firstFail_cons_chk (C10_notify_ok h) rfl

end Client
