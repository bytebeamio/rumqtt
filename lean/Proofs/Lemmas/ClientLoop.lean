/-
Lemmas for the loop-level clauses (CLoop) about one `poll()` of a connected loop (`pollConnected` of
`Model/Client/Loop.lean`) and `readb`. Every branch of `pollConnected` ends in the same tail, `finish`: a
poll is a buffered notification or one branch run up to `finish`.
-/
import Model.Client.Loop
import Model.Client.LoopSpec
namespace Client.Loop
open Client.LoopSpec

theorem loopClean_taken {σ} (ops : StateOps σ) (s : LState σ) : (loopClean ops s).taken = s.taken := rfl
theorem loopClean_net {σ} (ops : StateOps σ) (s : LState σ) : (loopClean ops s).net = none := rfl

@[simp] theorem popEvent_taken {σ} (s : LState σ) (pre : List Obs) : (popEvent s pre).1.taken = s.taken := by
  unfold popEvent; split <;> rfl
@[simp] theorem popEvent_pending {σ} (s : LState σ) (pre : List Obs) : (popEvent s pre).1.pending = s.pending := by
  unfold popEvent; split <;> rfl
@[simp] theorem popEvent_channel {σ} (s : LState σ) (pre : List Obs) : (popEvent s pre).1.channel = s.channel := by
  unfold popEvent; split <;> rfl
@[simp] theorem popEvent_st {σ} (s : LState σ) (pre : List Obs) : (popEvent s pre).1.st = s.st := by
  unfold popEvent; split <;> rfl

theorem popEvent_snd {σ} (s : LState σ) (pre : List Obs) :
    (popEvent s pre).2 = pre ++ (match s.events with
      | e :: _ => [Obs.event e]
      | [] => []) := by
  unfold popEvent; split <;> rename_i h <;> simp only [h, List.append_nil]

/-- the common tail of the three branches of `poll()` once the state machine has run: `clean()` on an
    error, else flush the replies (a failing flush is an error as well) and pop one notification -/
def finish {σ} (ops : StateOps σ) (n : Net) (s1 : LState σ) (err : Option Err) (outs : List Pkt) :
    LState σ × List Obs :=
  match err with
  | some e => failWith ops s1 [] e
  | none => if flushOk n outs then popEvent s1 (outs.map .wire) else failWith ops s1 [] .deser

section
variable {σ : Type} (ops : StateOps σ) {s s1 : LState σ} {n : Net} {err : Option Err} {outs : List Pkt}

/-- the tail as it is written in each branch of `pollConnected` -/
theorem some_finish (n : Net) (s1 : LState σ) (err : Option Err) (outs : List Pkt) :
    (match err with
      | some e => some (failWith ops s1 [] e)
      | none => if flushOk n outs then some (popEvent s1 (outs.map .wire)) else some (failWith ops s1 [] .deser)) =
    some (finish ops n s1 err outs) := by
  cases err with
  | some e => rfl
  | none => exact (apply_ite some ..).symm

theorem finish_ok (herr : err = none) (hfl : flushOk n outs = true) :
    finish ops n s1 err outs = popEvent s1 (outs.map .wire) := by
  unfold finish; rw [herr]; simp only [hfl, if_true]

theorem finish_cases (n : Net) (s1 : LState σ) (err : Option Err) (outs : List Pkt) :
    finish ops n s1 err outs = popEvent s1 (outs.map .wire) ∨
    ∃ e, finish ops n s1 err outs = failWith ops s1 [] e := by
  unfold finish; split
  · exact .inr ⟨_, rfl⟩
  · split
    · exact .inl rfl
    · exact .inr ⟨_, rfl⟩

theorem finish_taken : (finish ops n s1 err outs).1.taken = s1.taken := by
  rcases finish_cases ops n s1 err outs with h | ⟨e, h⟩ <;> rw [h]
  · exact popEvent_taken _ _
  · rfl

theorem finish_live (h : (finish ops n s1 err outs).1.net ≠ none) :
    (finish ops n s1 err outs).1.pending = s1.pending ∧ (finish ops n s1 err outs).1.channel = s1.channel := by
  rcases finish_cases ops n s1 err outs with h' | ⟨e, h'⟩ <;> rw [h'] at h ⊢
  · exact ⟨popEvent_pending _ _, popEvent_channel _ _⟩
  · exact absurd rfl h

theorem finish_error (e : Err) (he : Obs.error e ∈ (finish ops n s1 err outs).2) :
    (finish ops n s1 err outs).1.net = none ∧ (finish ops n s1 err outs).1.channel = [] ∧
      (finish ops n s1 err outs).1.timer.connected = false := by
  rcases finish_cases ops n s1 err outs with h | ⟨e', h⟩ <;> rw [h] at he ⊢
  · rw [popEvent_snd] at he
    rcases List.mem_append.mp he with he | he
    · simp at he
    · split at he <;> simp at he
  · exact ⟨rfl, rfl, rfl⟩

/-! The equations name the state `s1` a branch hands to `finish` only through what the theorems below
need of it. -/

theorem poll_none (b : Branch) (hn : s.net = none) : pollConnected ops s b = none := by
  unfold pollConnected; rw [hn]

theorem poll_net (hn : s.net = some n) (he : s.events = []) (hr : netReady n = true) :
    ∃ s1, pollConnected ops s .net =
        some (finish ops n s1 (readb ops n s.st).err (readb ops n s.st).replies) ∧
      s1.events = (readb ops n s.st).events := by
  unfold pollConnected; simp only [hn, he, hr]
  exact ⟨_, some_finish ops n _ _ _, rfl⟩

theorem selectEnabled_cons {q : Req} {ps : List Req} (hp : s.pending = q :: ps) :
    selectEnabled ops s = (isReplay q || gateOpen ops s.st) := by
  unfold selectEnabled; rw [hp]

theorem selectEnabled_nil (hp : s.pending = []) : selectEnabled ops s = gateOpen ops s.st := by
  unfold selectEnabled; rw [hp]

theorem gateOpen_iff (st : σ) :
    gateOpen ops st = true ↔ ops.inflight st < ops.maxInflight st ∧ ops.collision st = false := by
  rw [gateOpen, Bool.and_eq_true, decide_eq_true_eq, Bool.not_eq_true']

theorem poll_req_pending {q : Req} {ps : List Req} (hn : s.net = some n) (he : s.events = [])
    (hp : s.pending = q :: ps) (hsel : selectEnabled ops s = true) :
    ∃ s1 err outs, pollConnected ops s .req = some (finish ops n s1 err outs) ∧
      s1.taken = s.taken ++ [(true, q)] ∧ s1.pending = ps ∧ s1.channel = s.channel := by
  unfold pollConnected; simp only [hn, he, hsel]; rw [hp]
  exact ⟨_, _, _, some_finish ops n _ _ _, rfl, rfl, rfl⟩

theorem poll_req_channel {q : Req} {cs : List Req} (hn : s.net = some n) (he : s.events = [])
    (hp : s.pending = []) (hc : s.channel = q :: cs) (hsel : selectEnabled ops s = true) :
    ∃ s1 err outs, pollConnected ops s .req = some (finish ops n s1 err outs) ∧
      s1.taken = s.taken ++ [(false, q)] := by
  unfold pollConnected; simp only [hn, he, hsel]; rw [hp, hc]
  exact ⟨_, _, _, some_finish ops n _ _ _, rfl⟩

theorem poll_req_none (he : s.events = []) (h : selectEnabled ops s = false) :
    pollConnected ops s .req = none := by
  unfold pollConnected
  cases s.net with
  | none => rfl
  | some n => simp only [he, h]; rfl

/-- what the branch taken by one `poll()` hands to the state machine and leaves in `pending` -/
inductive StepKind (s s1 : LState σ) : Prop where
  | quiet (ht : s1.taken = s.taken) (hp : s1.pending = s.pending)
  | fromPending (q : Req) (ps : List Req) (hq : s.pending = q :: ps)
      (hr : isReplay q = true ∨ gateOpen ops s.st = true)
      (ht : s1.taken = s.taken ++ [(true, q)]) (hp : s1.pending = ps)
  | fromChannel (q : Req) (cs : List Req) (hq : s.channel = q :: cs) (he : s.pending = [])
      (hg : gateOpen ops s.st = true)
      (ht : s1.taken = s.taken ++ [(false, q)]) (hp : s1.pending = [])

theorem poll_shape {b : Branch} {r : LState σ × List Obs} (h : pollConnected ops s b = some r) :
    (∃ e es, r = ({ s with events := es }, [.event e])) ∨
    ∃ n s1 err outs, r = finish ops n s1 err outs ∧ StepKind ops s s1 := by
  unfold pollConnected at h
  split at h
  · cases h
  · rename_i n hn
    split at h
    · cases h; exact .inl ⟨_, _, rfl⟩
    · refine .inr ?_
      cases b with
      | net =>
        simp only at h
        split at h
        · cases h
        · cases (some_finish ops n _ _ _).symm.trans h
          exact ⟨n, _, _, _, rfl, .quiet rfl rfl⟩
      | req =>
        simp only at h
        split at h
        · cases h
        · rename_i hsel
          rw [Bool.not_eq_true, Bool.not_eq_false'] at hsel
          split at h
          · rename_i q ps hp
            cases (some_finish ops n _ _ _).symm.trans h
            rw [selectEnabled_cons ops hp, Bool.or_eq_true] at hsel
            exact ⟨n, _, _, _, rfl, .fromPending q ps hp hsel rfl rfl⟩
          · rename_i hp
            rw [selectEnabled_nil ops hp] at hsel
            split at h
            · cases h
            · rename_i q cs hc
              cases (some_finish ops n _ _ _).symm.trans h
              exact ⟨n, _, _, _, rfl, .fromChannel q cs hc hp hsel rfl hp⟩
      | timer =>
        simp only at h
        split at h
        · cases h
        · split at h
          · cases h; exact ⟨n, _, some _, [], rfl, .quiet rfl rfl⟩
          · split at h
            · cases (some_finish ops n _ none _).symm.trans h
              exact ⟨n, _, _, _, rfl, .quiet rfl rfl⟩
            · cases h; exact ⟨n, _, some _, [], rfl, .quiet rfl rfl⟩

theorem poll_kind {b : Branch} {r : LState σ × List Obs} (h : pollConnected ops s b = some r) :
    ∃ s1, StepKind ops s s1 ∧ r.1.taken = s1.taken ∧ (r.1.net ≠ none → r.1.pending = s1.pending) := by
  rcases poll_shape ops h with ⟨e, es, rfl⟩ | ⟨n, s1, err, outs, rfl, k⟩
  · exact ⟨s, .quiet rfl rfl, rfl, fun _ => rfl⟩
  · exact ⟨s1, k, finish_taken ops, fun hn => (finish_live ops hn).1⟩

end

theorem poll_error_clean {σ} (ops : StateOps σ) (s : LState σ) (b : Branch) (r : LState σ × List Obs)
    (h : pollConnected ops s b = some r) (e : Err) (he : Obs.error e ∈ r.2) :
    r.1.net = none ∧ r.1.channel = [] ∧ r.1.timer.connected = false := by
  rcases poll_shape ops h with ⟨e', es, rfl⟩ | ⟨n, s1, err, outs, rfl, _⟩
  · simp at he
  · exact finish_error ops e he

/-- `polls_taken` counted from any point of the run: `t0` taken so far, `P` pending while the connection is up -/
theorem polls_taken_gen {σ} (ops : StateOps σ) (bs : List Branch) :
    ∀ (s : LState σ) (t0 : List (Bool × Req)) (P : List Req), s.taken = t0 → (s.net ≠ none → s.pending = P) →
    ∃ m chans, (polls ops s bs).taken =
        t0 ++ (P.take m).map (fun q => (true, q)) ++ chans.map (fun q => (false, q)) ∧
      (chans ≠ [] → P.length ≤ m) ∧
      ((polls ops s bs).net ≠ none → (polls ops s bs).pending = P.drop m) := by
  induction bs with
  | nil => intro s t0 P ht hP; exact ⟨0, [], by simp [polls, ht], fun h => absurd rfl h, hP⟩
  | cons b bs ih =>
    intro s t0 P ht hP
    rw [polls]
    cases hp : pollConnected ops s b with
    | none => exact ih s t0 P ht hP
    | some r =>
      cases hP fun hn => by rw [poll_none ops b hn] at hp; cases hp
      subst ht
      obtain ⟨s1, k, ht, hpend⟩ := poll_kind ops hp
      -- the rest of the run, counted from what the branch left behind
      obtain ⟨m, chans, h1, h2, h3⟩ := ih r.1 s1.taken s1.pending ht hpend
      cases k with
      | quiet ht1 hp1 => rw [ht1, hp1] at h1; rw [hp1] at h2 h3; exact ⟨m, chans, h1, h2, h3⟩
      | fromPending q ps hq _ ht1 hp1 =>
        rw [ht1, hp1] at h1; rw [hp1] at h2 h3
        refine ⟨m + 1, chans, ?_, fun h => ?_, fun h => ?_⟩
        · rw [h1, hq]; simp
        · rw [hq]; exact Nat.succ_le_succ (h2 h)
        · rw [h3 h, hq]; rfl
      | fromChannel q cs hq he hg ht1 hp1 =>
        rw [ht1, hp1] at h1; rw [hp1] at h2 h3
        refine ⟨m, q :: chans, ?_, fun _ => ?_, fun h => ?_⟩
        · rw [h1, he]; simp
        · rw [he]; exact Nat.zero_le _
        · rw [h3 h, he]

theorem polls_taken {σ} (ops : StateOps σ) (bs : List Branch) (s : LState σ) :
    ∃ m chans, (polls ops s bs).taken =
        s.taken ++ (s.pending.take m).map (fun q => (true, q)) ++ chans.map (fun q => (false, q)) ∧
      (chans ≠ [] → s.pending.length ≤ m) ∧
      ((polls ops s bs).net ≠ none → (polls ops s bs).pending = s.pending.drop m) :=
  polls_taken_gen ops bs s _ _ rfl fun _ => rfl

theorem established_fields {σ} (ops : StateOps σ) (s : LState σ) (sp : Bool) (ska : Option Nat) (n : Net) :
    (established ops s sp ska n).1.pending = (if sp then s.pending else []) ∧
    (established ops s sp ska n).1.channel = s.channel ∧ (established ops s sp ska n).1.taken = s.taken := by
  unfold established
  cases s.ver
  · exact ⟨rfl, rfl, rfl⟩
  · exact ⟨popEvent_pending _ _, popEvent_channel _ _, popEvent_taken _ _⟩

theorem established_polls {σ} (ops : StateOps σ) (s : LState σ) (sp : Bool) (ska : Option Nat) (n : Net)
    (bs : List Branch) :
    (established ops s sp ska n).1.pending = (if sp then s.pending else []) ∧
    (established ops s sp ska n).1.channel = s.channel ∧
    ∃ m chans, (polls ops (established ops s sp ska n).1 bs).taken =
        s.taken ++ ((if sp then s.pending else []).take m).map (fun q => (true, q)) ++
          chans.map (fun q => (false, q)) ∧
      (chans ≠ [] → (if sp then s.pending else []).length ≤ m) := by
  obtain ⟨hp, hc, ht⟩ := established_fields ops s sp ska n
  obtain ⟨m, chans, h1, h2, _⟩ := polls_taken ops bs (established ops s sp ska n).1
  rw [hp, ht] at h1; rw [hp] at h2
  exact ⟨hp, hc, m, chans, h1, h2⟩

theorem readbLoop_spec {σ} (ops : StateOps σ) (n : Net) (hc : n.peerClosed = false) :
    ∀ (j fuel count : Nat) (st : σ) (rx : List Pkt) (evs : List Event) (outs : List Pkt) (f : Fold σ),
    count + j = maxReadbCount → 1 ≤ j → j ≤ fuel →
    foldIn ops st (rx.take j) = some f →
    readbLoop ops n fuel count st rx evs outs =
      ⟨f.st, evs ++ f.events, outs ++ f.replies, rx.drop j, none⟩ := by
  intro j
  induction j with
  | zero => intro fuel count st rx evs outs f _ h1; omega
  | succ j ih =>
    intro fuel count st rx evs outs f hcj h1 hf hfold
    cases fuel with
    | zero => omega
    | succ fuel =>
      cases rx with
      | nil =>
        cases hfold
        simp only [readbLoop, hc, List.append_nil]; rfl
      | cons p rest =>
        simp only [List.take_succ_cons, foldIn] at hfold
        split at hfold
        · cases hfold
        · rename_i herr
          split at hfold
          · cases hfold
          · rename_i f' hf'
            cases hfold
            simp only [readbLoop, herr, List.drop_succ_cons]
            by_cases hlim : count + 1 ≥ maxReadbCount
            · -- the counter stops the loop: this was the last slot (`j = 0`)
              have hj : j = 0 := by omega
              subst hj
              cases hf'
              simp only [hlim, if_true, List.append_nil, List.drop_zero]
            · rw [if_neg hlim, ih fuel (count + 1) _ rest _ _ f' (by omega) (by omega) (by omega) hf',
                List.append_assoc, List.append_assoc]

theorem readbLoop_rest {σ} (ops : StateOps σ) (n : Net) :
    ∀ (fuel count : Nat) (st : σ) (rx : List Pkt) (evs : List Event) (outs : List Pkt),
    count < maxReadbCount →
    rx.length ≤ (readbLoop ops n fuel count st rx evs outs).rest.length + (maxReadbCount - count) := by
  intro fuel
  induction fuel with
  | zero => intro count st rx evs outs _; simp [readbLoop]
  | succ fuel ih =>
    intro count st rx evs outs h1
    cases rx with
    | nil => simp [readbLoop]
    | cons p rest =>
      simp only [readbLoop]
      split
      · simp only [List.length_cons]; omega
      · by_cases hlim : count + 1 ≥ maxReadbCount
        · simp only [hlim, if_true, List.length_cons]; omega
        · simp only [hlim, if_false]
          have := ih (count + 1) (ops.handleIncoming st p).st rest
            (evs ++ (ops.handleIncoming st p).events) (outs ++ (ops.handleIncoming st p).out.toList) (by omega)
          simp only [List.length_cons]; omega

end Client.Loop
