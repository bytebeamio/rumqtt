/-
MQTT 3.1.1 round trip. `write` produces a frame `e : Enc` (header byte, claimed remaining length, body);
`e.IsFrame` makes its bytes split back into these parts; `PartsOk k p e`: `e` is what `encParts` gives for `p`,
`size` agrees, and the frame reads back as `p`. Each packet kind has its `…_ok : PartsOk …` from the round trip of
its body.
-/
import Model.Codec.V4
import Proofs.Lemmas.Codec.Wire

namespace Codec.V4
open Codec

/-- the bytes `write` produces from the parts: header byte, remaining length, body -/
def Enc.bytes (e : Enc) : Bytes := u8 e.byte1 :: (encVarintLoop e.len ++ e.body)

structure Enc.IsFrame (e : Enc) : Prop where
  len : e.body.length = e.len
  lim : e.len ≤ remainingLimit
  byte : e.byte1 < 256

theorem Enc.IsFrame.length {e : Enc} (h : e.IsFrame) : e.bytes.length = sizeOfLen e.len := by
  simp only [Enc.bytes, List.length_cons, List.length_append, encVarintLoop_length _ h.lim, h.len,
    sizeOfLen]
  omega

theorem Enc.IsFrame.split {e : Enc} (h : e.IsFrame) (max : Nat) (r : Bytes) (hm : e.len ≤ max) :
    splitFrame max (e.bytes ++ r) = .ok ⟨e.byte1, e.len, e.body, r, sizeOfLen e.len⟩ := by
  have := splitFrame_frame max e.byte1 e.body r h.byte (h.len ▸ h.lim) (h.len ▸ hm)
  rwa [h.len] at this

theorem Enc.IsFrame.roundTrips {e : Enc} (h : e.IsFrame) {encode : Except Err Bytes}
    {ret : Except Err Nat} {size : Nat} {decodeFrame : Split → DecodeResult} {p : Packet}
    (henc : encode = .ok e.bytes) (hret : ret = .ok e.bytes.length) (hsz : size = sizeOfLen e.len)
    (hdec : ∀ r c, decodeFrame ⟨e.byte1, e.len, e.body, r, c⟩ = .packet p r) :
    RoundTrips encode ret size
      (fun max bs => match splitFrame max bs with
        | .error er => .error er
        | .ok s => decodeFrame s) p :=
  ⟨e.bytes, henc, hret, h.length.trans hsz.symm, fun max r hm => by
    simp only [h.split max r (by rw [h.length, sizeOfLen] at hm; omega)]
    exact hdec r _⟩

structure PartsOk (k : Copy) (p : Packet) (e : Enc) : Prop extends Enc.IsFrame e where
  enc : encParts k p = .ok e
  sz : size k p = sizeOfLen e.len
  dec : ∀ r c, decodeFrame k ⟨e.byte1, e.len, e.body, r, c⟩ = .packet p r

theorem encode_eq {k p e} (h : encParts k p = .ok e) :
    encode k p = if e.len > remainingLimit then .error .malformed else .ok e.bytes := by
  by_cases hl : e.len > remainingLimit <;>
    simp only [encode, h, frame, encVarint, Enc.bytes, hl, if_true, if_false]

theorem encode_of_parts {k p e} (h : encParts k p = .ok e) (hl : e.len ≤ remainingLimit) :
    encode k p = .ok e.bytes := by
  rw [encode_eq h, if_neg (Nat.not_lt.mpr hl)]

theorem PartsOk.roundTrips {k p e} (h : PartsOk k p e) :
    RoundTrips (encode k p) (writeReturn k p) (size k p) (decode k) p :=
  h.toIsFrame.roundTrips (encode_of_parts h.enc h.lim)
    (by simp only [V4.writeReturn, h.enc, encVarint_of_le _ h.lim, h.toIsFrame.length, sizeOfLen,
      encVarintLoop_length _ h.lim])
    h.sz h.dec

theorem PartsOk.of_body {k p e} (ty : Nat) (hty : e.byte1 / 16 = ty) (hlt : 0 < ty ∧ ty < 15)
    (enc : encParts k p = .ok e) (len : e.body.length = e.len) (pos : e.len ≠ 0)
    (lim : e.len ≤ remainingLimit) (sz : size k p = sizeOfLen e.len)
    (dec : decBody k ty e.byte1 e.len e.body = .ok p) : PartsOk k p e where
  len := len
  lim := lim
  byte := by omega
  enc := enc
  sz := sz
  dec r c := by
    have h0 : ty ≠ 0 := by omega
    have h15 : ty ≠ 15 := by omega
    simp only [decodeFrame, hty, h0, h15, or_self, if_false, pos, dec]

theorem strOk_len {u s} (h : strOk u s = true) : s.length ≤ 65535 := by
  simp [strOk] at h; exact h.1

theorem strOk_utf8 {u s} (h : strOk u s = true) : u = true → validUtf8 s = true := by
  simp [strOk] at h; intro hu; subst hu; simpa using h.2

theorem decStr16_of_strOk {u s} (r : Bytes) (h : strOk u s = true) :
    decStr16 u (encBytes16 s ++ r) = .ok (s, r) :=
  decStr16_enc u s r (strOk_len h) (strOk_utf8 h)

theorem decAckPkid_enc (strict : Bool) (pkid : Nat) (h : pkid < 65536) :
    decAckPkid strict 2 (encU16 pkid) = .ok pkid := by
  have hd := decU16_enc pkid [] h
  rw [List.append_nil] at hd
  simp [decAckPkid, hd]

theorem ack_parts {k p} (b1 pkid ty : Nat) (hty : b1 / 16 = ty) (hlt : 0 < ty ∧ ty < 15)
    (enc : encParts k p = .ok (encAck b1 pkid)) (sz : size k p = sizeOfLen 2)
    (dec : decBody k ty b1 2 (encU16 pkid) = .ok p) : PartsOk k p (encAck b1 pkid) :=
  .of_body ty hty hlt enc rfl (show 2 ≠ 0 by decide) (show 2 ≤ remainingLimit by decide) sz dec

theorem puback_ok (k : Copy) (pkid : Nat) (h : pkid < 65536) :
    PartsOk k (.puback pkid .Success none) (encAck 0x40 pkid) :=
  ack_parts _ _ 4 rfl (by decide) rfl rfl (by simp only [decBody, decAckPkid_enc _ _ h])

theorem pubrec_ok (k : Copy) (pkid : Nat) (h : pkid < 65536) :
    PartsOk k (.pubrec pkid .Success none) (encAck 0x50 pkid) :=
  ack_parts _ _ 5 rfl (by decide) rfl rfl (by simp only [decBody, decAckPkid_enc _ _ h])

theorem pubrel_ok (k : Copy) (pkid : Nat) (h : pkid < 65536) :
    PartsOk k (.pubrel pkid .Success none) (encAck 0x62 pkid) :=
  ack_parts _ _ 6 rfl (by decide) rfl rfl (by simp only [decBody, decAckPkid_enc _ _ h])

theorem pubcomp_ok (k : Copy) (pkid : Nat) (h : pkid < 65536) :
    PartsOk k (.pubcomp pkid .Success none) (encAck 0x70 pkid) :=
  ack_parts _ _ 7 rfl (by decide) rfl rfl (by simp only [decBody, decAckPkid_enc _ _ h])

theorem unsuback_ok (k : Copy) (pkid : Nat) (h : pkid < 65536) :
    PartsOk k (.unsuback pkid none []) (encAck 0xB0 pkid) := by
  have hd := decU16_enc pkid [] h
  rw [List.append_nil] at hd
  exact ack_parts _ _ 11 rfl (by decide) rfl rfl (by simp [decBody, decUnsubAck, hd])

theorem fixed_parts {k p} (b1 : Nat) (hb : b1 < 256)
    (enc : encParts k p = .ok ⟨b1, 0, []⟩) (sz : size k p = 2)
    (dec : ∀ r c, decodeFrame k ⟨b1, 0, [], r, c⟩ = .packet p r) : PartsOk k p ⟨b1, 0, []⟩ where
  len := rfl
  lim := show 0 ≤ remainingLimit by decide
  byte := hb
  enc := enc
  sz := sz
  dec := dec

theorem pingreq_ok (k : Copy) : PartsOk k .pingreq ⟨0xC0, 0, []⟩ :=
  fixed_parts 0xC0 (by decide) rfl rfl (fun r c => by simp [decodeFrame])

theorem pingresp_ok (k : Copy) : PartsOk k .pingresp ⟨0xD0, 0, []⟩ :=
  fixed_parts 0xD0 (by decide) rfl rfl (fun r c => by simp [decodeFrame])

theorem disconnect_ok (k : Copy) :
    PartsOk k (.disconnect .NormalDisconnection none) ⟨0xE0, 0, []⟩ :=
  fixed_parts 0xE0 (by decide) rfl rfl (fun r c => by simp [decodeFrame])

theorem connCode_rt (k : Copy) (code : ConnCode) (c : Nat)
    (h : connCodeByte k code = some c) : c < 256 ∧ connCodeOfByte k c = some code := by
  cases k <;> cases code <;> cases h <;> exact ⟨by decide, rfl⟩

theorem connack_ok (k : Copy) (sp : Bool) (code : ConnCode) (c : Nat)
    (h : connCodeByte k code = some c) :
    PartsOk k (.connack sp code none) ⟨0x20, 2, [u8 (boolBit sp), u8 c]⟩ := by
  obtain ⟨hc, hdec⟩ := connCode_rt k code c h
  refine .of_body 2 (show 32 / 16 = 2 by decide) (by decide) (by simp only [encParts, encConnAck, h]) rfl
    (show 2 ≠ 0 by decide) (show 2 ≤ remainingLimit by decide) rfl ?_
  have hsp : (boolBit sp % 256 % 2 = 1) = (sp = true) := by cases sp <;> decide
  simp only [decBody, decConnAck, decU8, u8_toNat, Nat.mod_eq_of_lt hc, hdec, hsp, Bool.decide_eq_true]

theorem publishByte1_fields (dup : Bool) (qos : QoS) (retain : Bool) :
    publishByte1 dup qos retain / 16 = 3 ∧
    qosOfNat (publishByte1 dup qos retain / 2 % 4) = some qos ∧
    (publishByte1 dup qos retain / 8 % 2 ≠ 0) = (dup = true) ∧
    (publishByte1 dup qos retain % 2 ≠ 0) = (retain = true) := by
  revert dup retain
  cases qos <;> decide +kernel

theorem publishLen_eq (k : Copy) (qos : QoS) (topic : Bytes) (pkid : Nat) (payload : Bytes)
    (hq : qos = .q0 ↔ pkid = 0) :
    publishLen k qos topic pkid payload
      = 2 + topic.length + (if qos ≠ .q0 ∧ pkid ≠ 0 then 2 else 0) + payload.length := by
  by_cases h : qos = .q0
  · cases k <;> simp [publishLen, h]
  · cases k <;> simp [publishLen, h, mt hq.mpr h] <;> omega

theorem pkid_length (qos : QoS) (pkid : Nat) (hq : qos = .q0 ↔ pkid = 0) :
    (if qos ≠ .q0 then encU16 pkid else []).length = if qos ≠ .q0 ∧ pkid ≠ 0 then 2 else 0 := by
  by_cases h : qos = .q0
  · simp [h]
  · simp [h, mt hq.mpr h]

theorem publish_ok (k : Copy) (dup : Bool) (qos : QoS) (retain : Bool) (topic : Bytes) (pkid : Nat)
    (payload : Bytes) (hp : pkid < 65536) (hq : qos = .q0 ↔ pkid = 0)
    (ht : strOk (k == .client) topic = true)
    (hl : publishLen k qos topic pkid payload ≤ remainingLimit) :
    PartsOk k (.publish dup qos retain topic pkid payload none)
      ⟨publishByte1 dup qos retain, publishLen k qos topic pkid payload,
       encBytes16 topic ++ (if qos ≠ .q0 then encU16 pkid else []) ++ payload⟩ := by
  obtain ⟨hty, hqq, hdup, hret⟩ := publishByte1_fields dup qos retain
  have hne : ¬ (qos ≠ .q0 ∧ pkid = 0) := fun ⟨a, b⟩ => a (hq.mpr b)
  have hlen := pkid_length qos pkid hq
  refine .of_body 3 hty (by decide) (by simp [encParts, encPublish, hne]) ?_ ?_ hl rfl ?_
  · simp only [List.length_append, encBytes16_length, hlen, publishLen_eq k qos topic pkid payload hq]
  · show publishLen k qos topic pkid payload ≠ 0
    rw [publishLen_eq k qos topic pkid payload hq]; omega
  · simp only [decBody, decPublish, hqq, List.append_assoc, decStr16_of_strOk _ ht, hdup, hret]
    cases qos with
    | q0 => simp [hq.mp rfl]
    | q1 | q2 =>
      have hp0 : pkid ≠ 0 := fun h => by cases hq.mpr h
      simp [decU16_enc _ _ hp, hp0]

/-- the condition `wf` writes out for each filter of a SUBSCRIBE -/
def filterOk (f : Filter) : Bool :=
  strOk true f.path && !f.nolocal && !f.preserveRetain && f.rule == .OnEverySubscribe

theorem wf_subscribe_eq (k : Copy) (pkid : Nat) (props : Option Props) (fs : List Filter) :
    wf k (.subscribe pkid props fs) = (decide (pkid < 65536) && props.isNone && !fs.isEmpty
      && fs.all filterOk && decide (subscribeLen fs ≤ remainingLimit)) := rfl

theorem encFilters_length (fs : List Filter) :
    (encFilters fs).length = (fs.map filterLen).sum :=
  encAll_length encFilter encFilters filterLen rfl (fun _ _ => rfl)
    (fun f => by simp [encFilter, filterLen]) fs

theorem decFilter_enc (f : Filter) (r : Bytes) (h : filterOk f = true) :
    decFilter (encFilter f ++ r) = .ok (f, r) := by
  obtain ⟨path, qos, nl, pr, rule⟩ := f
  simp [filterOk] at h
  obtain ⟨⟨⟨h1, h2⟩, h3⟩, h4⟩ := h
  subst h2 h3 h4
  have hq : qosOfNat (qos.toNat % 256 % 4) = some qos := by cases qos <;> decide
  simp only [decFilter, encFilter, List.append_assoc, decStr16_of_strOk _ h1, List.singleton_append,
    decU8, u8_toNat, hq]

theorem decFilters_enc (fs : List Filter) (h : fs.all filterOk = true) :
    decFilters (encFilters fs).length (encFilters fs) = .ok fs :=
  readAll_enc decFilter encFilter encFilters decFilters rfl (fun _ _ => rfl)
    (fun fuel => by cases fuel <;> rfl)
    (fun _ _ _ _ _ h1 h2 h3 => by simp only [decFilters, h1, h2, h3, Bool.false_eq_true, if_false])
    fs (fun f hf => ⟨by simp [encFilter], fun r => decFilter_enc f r (List.all_eq_true.mp h f hf)⟩)
    _ (Nat.le_refl _)

theorem subscribe_ok (k : Copy) (pkid : Nat) (fs : List Filter) (hp : pkid < 65536)
    (hne : fs ≠ []) (hfs : fs.all filterOk = true) (hl : subscribeLen fs ≤ remainingLimit) :
    PartsOk k (.subscribe pkid none fs) (encSubscribe pkid fs) := by
  refine .of_body 8 (show 0x82 / 16 = 8 by decide) (by decide) rfl ?_ ?_ hl rfl ?_
  · simp [encSubscribe, subscribeLen, encFilters_length]
  · simp [encSubscribe, subscribeLen]
  · have hemp : fs.isEmpty = false := by cases fs <;> simp_all
    simp [decBody, encSubscribe, decSubscribe, decU16_enc _ _ hp, decFilters_enc fs hfs, hemp]

/-- the condition `wf` writes out for each code of a SUBACK -/
def codeOk : SubCode → Bool
  | .Success _ => true
  | .Failure => true
  | _ => false

theorem wf_suback_eq (k : Copy) (pkid : Nat) (props : Option Props) (cs : List SubCode) :
    wf k (.suback pkid props cs) = (decide (pkid < 65536) && props.isNone && !cs.isEmpty
      && cs.all codeOk && decide (2 + cs.length ≤ remainingLimit)) := rfl

theorem codeOk_byte (k : Copy) (c : SubCode) (h : codeOk c = true) :
    ∃ b, subCodeByte k c = some b ∧ b < 256 ∧ subCodeOfByte b = some c := by
  cases c <;> simp [codeOk] at h
  · rename_i q; exact ⟨q.toNat, rfl, by cases q <;> decide, by cases q <;> rfl⟩
  · exact ⟨0x80, rfl, by decide, rfl⟩

theorem decCodes_enc (k : Copy) (cs : List SubCode) (h : cs.all codeOk = true) :
    ∃ bs, encCodes k cs = some bs ∧ bs.length = cs.length ∧ decCodes bs = .ok cs :=
  readCodes_enc (subCodeByte k) subCodeOfByte (encCodes k) decCodes rfl
    (fun _ _ _ _ h1 h2 => by simp only [encCodes, h1, h2]) rfl
    (fun _ _ _ _ h1 h2 => by simp only [decCodes, h1, h2])
    cs (fun c hc => codeOk_byte k c (List.all_eq_true.mp h c hc))

theorem suback_ok (k : Copy) (pkid : Nat) (cs : List SubCode) (hp : pkid < 65536)
    (hne : cs ≠ []) (hcs : cs.all codeOk = true) (hl : 2 + cs.length ≤ remainingLimit) :
    ∃ e, PartsOk k (.suback pkid none cs) e := by
  obtain ⟨bs, h1, h2, h3⟩ := decCodes_enc k cs hcs
  refine ⟨⟨0x90, 2 + cs.length, encU16 pkid ++ bs⟩, .of_body 9 (show 0x90 / 16 = 9 by decide)
    (by decide) (by simp [encParts, encSubAck, h1]) (by simp [h2]) (show 2 + cs.length ≠ 0 by omega) hl rfl ?_⟩
  have hbs : bs.isEmpty = false := by
    cases bs with
    | nil => cases cs <;> simp_all
    | cons _ _ => rfl
  simp [decBody, decSubAck, decU16_enc _ _ hp, hbs, h3]

theorem encTopics_length (ts : List Bytes) :
    (encTopics ts).length = (ts.map fun t => t.length + 2).sum :=
  encAll_length encBytes16 encTopics _ rfl (fun _ _ => rfl)
    (fun t => by rw [encBytes16_length, Nat.add_comm]) ts

theorem decTopics_enc (ts : List Bytes) (h : ts.all (strOk true) = true) :
    decTopics (encTopics ts).length (encTopics ts) = .ok ts :=
  readAll_enc (decStr16 true) encBytes16 encTopics decTopics rfl (fun _ _ => rfl)
    (fun fuel => by cases fuel <;> rfl)
    (fun _ _ _ _ _ h1 h2 h3 => by simp only [decTopics, h1, h2, h3, Bool.false_eq_true, if_false])
    ts (fun t ht => ⟨by simp [encBytes16, encU16], fun r => decStr16_of_strOk r (List.all_eq_true.mp h t ht)⟩)
    _ (Nat.le_refl _)

theorem unsubscribe_ok (k : Copy) (pkid : Nat) (ts : List Bytes) (hp : pkid < 65536)
    (hts : ts.all (strOk true) = true) (hl : unsubscribeLen ts ≤ remainingLimit) :
    PartsOk k (.unsubscribe pkid none ts) (encUnsubscribe pkid ts) := by
  refine .of_body 10 (show 0xA2 / 16 = 10 by decide) (by decide) rfl ?_ ?_ hl rfl ?_
  · simp [encUnsubscribe, unsubscribeLen, encTopics_length]
  · simp [encUnsubscribe, unsubscribeLen]
  · simp [decBody, encUnsubscribe, decUnsubscribe, decU16_enc _ _ hp, decTopics_enc ts hts]

/-- what `decWill` looks at in a flags byte `f`, for the will that was written -/
def WillBits (f : Nat) : Option Will → Prop
  | none => f / 4 % 2 = 0 ∧ f / 8 % 8 = 0
  | some w => f / 4 % 2 = 1 ∧ f / 8 % 4 = w.qos.toNat ∧ (f / 32 % 2 ≠ 0) = (w.retain = true)

/-- what `decLogin` looks at in a flags byte `f`, for the login that was written -/
def LoginBits (f : Nat) : Option Login → Prop
  | none => f / 128 % 2 = 0 ∧ f / 64 % 2 = 0
  | some l => (f / 128 % 2 = 0) = (l.username.isEmpty = true) ∧
      (f / 64 % 2 = 0) = (l.password.isEmpty = true)

theorem qos_toNat_lt (q : QoS) : q.toNat < 3 := by cases q <;> decide

/-- the CONNECT flags byte from what it carries: clean session, the will (present, QoS, retain),
    user name empty, password empty -/
def flagsByte (clean wl : Bool) (q : Nat) (ρ ue pe : Bool) : Nat :=
  (if clean then 2 else 0) + (if wl then 4 + q * 8 + (if ρ then 32 else 0) else 0)
    + ((if ue then 0 else 128) + (if pe then 0 else 64))

/-- finite: 3 · 2⁵ bytes -/
theorem flagsByte_fields : ∀ q, q < 3 → ∀ clean wl ρ ue pe : Bool,
    flagsByte clean wl q ρ ue pe < 256 ∧
    (flagsByte clean wl q ρ ue pe / 2 % 2 ≠ 0) = (clean = true) ∧
    flagsByte clean wl q ρ ue pe / 4 % 2 = (if wl then 1 else 0) ∧
    (wl = true → flagsByte clean wl q ρ ue pe / 8 % 4 = q ∧
      (flagsByte clean wl q ρ ue pe / 32 % 2 ≠ 0) = (ρ = true)) ∧
    (wl = false → flagsByte clean wl q ρ ue pe / 8 % 8 = 0) ∧
    (flagsByte clean wl q ρ ue pe / 128 % 2 = 0) = (ue = true) ∧
    (flagsByte clean wl q ρ ue pe / 64 % 2 = 0) = (pe = true) := by
  decide +kernel

theorem connectFlags_eq (clean : Bool) (will : Option Will) (login : Option Login) :
    connectFlags clean will login = flagsByte clean will.isSome (will.elim 0 (·.qos.toNat))
      (will.elim false (·.retain)) (login.elim true (·.username.isEmpty))
      (login.elim true (·.password.isEmpty)) := by
  cases will <;> cases login <;> rfl

theorem connectFlags_bits (clean : Bool) (will : Option Will) (login : Option Login) :
    connectFlags clean will login < 256 ∧
    (connectFlags clean will login / 2 % 2 ≠ 0) = (clean = true) ∧
    WillBits (connectFlags clean will login) will ∧
    LoginBits (connectFlags clean will login) login := by
  have hq : will.elim 0 (·.qos.toNat) < 3 := by
    cases will with
    | none => decide
    | some w => exact qos_toNat_lt w.qos
  rw [connectFlags_eq]
  obtain ⟨h0, h1, h2, h3, h4, h5, h6⟩ := flagsByte_fields _ hq clean will.isSome
    (will.elim false (·.retain)) (login.elim true (·.username.isEmpty))
    (login.elim true (·.password.isEmpty))
  refine ⟨h0, h1, ?_, ?_⟩
  · cases will with
    | none => exact ⟨h2, h4 rfl⟩
    | some _ => exact ⟨h2, h3 rfl⟩
  · cases login with
    | none => exact ⟨h5.mpr rfl, h6.mpr rfl⟩
    | some _ => exact ⟨h5, h6⟩

theorem decWill_enc (k : Copy) (f : Nat) (will : Option Will) (r : Bytes) (hf : WillBits f will)
    (hw : optAll (willOk k) will = true) :
    decWill k f (optBytes encWill will ++ r) = .ok (will, r) := by
  cases will with
  | none => simp [decWill, hf.1, hf.2, optBytes]
  | some w =>
    obtain ⟨topic, msg, qos, retain, props⟩ := w
    obtain ⟨h1, h3, h4⟩ := hf
    simp only [optAll, willOk, Bool.and_eq_true, Option.isNone_iff_eq_none] at hw
    obtain ⟨⟨ht, hm⟩, rfl⟩ := hw
    have hqq : qosOfNat qos.toNat = some qos := by cases qos <;> rfl
    simp [decWill, h1, optBytes, encWill, List.append_assoc, decStr16_of_strOk _ ht,
      decBytes16_enc _ _ (strOk_len hm), h3, hqq, h4]

theorem decLogin_enc (f : Nat) (login : Option Login) (r : Bytes) (hf : LoginBits f login)
    (hl : optAll loginOk login = true) :
    decLogin f (optBytes encLogin login ++ r) = .ok (login, r) := by
  cases login with
  | none => simp [decLogin, hf.1, hf.2, optBytes]
  | some l =>
    obtain ⟨user, pass⟩ := l
    obtain ⟨h1, h2⟩ := hf
    simp only [optAll, loginOk, Bool.and_eq_true] at hl
    obtain ⟨⟨hu, hp⟩, hne⟩ := hl
    simp only [decLogin, h1, h2, optBytes, encLogin]
    cases hue : user.isEmpty <;> cases hpe : pass.isEmpty
    · simp [List.append_assoc, decStr16_of_strOk _ hu, decStr16_of_strOk _ hp, hue, hpe]
    · simp [List.isEmpty_iff.mp hpe, decStr16_of_strOk _ hu, hue]
    · simp [List.isEmpty_iff.mp hue, decStr16_of_strOk _ hp, hpe]
    · simp [hue, hpe] at hne

theorem optWill_length (will : Option Will) : (optBytes encWill will).length = optLen willLen will := by
  cases will <;> simp [optBytes, optLen, encWill, willLen]; omega

theorem optLogin_length (login : Option Login) :
    (optBytes encLogin login).length = optLen loginLen login := by
  cases login with
  | none => rfl
  | some l => simp only [optBytes, optLen, encLogin, loginLen]; split <;> split <;> simp <;> omega

theorem connectLen_le (clientId : Bytes) (will : Option Will) (login : Option Login) (k : Copy)
    (hc : strOk true clientId = true) (hw : optAll (willOk k) will = true)
    (hl : optAll loginOk login = true) : connectLen clientId will login ≤ remainingLimit := by
  have h1 := strOk_len hc
  have h2 : optLen willLen will ≤ 2 + 65535 + 2 + 65535 := by
    cases will with
    | none => simp [optLen]
    | some w =>
      simp only [optAll, willOk, Bool.and_eq_true] at hw
      have := strOk_len hw.1.1; have := strOk_len hw.1.2
      simp [optLen, willLen]; omega
  have h3 : optLen loginLen login ≤ 2 + 65535 + 2 + 65535 := by
    cases login with
    | none => simp [optLen]
    | some l =>
      simp only [optAll, loginOk, Bool.and_eq_true] at hl
      have := strOk_len hl.1.1; have := strOk_len hl.1.2
      simp only [optLen, loginLen]; split <;> split <;> omega
  simp only [connectLen, remainingLimit]; omega

theorem willHasProps_of_ok {k : Copy} {will : Option Will} (hw : optAll (willOk k) will = true) :
    willHasProps will = false := by
  cases will with
  | none => rfl
  | some w =>
    simp only [optAll, willOk, Bool.and_eq_true, Option.isNone_iff_eq_none] at hw
    simp [willHasProps, hw.2]

theorem connect_ok (k : Copy) (level keepAlive : Nat) (clientId : Bytes) (clean : Bool)
    (will : Option Will) (login : Option Login) (hlev : levelOk k level = true)
    (hka : keepAlive < 65536) (hc : strOk true clientId = true)
    (hw : optAll (willOk k) will = true) (hl : optAll loginOk login = true) :
    PartsOk k (.connect level keepAlive clientId clean none will login)
      (encConnect k level keepAlive clientId clean will login) := by
  refine .of_body 1 (show 0x10 / 16 = 1 by decide) (by decide)
    (by simp [encParts, willHasProps_of_ok hw]) ?_ (by simp [encConnect, connectLen])
    (connectLen_le _ _ _ k hc hw hl) rfl ?_
  · simp [encConnect, connectLen, optWill_length, optLogin_length, mqttName]; omega
  · obtain ⟨hflt, hclean, hwb, hlb⟩ := connectFlags_bits clean will login
    have hlevb : levelByte k level = level := by
      cases k <;> simp [levelByte, levelOk] at hlev ⊢; omega
    have hlevlt : level < 256 := by
      cases k <;> simp [levelOk] at hlev <;> omega
    have hdw := decWill_enc k _ will (optBytes encLogin login) hwb hw
    have hdl := decLogin_enc _ login [] hlb hl
    rw [List.append_nil] at hdl
    simp only [decBody, encConnect]
    -- the flags byte as a variable: the closing `simp` is to read it through the hypotheses on its
    -- bits, not to unfold it
    generalize connectFlags clean will login = f at *
    simp [decConnect, List.append_assoc, decStr16_of_strOk _ (show strOk true mqttName = true by decide),
      hlevb, decU8, u8_toNat_lt _ hlevlt, hlev, u8_toNat_lt _ hflt, decU16_enc _ _ hka, decStr16_of_strOk _ hc,
      hdw, hdl, hclean]

theorem parts_ok (k : Copy) (p : Packet) (h : wf k p = true) : ∃ e, PartsOk k p e := by
  cases p
  case subscribe pkid props fs =>
    simp only [wf_subscribe_eq, Bool.and_eq_true, decide_eq_true_eq, Option.isNone_iff_eq_none] at h
    obtain ⟨⟨⟨⟨h1, rfl⟩, h3⟩, h4⟩, h5⟩ := h
    exact ⟨_, subscribe_ok k pkid fs h1 (by rintro rfl; simp at h3) h4 h5⟩
  case suback pkid props cs =>
    simp only [wf_suback_eq, Bool.and_eq_true, decide_eq_true_eq, Option.isNone_iff_eq_none] at h
    obtain ⟨⟨⟨⟨h1, rfl⟩, h3⟩, h4⟩, h5⟩ := h
    exact suback_ok k pkid cs h1 (by rintro rfl; simp at h3) h4 h5
  all_goals
    simp only [wf, Bool.and_eq_true, decide_eq_true_eq, Option.isNone_iff_eq_none, beq_iff_eq] at h
  case connect level keepAlive clientId clean props will login =>
    obtain ⟨⟨⟨⟨⟨h1, h2⟩, h3⟩, rfl⟩, h5⟩, h6⟩ := h
    exact ⟨_, connect_ok k level keepAlive clientId clean will login h1 h2 h3 h5 h6⟩
  case connack sp code props =>
    obtain ⟨rfl, h2⟩ := h
    obtain ⟨c, hc⟩ := Option.isSome_iff_exists.mp h2
    exact ⟨_, connack_ok k sp code c hc⟩
  case publish dup qos retain topic pkid payload props =>
    obtain ⟨⟨⟨⟨rfl, h2⟩, h3⟩, h4⟩, h5⟩ := h
    exact ⟨_, publish_ok k dup qos retain topic pkid payload h2 h3 h4 h5⟩
  case puback pkid reason props => obtain ⟨⟨h1, rfl⟩, rfl⟩ := h; exact ⟨_, puback_ok k pkid h1⟩
  case pubrec pkid reason props => obtain ⟨⟨h1, rfl⟩, rfl⟩ := h; exact ⟨_, pubrec_ok k pkid h1⟩
  case pubrel pkid reason props => obtain ⟨⟨h1, rfl⟩, rfl⟩ := h; exact ⟨_, pubrel_ok k pkid h1⟩
  case pubcomp pkid reason props => obtain ⟨⟨h1, rfl⟩, rfl⟩ := h; exact ⟨_, pubcomp_ok k pkid h1⟩
  case unsubscribe pkid props ts =>
    obtain ⟨⟨⟨h1, rfl⟩, h3⟩, h4⟩ := h
    exact ⟨_, unsubscribe_ok k pkid ts h1 h3 h4⟩
  case unsuback pkid props reasons =>
    obtain ⟨⟨h1, rfl⟩, h3⟩ := h
    rw [List.isEmpty_iff.mp h3]
    exact ⟨_, unsuback_ok k pkid h1⟩
  case pingreq => exact ⟨_, pingreq_ok k⟩
  case pingresp => exact ⟨_, pingresp_ok k⟩
  case disconnect reason props => obtain ⟨rfl, rfl⟩ := h; exact ⟨_, disconnect_ok k⟩

theorem roundTrips (k : Copy) (p : Packet) (h : wf k p = true) :
    RoundTrips (encode k p) (writeReturn k p) (size k p) (decode k) p :=
  (parts_ok k p h).elim fun _ he => he.roundTrips

theorem toBroker_not_connack (p : Packet) (h : ∀ sp code props, p ≠ .connack sp code props) :
    toBroker p = p := by
  cases p <;> first | rfl | exact absurd rfl (h _ _ _)

theorem toClient_not_connack (p : Packet) (h : ∀ sp code props, p ≠ .connack sp code props) :
    toClient p = p := by
  cases p <;> first | rfl | exact absurd rfl (h _ _ _)

theorem encCodes_copy (cs : List SubCode) (h : cs.all codeOk = true) :
    encCodes .client cs = encCodes .broker cs := by
  induction cs with
  | nil => rfl
  | cons c cs ih =>
    simp only [List.all_cons, Bool.and_eq_true] at h
    have ih' := ih h.2
    have h1 := h.1
    cases c <;> simp [codeOk] at h1 <;> simp [encCodes, subCodeByte, ih']

theorem publishLen_copy (qos : QoS) (topic : Bytes) (pkid : Nat) (payload : Bytes)
    (h : qos = .q0 ↔ pkid = 0) :
    publishLen .client qos topic pkid payload = publishLen .broker qos topic pkid payload := by
  rw [publishLen_eq _ _ _ _ _ h, publishLen_eq _ _ _ _ _ h]

theorem encParts_copy (p : Packet) (hc : wf .client p = true) (hb : wf .broker (toBroker p) = true) :
    encParts .client p = encParts .broker (toBroker p) := by
  cases p
  case connack sp code props =>
    have h := (Bool.and_eq_true _ _ ▸ hc).2
    cases code <;> first | rfl | cases h
  case connect level keepAlive clientId clean props will login =>
    simp only [toBroker, wf, Bool.and_eq_true, decide_eq_true_eq] at hb
    have hl : level = 4 := by simpa [levelOk] using hb.1.1.1.1.1
    subst hl
    rfl
  case publish dup qos retain topic pkid payload props =>
    simp only [wf, Bool.and_eq_true, decide_eq_true_eq, Option.isNone_iff_eq_none] at hc
    obtain ⟨⟨⟨⟨rfl, _⟩, h3⟩, _⟩, _⟩ := hc
    simp [toBroker, encParts, encPublish, publishLen_copy qos topic pkid payload h3]
  case suback pkid props cs =>
    simp only [wf_suback_eq, Bool.and_eq_true, decide_eq_true_eq] at hc
    simp [toBroker, encParts, encSubAck, encCodes_copy cs hc.1.2]
  all_goals rfl

theorem encode_toBroker (p : Packet) (hc : wf .client p = true) (hb : wf .broker (toBroker p) = true) :
    encode .client p = encode .broker (toBroker p) := by
  simp only [encode, encParts_copy p hc hb]

theorem toClient_toBroker (p : Packet) (h : wf .client p = true) : toClient (toBroker p) = p := by
  cases p
  case connack sp code props =>
    have h := (Bool.and_eq_true _ _ ▸ h).2
    cases code <;> first | rfl | cases h
  all_goals rfl

theorem toBroker_toClient (q : Packet) (h : wf .broker q = true) : toBroker (toClient q) = q := by
  cases q
  case connack sp code props =>
    have h := (Bool.and_eq_true _ _ ▸ h).2
    cases code <;> first | rfl | cases h
  all_goals rfl

theorem encode_toClient (q : Packet) (hb : wf .broker q = true) (hc : wf .client (toClient q) = true) :
    encode .broker q = encode .client (toClient q) := by
  have h := encode_toBroker (toClient q) hc (by rw [toBroker_toClient q hb]; exact hb)
  rw [toBroker_toClient q hb] at h
  exact h.symm

end Codec.V4
