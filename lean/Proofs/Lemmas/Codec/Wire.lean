/-
Every reader inverts its writer in front of any suffix, `dec…_enc : dec (enc x ++ r) = .ok (x, r)`, so that the
packet proofs chain them through a body; where the writer can fail, the `_enc` lemma gives the bytes it returns
and their length as well. A body that writes a byte as `[u8 n]` has it as `u8 n :: r` after `simp`: there the
proofs use `decU8` itself with `u8_toNat_lt`.
Suffixes in the codec files: `_enc` as above, `_ok : PartsOk …` (a packet's frame), `_rt` (a code table read
back from its byte), `_of_le` / `_of_gt` (a writer's answer by the side of the limit).
-/
import Model.Codec.Packet
import Proofs.Lemmas.VarInt

namespace Codec

@[simp] theorem u8_toNat (n : Nat) : (u8 n).toNat = n % 256 := by
  simp [u8]

theorem u8_toNat_lt (n : Nat) (h : n < 256) : (u8 n).toNat = n :=
  UInt8.toNat_ofNat_of_lt' h

@[simp] theorem encU8_length (n : Nat) : (encU8 n).length = 1 := rfl
@[simp] theorem encU16_length (n : Nat) : (encU16 n).length = 2 := rfl
@[simp] theorem encU32_length (n : Nat) : (encU32 n).length = 4 := rfl

theorem decU8_enc (n : Nat) (r : Bytes) (h : n < 256) : decU8 (encU8 n ++ r) = .ok (n, r) := by
  show decU8 (u8 n :: r) = _
  rw [decU8, u8_toNat_lt n h]

/-- positional notation: the base-256 digit of `n` at weight `m`, on top of the digits below it -/
theorem be_step (n m k : Nat) (hk : k = m * 256) : n / m % 256 * m + n % m = n % k := by
  rw [hk, Nat.mod_mul, Nat.mul_comm, Nat.add_comm]

theorem decU16_enc (n : Nat) (r : Bytes) (h : n < 65536) : decU16 (encU16 n ++ r) = .ok (n, r) := by
  have e : n / 256 % 256 * 256 + n % 256 = n := (be_step n 256 65536 rfl).trans (Nat.mod_eq_of_lt h)
  simp only [decU16, encU16, List.cons_append, List.nil_append, u8_toNat, Nat.mod_mod, e]

theorem decU32_enc (n : Nat) (r : Bytes) (h : n < 4294967296) :
    decU32 (encU32 n ++ r) = .ok (n, r) := by
  have e : n / 16777216 % 256 * 16777216 + n / 65536 % 256 * 65536 + n / 256 % 256 * 256 + n % 256 = n := by
    rw [Nat.add_assoc, Nat.add_assoc, be_step n 256 65536 rfl, be_step n 65536 16777216 rfl,
      be_step n 16777216 4294967296 rfl]
    exact Nat.mod_eq_of_lt h
  simp only [decU32, encU32, List.cons_append, List.nil_append, u8_toNat, Nat.mod_mod, e]

@[simp] theorem encBytes16_length (s : Bytes) : (encBytes16 s).length = 2 + s.length := by
  simp [encBytes16]

theorem decBytes16_enc (s r : Bytes) (h : s.length ≤ 65535) :
    decBytes16 (encBytes16 s ++ r) = .ok (s, r) := by
  have h1 : s.length % 65536 = s.length := by omega
  simp [decBytes16, encBytes16, h1, List.append_assoc, decU16_enc _ _ (show s.length < 65536 by omega)]

theorem decStr16_enc (u : Bool) (s r : Bytes) (h : s.length ≤ 65535)
    (hu : u = true → validUtf8 s = true) :
    decStr16 u (encBytes16 s ++ r) = .ok (s, r) := by
  simp [decStr16, decBytes16_enc s r h]
  intro hu'; simp [hu hu']

theorem encVarintLoop_lt128 (n : Nat) (h : n < 128) : encVarintLoop n = [u8 n] := by
  rw [encVarintLoop, dif_neg (by omega), Nat.mod_eq_of_lt h]

theorem lenLen_pos (n : Nat) : 1 ≤ lenLen n := by
  unfold lenLen; split <;> (try split) <;> (try split) <;> omega

theorem lenLen_le (n : Nat) : lenLen n ≤ 4 := by
  unfold lenLen; split <;> (try split) <;> (try split) <;> omega

theorem encVarintLoop_eq_encodeFuel : ∀ (f x : Nat), x < 128 ^ (f + 1) →
    encVarintLoop x = VarInt.encodeFuel (f + 1) x := by
  intro f
  induction f with
  | zero =>
    intro x h
    rw [VarInt.encodeFuel, encVarintLoop, if_neg (by omega), dif_neg (by omega)]; rfl
  | succ f ih =>
    intro x h
    rw [VarInt.encodeFuel, encVarintLoop]
    split
    · rw [Nat.pow_succ, Nat.mul_comm] at h
      rw [ih _ (Nat.div_lt_of_lt_mul h)]; rfl
    · rfl

theorem encVarintLoop_eq_encodeDigits (n : Nat) (h : n ≤ remainingLimit) :
    encVarintLoop n = VarInt.encodeDigits n :=
  encVarintLoop_eq_encodeFuel 9 n (Nat.lt_of_le_of_lt h (by decide))

theorem decVarint_eq_length (bs : Bytes) :
    decVarint bs = match VarInt.length bs with
      | .ok ll l => .ok (l, ll, bs.drop ll)
      | .insufficient _ => .error .insufficient
      | .malformed => .error .malformed := by
  unfold VarInt.length
  rcases bs with _ | ⟨b0, r0⟩
  · rfl
  simp only [decVarint, VarInt.lengthLoop]
  by_cases h0 : b0.toNat < 128
  · simp [h0, Nat.mod_eq_of_lt h0]
  simp only [h0, if_false]
  rcases r0 with _ | ⟨b1, r1⟩
  · rfl
  simp only [VarInt.lengthLoop]
  by_cases h1 : b1.toNat < 128
  · simp [h1, Nat.mod_eq_of_lt h1]
  simp only [h1, if_false]
  rcases r1 with _ | ⟨b2, r2⟩
  · rfl
  simp only [VarInt.lengthLoop]
  by_cases h2 : b2.toNat < 128
  · simp [h2, Nat.mod_eq_of_lt h2]
  simp only [h2, if_false]
  rcases r2 with _ | ⟨b3, r3⟩
  · rfl
  simp only [VarInt.lengthLoop]
  by_cases h3 : b3.toNat < 128
  · simp [h3, Nat.mod_eq_of_lt h3]
  · simp [h3]

theorem encVarintLoop_length (n : Nat) (h : n ≤ remainingLimit) :
    (encVarintLoop n).length = lenLen n := by
  rw [encVarintLoop_eq_encodeDigits n h]
  exact VarInt.encodeDigits_length n (Nat.lt_succ_of_le h)

theorem decVarint_enc (n : Nat) (r : Bytes) (h : n ≤ remainingLimit) :
    decVarint (encVarintLoop n ++ r) = .ok (n, lenLen n, r) := by
  rw [decVarint_eq_length, encVarintLoop_eq_encodeDigits n h, VarInt.roundtrip n (Nat.lt_succ_of_le h) r]
  simp only [List.drop_left]
  rw [VarInt.encodeDigits_length n (Nat.lt_succ_of_le h)]; rfl

theorem encVarintLoop_cons (n : Nat) : ∃ b bs, encVarintLoop n = b :: bs := by
  rw [encVarintLoop]; split <;> exact ⟨_, _, rfl⟩

theorem encVarint_of_le (n : Nat) (h : n ≤ remainingLimit) : encVarint n = .ok (encVarintLoop n) := by
  rw [encVarint, if_neg (Nat.not_lt.mpr h)]

theorem encVarint_of_gt (n : Nat) (h : n > remainingLimit) : encVarint n = .error .malformed := by
  rw [encVarint, if_pos h]

theorem frame_of_le (b len : Nat) (body : Bytes) (h : len ≤ remainingLimit) :
    frame b len body = .ok (u8 b :: (encVarintLoop len ++ body)) := by
  simp only [frame, encVarint_of_le len h]

theorem frame_of_gt (b len : Nat) (body : Bytes) (h : len > remainingLimit) :
    frame b len body = .error .malformed := by
  simp only [frame, encVarint_of_gt len h]

theorem frame_length (b len : Nat) (body out : Bytes) (h : frame b len body = .ok out) :
    out.length = 1 + lenLen len + body.length := by
  by_cases hl : len ≤ remainingLimit
  · rw [frame_of_le b len body hl] at h
    cases h
    simp [encVarintLoop_length len hl]; omega
  · rw [frame_of_gt b len body (by omega)] at h; cases h

theorem splitFrame_frame (max b : Nat) (body rest : Bytes) (hb : b < 256)
    (hl : body.length ≤ remainingLimit) (hm : body.length ≤ max) :
    splitFrame max (u8 b :: (encVarintLoop body.length ++ body) ++ rest)
      = .ok ⟨b, body.length, body, rest, 1 + lenLen body.length + body.length⟩ := by
  have hdec := decVarint_enc body.length (body ++ rest) hl
  obtain ⟨x, xs, hx⟩ := encVarintLoop_cons body.length
  rw [hx] at hdec ⊢
  simp only [List.cons_append, List.append_assoc] at hdec ⊢
  simp [splitFrame, hdec, Nat.not_lt.mpr hm, u8_toNat_lt b hb]

theorem splitFrame_byte1 {max bs s} (h : splitFrame max bs = .ok s) :
    ∃ b r, bs = b :: r ∧ s.byte1 = b.toNat := by
  unfold splitFrame at h
  split at h
  · simp at h
  · simp at h
  · rename_i b r _
    split at h
    · simp at h
    · split at h
      · simp at h
      · split at h
        · simp at h
        · simp at h; subst h; exact ⟨b, r, rfl, rfl⟩

theorem encAll_length {α} (enc : α → Bytes) (encs : List α → Bytes) (len : α → Nat)
    (encs_nil : encs [] = []) (encs_cons : ∀ x xs, encs (x :: xs) = enc x ++ encs xs)
    (hlen : ∀ x, (enc x).length = len x) (xs : List α) :
    (encs xs).length = (xs.map len).sum := by
  induction xs with
  | nil => rw [encs_nil]; rfl
  | cons x xs ih => rw [encs_cons, List.length_append, hlen, ih, List.map_cons, List.sum_cons]

/-- `loop` runs the item reader `dec` until the input is empty (`while bytes.has_remaining()`): it reads
    back a list written item by item if each item reads back and occupies at least one byte. -/
theorem readAll_enc {α} (dec : Bytes → Except Err (α × Bytes)) (enc : α → Bytes)
    (encs : List α → Bytes) (loop : Nat → Bytes → Except Err (List α))
    (encs_nil : encs [] = []) (encs_cons : ∀ x xs, encs (x :: xs) = enc x ++ encs xs)
    (loop_nil : ∀ fuel, loop fuel [] = .ok [])
    (loop_step : ∀ fuel bs a r as, bs.isEmpty = false → dec bs = .ok (a, r) →
      loop fuel r = .ok as → loop (fuel + 1) bs = .ok (a :: as))
    (xs : List α) (hx : ∀ x ∈ xs, enc x ≠ [] ∧ ∀ r, dec (enc x ++ r) = .ok (x, r)) :
    ∀ fuel, (encs xs).length ≤ fuel → loop fuel (encs xs) = .ok xs := by
  induction xs with
  | nil => intro fuel _; rw [encs_nil]; exact loop_nil fuel
  | cons x xs ih =>
    intro fuel hf
    obtain ⟨hne, hdec⟩ := hx x (List.mem_cons_self ..)
    rw [encs_cons, List.length_append] at hf
    have hpos : 0 < (enc x).length := List.length_pos_iff.mpr hne
    cases fuel with
    | zero => omega
    | succ fuel =>
      rw [encs_cons]
      refine loop_step fuel _ x _ xs ?_ (hdec _)
        (ih (fun y hy => hx y (List.mem_cons_of_mem _ hy)) fuel (by omega))
      cases h : enc x with
      | nil => exact absurd h hne
      | cons _ _ => rfl

/-- one byte per code: `encs` fails on a code that has no byte, `loop` reads until the input ends -/
theorem readCodes_enc {α} (toByte : α → Option Nat) (ofByte : Nat → Option α)
    (encs : List α → Option Bytes) (loop : Bytes → Except Err (List α))
    (encs_nil : encs [] = some [])
    (encs_cons : ∀ c cs b bs, toByte c = some b → encs cs = some bs →
      encs (c :: cs) = some (u8 b :: bs))
    (loop_nil : loop [] = .ok [])
    (loop_cons : ∀ b r c cs, ofByte b.toNat = some c → loop r = .ok cs →
      loop (b :: r) = .ok (c :: cs))
    (cs : List α) (h : ∀ c ∈ cs, ∃ b, toByte c = some b ∧ b < 256 ∧ ofByte b = some c) :
    ∃ bs, encs cs = some bs ∧ bs.length = cs.length ∧ loop bs = .ok cs := by
  induction cs with
  | nil => exact ⟨[], encs_nil, rfl, loop_nil⟩
  | cons c cs ih =>
    obtain ⟨bs, h1, h2, h3⟩ := ih fun c hc => h c (List.mem_cons_of_mem _ hc)
    obtain ⟨b, hb, hlt, hof⟩ := h c (List.mem_cons_self ..)
    exact ⟨u8 b :: bs, encs_cons c cs b bs hb h1, by rw [List.length_cons, h2, List.length_cons],
      loop_cons _ _ c cs (by rw [u8_toNat_lt b hlt, hof]) h3⟩

/-- what the round-trip property asks of one packet `p`; `encode`, `ret`, `size`, `decode` are the copy's
    writer, the count it returns, its `size()` and its reader, at `p` -/
def RoundTrips (encode : Except Err Bytes) (ret : Except Err Nat) (size : Nat)
    (decode : Nat → Bytes → DecodeResult) (p : Packet) : Prop :=
  ∃ out, encode = .ok out ∧ ret = .ok out.length ∧ out.length = size ∧
    ∀ max r, out.length ≤ max → decode max (out ++ r) = .packet p r

end Codec
