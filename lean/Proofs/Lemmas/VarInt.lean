import Model.FrameSpec
/-!
The variable byte integer of `Model/Basic/VarInt.lean`. Its decoding rule (`contLen`, `varIntValue`, `lengthSpec`) stands in
`Model/FrameSpec.lean` under `namespace Frame`, hence the import and the `open Frame`. The decoder's loop is that rule; the
encoder's output is a canonical integer of the rule with the value encoded, which is the round trip; digit counts by
induction on the number of 7-bit groups.
-/
namespace VarInt
open Frame

theorem contLen_nil : contLen [] = 0 := rfl
theorem contLen_cons_lt (b : UInt8) (bs : List UInt8) (h : b.toNat < 128) : contLen (b :: bs) = 0 := by
  have : ¬ 128 ≤ b.toNat := by omega
  simp [contLen, List.takeWhile, this]
theorem contLen_cons_ge (b : UInt8) (bs : List UInt8) (h : ¬ b.toNat < 128) :
    contLen (b :: bs) = contLen bs + 1 := by
  have : 128 ≤ b.toNat := by omega
  simp [contLen, List.takeWhile, this]

theorem contLen_le_append (x : List UInt8) : ∀ bs : List UInt8, contLen bs ≤ contLen (bs ++ x)
  | [] => Nat.zero_le _
  | b :: bs => by
    by_cases hb : b.toNat < 128
    · rw [contLen_cons_lt b bs hb]; exact Nat.zero_le _
    · rw [List.cons_append, contLen_cons_ge b bs hb, contLen_cons_ge b _ hb]
      exact Nat.succ_le_succ (contLen_le_append x bs)

theorem contLen_append_of_lt (x : List UInt8) :
    ∀ bs : List UInt8, contLen bs < bs.length → contLen (bs ++ x) = contLen bs
  | [], h => absurd h (Nat.not_lt_zero _)
  | b :: bs, h => by
    by_cases hb : b.toNat < 128
    · rw [List.cons_append, contLen_cons_lt b bs hb, contLen_cons_lt b _ hb]
    · rw [contLen_cons_ge b bs hb] at h
      rw [List.cons_append, contLen_cons_ge b bs hb, contLen_cons_ge b _ hb,
        contLen_append_of_lt x bs (Nat.lt_of_succ_lt_succ h)]

/-- the loop entered with `ll` groups read (`ll ≤ 3`, so the shift `7 * ll` is one the code reaches)
    does what the decoding rule says of the remaining bytes, `ll` places up -/
theorem lengthLoop_spec : ∀ (bs : List UInt8) (a ll : Nat), ll ≤ 3 →
    lengthLoop bs a ll (7 * ll) =
      if 4 ≤ ll + contLen bs then .malformed
      else if contLen bs < bs.length then
        .ok (ll + contLen bs + 1) (a + 128 ^ ll * varIntValue (bs.take (contLen bs + 1)))
      else .insufficient 1 := by
  intro bs
  induction bs with
  | nil =>
    intro a ll hll
    rw [lengthLoop, contLen_nil, List.length_nil, if_neg (by omega), if_neg (Nat.lt_irrefl 0)]
  | cons b bs ih =>
    intro a ll hll
    rw [lengthLoop, Nat.pow_mul, show 2 ^ 7 = 128 from rfl]
    by_cases hb : b.toNat < 128
    · rw [if_pos hb, contLen_cons_lt b bs hb, if_neg (by omega), List.length_cons,
        if_pos (Nat.zero_lt_succ _), List.take_succ_cons, List.take_zero, varIntValue, varIntValue,
        Nat.mul_zero, Nat.add_zero ll, Nat.add_zero (b.toNat % 128), Nat.mul_comm]
    · rw [if_neg hb, contLen_cons_ge b bs hb]
      by_cases h3 : ll = 3
      · rw [if_pos (by omega), if_pos (by omega)]
      · rw [if_neg (by omega), ← Nat.mul_succ, ih _ (ll + 1) (by omega), List.length_cons,
          List.take_succ_cons, varIntValue, Nat.add_assoc ll 1, Nat.add_comm 1, Nat.pow_succ, Nat.mul_add,
          Nat.mul_comm (128 ^ ll) (b.toNat % 128), Nat.mul_assoc, Nat.add_assoc a]
        simp only [Nat.add_lt_add_iff_right]

theorem length_eq_spec (bs : List UInt8) : length bs = lengthSpec bs := by
  have := lengthLoop_spec bs 0 0 (by omega)
  simp only [Nat.mul_zero, Nat.zero_add, Nat.pow_zero, Nat.one_mul] at this
  exact this

theorem varIntValue_lt : ∀ (ds : List UInt8), varIntValue ds < 128 ^ ds.length
  | [] => Nat.one_pos
  | d :: ds => by
    have hd : d.toNat % 128 < 128 := Nat.mod_lt _ (by decide)
    have ih := varIntValue_lt ds
    rw [varIntValue, List.length_cons, Nat.pow_succ']
    generalize 128 ^ ds.length = P at ih
    omega

/-- `268435456 = 128 ^ 4` -/
theorem length_ok_bounds {bs : List UInt8} {ll l : Nat} (h : VarInt.length bs = .ok ll l) :
    1 ≤ ll ∧ ll ≤ 4 ∧ ll ≤ bs.length ∧ l < 268435456 := by
  rw [length_eq_spec, lengthSpec] at h
  split at h
  · cases h
  · next h4 =>
    split at h
    · next hl =>
      cases h
      have hv := varIntValue_lt (bs.take (contLen bs + 1))
      rw [List.length_take, Nat.min_eq_left hl] at hv
      exact ⟨Nat.le_add_left 1 _, by omega, hl,
        Nat.lt_of_lt_of_le hv (Nat.pow_le_pow_right (by decide) (by omega : contLen bs + 1 ≤ 4))⟩
    · cases h

theorem encodeFuel_length_le : ∀ (k f x : Nat), x < 128 ^ (k + 1) → (encodeFuel f x).length ≤ k + 1 := by
  intro k
  induction k with
  | zero =>
    intro f x h
    cases f with
    | zero => exact Nat.zero_le _
    | succ f =>
      rw [encodeFuel, if_neg (Nat.not_lt.mpr (Nat.le_of_eq (Nat.div_eq_of_lt h)))]
      exact Nat.le_refl _
  | succ k ih =>
    intro f x h
    cases f with
    | zero => exact Nat.zero_le _
    | succ f =>
      rw [Nat.pow_succ'] at h
      unfold encodeFuel
      split
      · exact Nat.succ_le_succ (ih f (x / 128) (Nat.div_lt_of_lt_mul h))
      · exact Nat.le_add_left 1 _

theorem encodeFuel_length_pos (f x : Nat) : 1 ≤ (encodeFuel (f + 1) x).length := by
  unfold encodeFuel; split <;> exact Nat.le_add_left 1 _

theorem encodeFuel_length_ge : ∀ (k f x : Nat), k < f → 128 ^ k ≤ x → k + 1 ≤ (encodeFuel f x).length := by
  intro k
  induction k with
  | zero =>
    intro f x hf _
    cases f with
    | zero => exact absurd hf (Nat.lt_irrefl 0)
    | succ f => exact encodeFuel_length_pos f x
  | succ k ih =>
    intro f x hf h
    cases f with
    | zero => exact absurd hf (Nat.not_lt_zero _)
    | succ f =>
      have hx : 0 < x / 128 :=
        Nat.div_pos (Nat.le_trans (Nat.le_mul_of_pos_left 128 (Nat.pow_pos (by decide))) h) (by decide)
      rw [encodeFuel, if_pos hx]
      exact Nat.succ_le_succ (ih f (x / 128) (Nat.lt_of_succ_lt_succ hf)
        ((Nat.le_div_iff_mul_le (by decide)).mpr h))

/-- canonical: every byte but the last has the continuation bit -/
theorem encodeFuel_canonical (r : List UInt8) : ∀ (k f x : Nat), k < f → x < 128 ^ (k + 1) →
    contLen (encodeFuel f x ++ r) + 1 = (encodeFuel f x).length ∧ varIntValue (encodeFuel f x) = x := by
  intro k f
  induction f generalizing k with
  | zero => intro x hf; exact absurd hf (Nat.not_lt_zero k)
  | succ f ih =>
    intro x hf hx
    unfold encodeFuel
    split
    · next hq =>
      cases k with
      | zero => omega
      | succ k =>
        have hb : (UInt8.ofNat (x % 128 + 128)).toNat = x % 128 + 128 :=
          UInt8.toNat_ofNat_of_lt' (Nat.add_lt_add_right (Nat.mod_lt x (by decide)) 128)
        rw [Nat.pow_succ'] at hx
        obtain ⟨h1, h2⟩ := ih k (x / 128) (Nat.lt_of_succ_lt_succ hf) (Nat.div_lt_of_lt_mul hx)
        rw [List.cons_append, contLen_cons_ge _ _ (by rw [hb]; omega), varIntValue, hb, h1, h2,
          Nat.add_mod_right, Nat.mod_mod, List.length_cons]
        exact ⟨rfl, Nat.mod_add_div x 128⟩
    · next hq =>
      have hlt : x < 128 := by omega
      have hb : (UInt8.ofNat (x % 128)).toNat = x := by
        rw [Nat.mod_eq_of_lt hlt, UInt8.toNat_ofNat_of_lt' (Nat.lt_trans hlt (by decide))]
      rw [List.cons_append, contLen_cons_lt _ _ (by rw [hb]; exact hlt), varIntValue, hb, varIntValue,
        Nat.mod_eq_of_lt hlt]
      exact ⟨rfl, rfl⟩

theorem roundtrip (n : Nat) (h : n < 268435456) (r : List UInt8) :
    length (encodeDigits n ++ r) = .ok (encodeDigits n).length n := by
  obtain ⟨h1, h2⟩ := encodeFuel_canonical r 3 10 n (by decide) h
  have h4 := encodeFuel_length_le 3 10 n h
  unfold encodeDigits
  rw [length_eq_spec, lengthSpec, if_neg (by omega), if_pos (by rw [List.length_append]; omega), h1,
    List.take_left, h2]

theorem encodeDigits_length (n : Nat) (h : n < 268435456) :
    (encodeDigits n).length = lenLen [128, 16384, 2097152] n := by
  simp only [encodeDigits, lenLen]
  split
  · next h3 =>
    exact Nat.le_antisymm (encodeFuel_length_le 3 10 n h) (encodeFuel_length_ge 3 10 n (by decide) h3)
  · next h3 =>
    split
    · next h2 =>
      exact Nat.le_antisymm (encodeFuel_length_le 2 10 n (Nat.not_le.mp h3))
        (encodeFuel_length_ge 2 10 n (by decide) h2)
    · next h2 =>
      split
      · next h1 =>
        exact Nat.le_antisymm (encodeFuel_length_le 1 10 n (Nat.not_le.mp h2))
          (encodeFuel_length_ge 1 10 n (by decide) h1)
      · next h1 =>
        exact Nat.le_antisymm (encodeFuel_length_le 0 10 n (Nat.not_le.mp h1)) (encodeFuel_length_pos 9 n)

/-- five or more bytes beyond the 4-byte range (the encoder itself is not bounded) -/
theorem encodeDigits_5 (n : Nat) (h1 : 268435456 ≤ n) : 5 ≤ (encodeDigits n).length :=
  encodeFuel_length_ge 4 10 n (by decide) h1

end VarInt
