import Proofs.Lemmas.VarInt
/-!
C05 (framing). Each code-shaped function is translated once into the vocabulary of `Model/FrameSpec.lean`. `decode1` has two
descriptions: equations that compute it from `headerStatus` (to rewrite), and `Decoded`, what it can answer with what
`headerStatus` says then (to invert `decode1 … = s`). The buffer loops are argued by induction on the frames of a buffer
(`decode_induction`); chunking independence rests on `decodeAll_append`.
-/
namespace Frame
open VarInt Bytes

theorem parse_eq_spec (bs : ByteList) :
    parseFixedHeader bs =
      match headerStatus bs with
      | .incomplete => .insufficient (headerAsk bs)
      | .malformed => .malformedLen
      | .complete h r => .ok ⟨bs.headD 0, h, r⟩ := by
  match bs with
  | [] => rfl
  | [b] => rfl
  | b :: c :: r =>
    have h2 : ¬ (b :: c :: r).length < 2 := Nat.not_lt.mpr (Nat.le_add_left 2 r.length)
    rw [parseFixedHeader, if_neg h2, length_eq_spec, lengthSpec]
    simp only [headerStatus]
    by_cases h4 : 4 ≤ contLen (c :: r)
    · rw [if_pos h4, if_pos h4]
    · rw [if_neg h4, if_neg h4]
      by_cases hl : contLen (c :: r) < (c :: r).length
      · rw [if_pos hl, if_pos hl]; rfl
      · rw [if_neg hl, if_neg hl]; rfl

theorem parse_malformed_iff_status (bs : ByteList) :
    parseFixedHeader bs = .malformedLen ↔ headerStatus bs = .malformed := by
  rw [parse_eq_spec]
  cases hs : headerStatus bs <;> simp

theorem check_eq_spec (max : Limit) (bs : ByteList) :
    check max bs =
      match headerStatus bs with
      | .incomplete => .insufficient (headerAsk bs)
      | .malformed => .malformedLen
      | .complete h r =>
        if exceeds max r then .tooLarge r
        else if bs.length < h + r then .insufficient (h + r - bs.length)
        else .ok ⟨bs.headD 0, h, r⟩ := by
  unfold check
  rw [parse_eq_spec]
  cases headerStatus bs <;> rfl

theorem headerStatus_of_length_lt {bs : ByteList} (h : bs.length < 2) : headerStatus bs = .incomplete :=
  match bs, h with
  | [], _ => rfl
  | [_], _ => rfl
  | _ :: _ :: _, h => absurd h (by simp)

theorem headerAsk_pos (bs : ByteList) : 1 ≤ headerAsk bs := by
  unfold headerAsk; split <;> omega

theorem headerStatus_complete_bounds {bs : ByteList} {h r : Nat} (hs : headerStatus bs = .complete h r) :
    2 ≤ h ∧ h ≤ bs.length := by
  match bs, hs with
  | [], hs | [_], hs => cases hs
  | b :: c :: rest, hs =>
    simp only [headerStatus] at hs
    split at hs
    · cases hs
    · split at hs
      · next hl => cases hs; exact ⟨Nat.le_add_left 2 _, Nat.succ_le_succ (Nat.succ_le_of_lt hl)⟩
      · cases hs

theorem headerStatus_append {bs : ByteList} (x : ByteList) (hs : headerStatus bs ≠ .incomplete) :
    headerStatus (bs ++ x) = headerStatus bs := by
  match bs, hs with
  | [], hs | [_], hs => exact absurd rfl hs
  | b :: c :: rest, hs =>
    simp only [List.cons_append, headerStatus] at hs ⊢
    rw [← List.cons_append]
    generalize c :: rest = l at hs ⊢
    by_cases h4 : 4 ≤ contLen l
    · rw [if_pos h4, if_pos (Nat.le_trans h4 (contLen_le_append x l))]
    · rw [if_neg h4] at hs ⊢
      by_cases hl : contLen l < l.length
      · rw [contLen_append_of_lt x l hl, if_neg h4, if_pos hl,
          if_pos (by rw [List.length_append]; omega), List.take_append_of_le_length hl]
      · rw [if_neg hl] at hs; exact absurd rfl hs

theorem headerStatus_append_short {bs x : ByteList} (hs : headerStatus bs = .incomplete)
    (hx : x.length < headerAsk bs) : headerStatus (bs ++ x) = .incomplete := by
  unfold headerAsk at hx
  split at hx
  · exact headerStatus_of_length_lt (by rw [List.length_append]; omega)
  · rw [List.eq_nil_of_length_eq_zero (by omega : x.length = 0), List.append_nil, hs]

section
variable {Pkt ε : Type}

theorem decode1_of_incomplete (c : Copy) (body : FixedHeader → ByteList → Except (BodyErr ε) Pkt)
    (max : Limit) {bs : ByteList} (hs : headerStatus bs = .incomplete) :
    decode1 c body max bs = .needMore (headerAsk bs) := by
  unfold decode1; rw [check_eq_spec, hs]

theorem decode1_of_malformed (c : Copy) (body : FixedHeader → ByteList → Except (BodyErr ε) Pkt)
    (max : Limit) {bs : ByteList} (hs : headerStatus bs = .malformed) :
    decode1 c body max bs = .badLength := by
  unfold decode1; rw [check_eq_spec, hs]

theorem decode1_of_complete (c : Copy) (body : FixedHeader → ByteList → Except (BodyErr ε) Pkt)
    (max : Limit) {bs : ByteList} {h r : Nat} (hs : headerStatus bs = .complete h r) :
    decode1 c body max bs =
      if exceeds max r then .tooLarge
      else if bs.length < h + r then .needMore (h + r - bs.length)
      else deliver c body ⟨bs.headD 0, h, r⟩ (bs.take (h + r)) (bs.drop (h + r)) := by
  unfold decode1; rw [check_eq_spec, hs]
  dsimp only
  cases exceeds max r with
  | true => rfl
  | false =>
    simp only [Bool.false_eq_true, if_false]
    by_cases hl : bs.length < h + r
    · rw [if_pos hl, if_pos hl]
    · rw [if_neg hl, if_neg hl]; rfl

theorem ite_ne {α : Type} {p : Prop} [Decidable p] {a b x : α} (ha : a ≠ x) (hb : b ≠ x) :
    (if p then a else b) ≠ x := by
  split <;> assumption

/-- no leaf of the decision tree is an `unreachable!()` arm -/
theorem dispatch_ne_unreachable (c : Copy) (ty fl rl : Nat) : dispatch c ty fl rl ≠ .unreachable := by
  unfold dispatch
  refine ite_ne nofun (ite_ne (ite_ne nofun (ite_ne ?_ nofun)) (ite_ne nofun (ite_ne ?_ nofun)))
  · split
    · exact ite_ne nofun nofun
    · nofun
  · split <;> nofun

theorem fromBody_cases {sl : Bool} {r : Except (BodyErr ε) Pkt} {rest : ByteList} {s : Step Pkt}
    (h : fromBody sl r rest = s) :
    (∃ p, r = .ok p ∧ s = .packet p rest) ∨ s = .malformed rest ∨
    (∃ n, sl = false ∧ r = .error (.insufficient n) ∧ s = .swallowed n rest) := by
  subst h
  cases r with
  | ok p => exact Or.inl ⟨p, rfl, rfl⟩
  | error e =>
    cases e with
    | malformed e => exact Or.inr (Or.inl rfl)
    | insufficient n =>
      cases sl
      · exact Or.inr (Or.inr ⟨n, rfl, rfl, rfl⟩)
      · exact Or.inr (Or.inl rfl)

theorem deliver_cases {c : Copy} {body : FixedHeader → ByteList → Except (BodyErr ε) Pkt}
    {fh : FixedHeader} {frame rest : ByteList} {s : Step Pkt} (h : deliver c body fh frame rest = s) :
    (∃ p, body fh frame = .ok p ∧ s = .packet p rest) ∨ s = .malformed rest ∨
    (∃ n, sealed c = false ∧ body fh frame = .error (.insufficient n) ∧ s = .swallowed n rest) := by
  unfold deliver at h
  split at h
  · exact Or.inr (Or.inl h.symm)
  · next hd => exact absurd hd (dispatch_ne_unreachable _ _ _ _)
  · exact fromBody_cases h
  · exact fromBody_cases h

/-- What one `decode1` call can answer, each outcome with what is known of the buffer then. Every index is a constructor,
    so `cases Decoded.of_eq h` on `h : decode1 … = s` leaves the outcomes that fit `s` (none for a panic). -/
inductive Decoded (c : Copy) (body : FixedHeader → ByteList → Except (BodyErr ε) Pkt) (max : Limit)
    (bs : ByteList) : Step Pkt → Prop
  | incomplete : headerStatus bs = .incomplete → Decoded c body max bs (.needMore (headerAsk bs))
  | badLength : headerStatus bs = .malformed → Decoded c body max bs .badLength
  | oversize {h r : Nat} : headerStatus bs = .complete h r → exceeds max r = true →
      Decoded c body max bs .tooLarge
  | short {h r : Nat} : headerStatus bs = .complete h r → exceeds max r = false →
      bs.length < h + r → Decoded c body max bs (.needMore (h + r - bs.length))
  | packet {h r : Nat} {p : Pkt} : headerStatus bs = .complete h r → exceeds max r = false →
      h + r ≤ bs.length → body ⟨bs.headD 0, h, r⟩ (bs.take (h + r)) = .ok p →
      Decoded c body max bs (.packet p (bs.drop (h + r)))
  | malformed {h r : Nat} : headerStatus bs = .complete h r → exceeds max r = false →
      h + r ≤ bs.length → Decoded c body max bs (.malformed (bs.drop (h + r)))
  | swallowed {h r n : Nat} : headerStatus bs = .complete h r → exceeds max r = false →
      h + r ≤ bs.length → sealed c = false →
      body ⟨bs.headD 0, h, r⟩ (bs.take (h + r)) = .error (.insufficient n) →
      Decoded c body max bs (.swallowed n (bs.drop (h + r)))

theorem decode1_decoded (c : Copy) (body : FixedHeader → ByteList → Except (BodyErr ε) Pkt)
    (max : Limit) (bs : ByteList) : Decoded c body max bs (decode1 c body max bs) := by
  cases hs : headerStatus bs with
  | incomplete => rw [decode1_of_incomplete c body max hs]; exact .incomplete hs
  | malformed => rw [decode1_of_malformed c body max hs]; exact .badLength hs
  | complete h r =>
    rw [decode1_of_complete c body max hs]
    cases he : exceeds max r with
    | true => exact .oversize hs he
    | false =>
      rw [if_neg Bool.false_ne_true]
      by_cases hl : bs.length < h + r
      · rw [if_pos hl]; exact .short hs he hl
      · rw [if_neg hl]
        have hle := Nat.le_of_not_lt hl
        rcases deliver_cases (rfl : deliver c body ⟨bs.headD 0, h, r⟩ (bs.take (h + r)) (bs.drop (h + r)) = _)
          with ⟨p, hb, e⟩ | e | ⟨n, hsl, hb, e⟩ <;> rw [e]
        · exact .packet hs he hle hb
        · exact .malformed hs he hle
        · exact .swallowed hs he hle hsl hb

theorem Decoded.of_eq {c : Copy} {body : FixedHeader → ByteList → Except (BodyErr ε) Pkt} {max : Limit}
    {bs : ByteList} {s : Step Pkt} (h : decode1 c body max bs = s) : Decoded c body max bs s :=
  h ▸ decode1_decoded c body max bs

theorem fromBody_extend (sl : Bool) (r : Except (BodyErr ε) Pkt) (rest x : ByteList) :
    fromBody sl r (rest ++ x) = (fromBody sl r rest).extend x := by
  cases r with
  | ok p => rfl
  | error e => cases e with
    | malformed e => rfl
    | insufficient n => cases sl <;> rfl

theorem deliver_extend (c : Copy) (body : FixedHeader → ByteList → Except (BodyErr ε) Pkt)
    (fh : FixedHeader) (frame rest x : ByteList) :
    deliver c body fh frame (rest ++ x) = (deliver c body fh frame rest).extend x := by
  unfold deliver
  split <;> first | rfl | exact fromBody_extend _ _ _ _

theorem decode1_append (c : Copy) (body : FixedHeader → ByteList → Except (BodyErr ε) Pkt)
    (max : Limit) (bs x : ByteList) (h : ∀ n, decode1 c body max bs ≠ .needMore n) :
    decode1 c body max (bs ++ x) = (decode1 c body max bs).extend x := by
  cases hs : headerStatus bs with
  | incomplete => exact absurd (decode1_of_incomplete c body max hs) (h _)
  | malformed =>
    have hx : headerStatus (bs ++ x) = .malformed := by
      rw [headerStatus_append x (by rw [hs]; nofun), hs]
    rw [decode1_of_malformed c body max hs, decode1_of_malformed c body max hx]; rfl
  | complete hl r =>
    have hx : headerStatus (bs ++ x) = .complete hl r := by
      rw [headerStatus_append x (by rw [hs]; nofun), hs]
    rw [decode1_of_complete c body max hs] at h ⊢
    rw [decode1_of_complete c body max hx]
    split
    · rfl
    · next he =>
      rw [if_neg he] at h
      have hle : ¬ bs.length < hl + r := fun hlt => by rw [if_pos hlt] at h; exact h _ rfl
      have hb : (bs ++ x).headD 0 = bs.headD 0 := by
        cases bs with
        | nil => cases hs
        | cons b t => rfl
      rw [hb, if_neg hle, if_neg (by rw [List.length_append]; omega),
        List.take_append_of_le_length (by omega), List.drop_append_of_le_length (by omega)]
      exact deliver_extend _ _ _ _ _ _

theorem decode1_packet_rest_len {c : Copy} {body : FixedHeader → ByteList → Except (BodyErr ε) Pkt}
    {max : Limit} {bs rest : ByteList} {p : Pkt} (h : decode1 c body max bs = .packet p rest) :
    rest.length + 2 ≤ bs.length := by
  cases Decoded.of_eq h with
  | packet hs _ hle _ =>
    have := headerStatus_complete_bounds hs
    rw [List.length_drop]; omega

theorem guarded_not_swallowed {c : Copy} {body : FixedHeader → ByteList → Except (BodyErr ε) Pkt}
    (hg : Guarded c body) (max : Limit) (bs : ByteList) (n : Nat) (rest : ByteList) :
    decode1 c body max bs ≠ .swallowed n rest := by
  intro h
  cases Decoded.of_eq h with
  | swallowed _ _ _ hs hb =>
    rcases hg with hg | hg
    · rw [hg] at hs; cases hs
    · exact hg _ _ _ hb

theorem decode1_ne_panic (c : Copy) (body : FixedHeader → ByteList → Except (BodyErr ε) Pkt)
    (max : Limit) (bs rest : ByteList) : decode1 c body max bs ≠ .panic rest := by
  intro h; exact nomatch Decoded.of_eq h

theorem decode1_malformed_rest_le {c : Copy} {body : FixedHeader → ByteList → Except (BodyErr ε) Pkt}
    {max : Limit} {bs rest : ByteList} (h : decode1 c body max bs = .malformed rest) :
    rest.length ≤ bs.length := by
  cases Decoded.of_eq h with
  | malformed => rw [List.length_drop]; omega

theorem needMore_lower_bound {c : Copy} {body : FixedHeader → ByteList → Except (BodyErr ε) Pkt}
    {max : Limit} {bs : ByteList} {n : Nat} (h : decode1 c body max bs = .needMore n)
    (x : ByteList) (hx : x.length < n) : ∃ m, decode1 c body max (bs ++ x) = .needMore m := by
  cases Decoded.of_eq h with
  | incomplete hs => exact ⟨_, decode1_of_incomplete c body max (headerStatus_append_short hs hx)⟩
  | short hs he hl =>
    have hs' := (headerStatus_append x (by rw [hs]; nofun)).trans hs
    exact ⟨_, by rw [decode1_of_complete c body max hs', he, if_neg Bool.false_ne_true,
      if_pos (by rw [List.length_append]; omega)]⟩

theorem needMore_pos {c : Copy} {body : FixedHeader → ByteList → Except (BodyErr ε) Pkt}
    {max : Limit} {bs : ByteList} {n : Nat} (h : decode1 c body max bs = .needMore n) : 1 ≤ n := by
  cases Decoded.of_eq h with
  | incomplete => exact headerAsk_pos bs
  | short _ _ hl => omega

theorem drain_fuel (c : Copy) (body : FixedHeader → ByteList → Except (BodyErr ε) Pkt) (max : Limit) :
    ∀ (f g : Nat) (buf : ByteList), buf.length < f → buf.length < g →
      drain c body max f buf = drain c body max g buf := by
  intro f
  induction f with
  | zero => intro g buf h; omega
  | succ f ih =>
    intro g buf hf hg
    cases g with
    | zero => omega
    | succ g =>
      unfold drain
      cases hd : decode1 c body max buf with
      | packet p rest =>
        have := decode1_packet_rest_len hd
        simp only
        rw [ih g rest (by omega) (by omega)]
      | needMore n => rfl
      | tooLarge => rfl
      | badLength => rfl
      | malformed r => rfl
      | panic r => rfl
      | swallowed n r => rfl

theorem decodeAll_packet {c : Copy} {body : FixedHeader → ByteList → Except (BodyErr ε) Pkt}
    {max : Limit} {bs rest : ByteList} {p : Pkt} (h : decode1 c body max bs = .packet p rest) :
    decodeAll c body max bs = consP p (decodeAll c body max rest) := by
  have hl := decode1_packet_rest_len h
  unfold decodeAll
  rw [drain]
  simp only [h]
  rw [drain_fuel c body max bs.length (rest.length + 1) rest (by omega) (by omega)]

theorem decodeAll_needMore {c : Copy} {body : FixedHeader → ByteList → Except (BodyErr ε) Pkt}
    {max : Limit} {bs : ByteList} {n : Nat} (h : decode1 c body max bs = .needMore n) :
    decodeAll c body max bs = ([], .more bs) := by
  simp [decodeAll, drain, h]

def Step.err? : Step Pkt → Option ErrKind
  | .tooLarge => some .tooLarge
  | .badLength => some .badLength
  | .malformed _ => some .malformed
  | .panic _ => some .panic
  | _ => none

theorem err?_cases {s : Step Pkt} {e : ErrKind} (h : s.err? = some e) :
    (s = .tooLarge ∧ e = .tooLarge) ∨ (s = .badLength ∧ e = .badLength) ∨
    (∃ r, s = .malformed r ∧ e = .malformed) ∨ (∃ r, s = .panic r ∧ e = .panic) := by
  cases s <;> cases h
  · exact Or.inl ⟨rfl, rfl⟩
  · exact Or.inr (Or.inl ⟨rfl, rfl⟩)
  · exact Or.inr (Or.inr (Or.inl ⟨_, rfl, rfl⟩))
  · exact Or.inr (Or.inr (Or.inr ⟨_, rfl, rfl⟩))

theorem decodeAll_err {c : Copy} {body : FixedHeader → ByteList → Except (BodyErr ε) Pkt}
    {max : Limit} {bs : ByteList} {e : ErrKind} (h : (decode1 c body max bs).err? = some e) :
    decodeAll c body max bs = ([], .error e) := by
  unfold decodeAll
  rcases err?_cases h with ⟨hs, rfl⟩ | ⟨hs, rfl⟩ | ⟨r, hs, rfl⟩ | ⟨r, hs, rfl⟩ <;> rw [drain, hs]

theorem err?_extend (s : Step Pkt) (x : ByteList) : (s.extend x).err? = s.err? := by
  cases s <;> rfl

theorem decode1_append_packet {c : Copy} {body : FixedHeader → ByteList → Except (BodyErr ε) Pkt}
    {max : Limit} {bs rest : ByteList} {p : Pkt} (x : ByteList)
    (h : decode1 c body max bs = .packet p rest) :
    decode1 c body max (bs ++ x) = .packet p (rest ++ x) := by
  rw [decode1_append c body max bs x (by intro n; rw [h]; nofun), h]; rfl

theorem decode1_append_err {c : Copy} {body : FixedHeader → ByteList → Except (BodyErr ε) Pkt}
    {max : Limit} {bs : ByteList} {e : ErrKind} (x : ByteList)
    (h : (decode1 c body max bs).err? = some e) :
    (decode1 c body max (bs ++ x)).err? = some e := by
  rw [decode1_append c body max bs x (by intro n hn; rw [hn] at h; cases h), err?_extend, h]

theorem Step.kinds (s : Step Pkt) :
    (∃ p r, s = .packet p r) ∨ (∃ n, s = .needMore n) ∨ (∃ e, s.err? = some e) ∨
    (∃ n r, s = .swallowed n r) := by
  cases s with
  | packet p r => exact Or.inl ⟨p, r, rfl⟩
  | needMore n => exact Or.inr (Or.inl ⟨n, rfl⟩)
  | tooLarge => exact Or.inr (Or.inr (Or.inl ⟨_, rfl⟩))
  | badLength => exact Or.inr (Or.inr (Or.inl ⟨_, rfl⟩))
  | malformed r => exact Or.inr (Or.inr (Or.inl ⟨_, rfl⟩))
  | panic r => exact Or.inr (Or.inr (Or.inl ⟨_, rfl⟩))
  | swallowed n r => exact Or.inr (Or.inr (Or.inr ⟨n, r, rfl⟩))

/-- what a finished run over `bs` becomes when `x` arrives afterwards -/
def resume (c : Copy) (body : FixedHeader → ByteList → Except (BodyErr ε) Pkt) (max : Limit)
    (r : List Pkt × Tail) (x : ByteList) : List Pkt × Tail :=
  match r.2 with
  | .more buf' => (r.1 ++ (decodeAll c body max (buf' ++ x)).1, (decodeAll c body max (buf' ++ x)).2)
  | .error e => (r.1, .error e)

theorem resume_consP (c : Copy) (body : FixedHeader → ByteList → Except (BodyErr ε) Pkt) (max : Limit)
    (p : Pkt) (r : List Pkt × Tail) (x : ByteList) :
    resume c body max (consP p r) x = consP p (resume c body max r x) := by
  unfold resume consP
  cases r.2 <;> rfl

/-- induction on the frames of a buffer: to prove something of `bs`, assume it of what is left whenever `decode1` takes a
    packet off `bs` (a frame has at least two bytes, so this ends) -/
theorem decode_induction (c : Copy) (body : FixedHeader → ByteList → Except (BodyErr ε) Pkt) (max : Limit)
    {motive : ByteList → Prop}
    (step : ∀ bs, (∀ p rest, decode1 c body max bs = .packet p rest → motive rest) → motive bs)
    (bs : ByteList) : motive bs := by
  have : ∀ n (bs : ByteList), bs.length < n → motive bs := by
    intro n
    induction n with
    | zero => intro bs h; exact absurd h (Nat.not_lt_zero _)
    | succ n ih =>
      intro bs h
      exact step bs fun p rest hd => ih rest (by have := decode1_packet_rest_len hd; omega)
  exact this _ bs (Nat.lt_succ_self _)

theorem decodeAll_append (c : Copy) (body : FixedHeader → ByteList → Except (BodyErr ε) Pkt)
    (max : Limit) (hg : Guarded c body) (x bs : ByteList) :
    decodeAll c body max (bs ++ x) = resume c body max (decodeAll c body max bs) x := by
  induction bs using decode_induction c body max with | step bs ih
  rcases Step.kinds (decode1 c body max bs) with ⟨p, r, h⟩ | ⟨n, h⟩ | ⟨e, h⟩ | ⟨n, r, h⟩
  · rw [decodeAll_packet (decode1_append_packet x h), decodeAll_packet h, resume_consP, ih p r h]
  · rw [decodeAll_needMore h]; rfl
  · rw [decodeAll_err (decode1_append_err x h), decodeAll_err h]; rfl
  · exact absurd h (guarded_not_swallowed hg max bs n r)

theorem decodeAll_more (c : Copy) (body : FixedHeader → ByteList → Except (BodyErr ε) Pkt)
    (max : Limit) (hg : Guarded c body) (bs : ByteList) {buf : ByteList} :
    (decodeAll c body max bs).2 = .more buf → ∃ n, decode1 c body max buf = .needMore n := by
  induction bs using decode_induction c body max with | step bs ih
  intro h
  rcases Step.kinds (decode1 c body max bs) with ⟨p, r, hd⟩ | ⟨n, hd⟩ | ⟨e, hd⟩ | ⟨n, r, hd⟩
  · rw [decodeAll_packet hd] at h
    exact ih p r hd h
  · rw [decodeAll_needMore hd] at h; cases h; exact ⟨n, hd⟩
  · rw [decodeAll_err hd] at h; cases h
  · exact absurd hd (guarded_not_swallowed hg max bs n r)

theorem feed_eq (c : Copy) (body : FixedHeader → ByteList → Except (BodyErr ε) Pkt)
    (max : Limit) (hg : Guarded c body) :
    ∀ (chunks : List ByteList) (buf : ByteList) (n : Nat), decode1 c body max buf = .needMore n →
      feed c body max buf chunks = decodeAll c body max (buf ++ chunks.flatten) := by
  intro chunks
  induction chunks with
  | nil => intro buf n h; simp [feed, decodeAll_needMore h]
  | cons ch chs ih =>
    intro buf n h
    unfold feed
    rw [List.flatten_cons, ← List.append_assoc,
      decodeAll_append c body max hg chs.flatten (buf ++ ch)]
    unfold resume
    cases ht : (decodeAll c body max (buf ++ ch)).2 with
    | more buf' =>
      obtain ⟨m, hm⟩ := decodeAll_more c body max hg _ ht
      simp only
      rw [ih buf' m hm]
    | error e => rfl

theorem eofDrain_needMore {c : Copy} {body : FixedHeader → ByteList → Except (BodyErr ε) Pkt}
    {max : Limit} {buf : ByteList} {n : Nat} (f : Nat) (h : decode1 c body max buf = .needMore n) :
    eofDrain c body max (f + 1) buf = ([], finish (.more buf)) := by
  simp [eofDrain, h]

theorem decodeStream_packet {c : Copy} {body : FixedHeader → ByteList → Except (BodyErr ε) Pkt}
    {max : Limit} {bs rest : ByteList} {p : Pkt} (h : decode1 c body max bs = .packet p rest) :
    decodeStream c body max bs = consF p (decodeStream c body max rest) := by
  unfold decodeStream; rw [decodeAll_packet h]; rfl

theorem decodeStream_needMore {c : Copy} {body : FixedHeader → ByteList → Except (BodyErr ε) Pkt}
    {max : Limit} {bs : ByteList} {n : Nat} (h : decode1 c body max bs = .needMore n) :
    decodeStream c body max bs = ([], finish (.more bs)) := by
  unfold decodeStream; rw [decodeAll_needMore h]

theorem decodeStream_err {c : Copy} {body : FixedHeader → ByteList → Except (BodyErr ε) Pkt}
    {max : Limit} {bs : ByteList} {e : ErrKind} (h : (decode1 c body max bs).err? = some e) :
    decodeStream c body max bs = ([], .error e) := by
  unfold decodeStream; rw [decodeAll_err h]; rfl

theorem finish_more (b : ByteList) :
    finish (.more b) = if b.isEmpty then Final.eofClean else Final.eofPartial := by
  cases b <;> rfl

theorem pull_spec (need : Nat) : ∀ (chunks : List ByteList) (total : Nat) (buf : ByteList),
    (∀ ch ∈ chunks, ch ≠ []) →
    match pull need total buf chunks with
    | .closed b => b = buf ++ chunks.flatten ∧ (chunks = [] ∨ total + chunks.flatten.length < need)
    | .got b chs => ∃ pre, chunks = pre ++ chs ∧ pre ≠ [] ∧ b = buf ++ pre.flatten := by
  intro chunks
  induction chunks with
  | nil => intro total buf _; exact ⟨(List.append_nil _).symm, Or.inl rfl⟩
  | cons ch chs ih =>
    intro total buf hne
    have hch : ch.isEmpty = false := by
      cases ch with
      | nil => exact absurd rfl (hne [] List.mem_cons_self)
      | cons _ _ => rfl
    rw [pull, hch, if_neg Bool.false_ne_true]
    by_cases hge : total + ch.length ≥ need
    · rw [if_pos hge]
      exact ⟨[ch], rfl, List.cons_ne_nil _ _, by rw [List.flatten_singleton]⟩
    · rw [if_neg hge]
      have := ih (total + ch.length) (buf ++ ch) fun c hc => hne c (List.mem_cons_of_mem _ hc)
      cases hp : pull need (total + ch.length) (buf ++ ch) chs with
      | closed b =>
        rw [hp] at this
        obtain ⟨rfl, h⟩ := this
        refine ⟨by rw [List.flatten_cons, List.append_assoc], Or.inr ?_⟩
        rw [List.flatten_cons, List.length_append]
        rcases h with rfl | h
        · rw [List.flatten_nil, List.length_nil]; omega
        · omega
      | got b chs' =>
        rw [hp] at this
        obtain ⟨pre, rfl, _, rfl⟩ := this
        exact ⟨ch :: pre, rfl, List.cons_ne_nil _ _, by rw [List.flatten_cons, List.append_assoc]⟩

/-- measure for `netRun`: a packet takes at least two bytes off the buffer, `read_bytes` at least
    one chunk off the socket, and a wait inside `readv` leaves `readv` -/
def netMeasure (mode : Option Nat) (buf : ByteList) (chunks : List ByteList) : Nat :=
  2 * (buf.length + chunks.flatten.length + chunks.length) + mode.isSome.toNat

theorem netMeasure_packet {rest buf : ByteList} (h : rest.length + 2 ≤ buf.length) (m m' : Option Nat)
    (chunks : List ByteList) : netMeasure m' rest chunks < netMeasure m buf chunks := by
  have := Bool.toNat_le m'.isSome
  unfold netMeasure
  omega

theorem netMeasure_leave (held : Nat) (buf : ByteList) (chunks : List ByteList) :
    netMeasure none buf chunks < netMeasure (some held) buf chunks :=
  Nat.lt_succ_self _

theorem netMeasure_pull (buf : ByteList) {pre : List ByteList} (chs : List ByteList) (h : pre ≠ []) :
    netMeasure none (buf ++ pre.flatten) chs < netMeasure none buf (pre ++ chs) := by
  have := List.length_pos_iff.mpr h
  simp only [netMeasure, List.length_append, List.flatten_append]
  omega

theorem netRun_eq (c : Copy) (body : FixedHeader → ByteList → Except (BodyErr ε) Pkt)
    (max : Limit) (k : Nat) (hg : Guarded c body) :
    ∀ (f : Nat) (mode : Option Nat) (buf : ByteList) (chunks : List ByteList),
      (∀ ch ∈ chunks, ch ≠ []) → netMeasure mode buf chunks < f →
      netRun c body max k f mode buf chunks = decodeStream c body max (buf ++ chunks.flatten) := by
  intro f
  induction f with
  | zero => intro mode buf chunks _ h; exact absurd h (Nat.not_lt_zero _)
  | succ f ih =>
    intro mode buf chunks hne hm
    have hm := Nat.le_of_lt_succ hm
    rcases Step.kinds (decode1 c body max buf) with ⟨p, r, hd⟩ | ⟨n, hd⟩ | ⟨e, hd⟩ | ⟨n, r, hd⟩
    · have hr := fun m' => ih m' r chunks hne
        (Nat.lt_of_lt_of_le (netMeasure_packet (decode1_packet_rest_len hd) mode m' chunks) hm)
      rw [decodeStream_packet (decode1_append_packet _ hd)]
      cases mode with
      | none => simp only [netRun, hd, hr]
      | some held =>
        simp only [netRun, hd]
        split <;> rw [hr]
    · cases mode with
      | some held =>
        simp only [netRun, hd]
        exact ih none buf chunks hne (Nat.lt_of_lt_of_le (netMeasure_leave held buf chunks) hm)
      | none =>
        simp only [netRun, hd]
        have hp := pull_spec n chunks 0 buf hne
        cases hq : pull n 0 buf chunks with
        | closed b =>
          rw [hq] at hp
          obtain ⟨rfl, hb2⟩ := hp
          -- too little arrived to complete what the decoder waits for
          have : ∃ m, decode1 c body max (buf ++ chunks.flatten) = .needMore m := by
            rcases hb2 with rfl | h
            · exact ⟨n, by rw [List.flatten_nil, List.append_nil]; exact hd⟩
            · exact needMore_lower_bound hd _ (by omega)
          obtain ⟨m, hm'⟩ := this
          rw [decodeStream_needMore hm', finish_more]
        | got b chs =>
          rw [hq] at hp
          obtain ⟨pre, rfl, h2, rfl⟩ := hp
          rw [List.flatten_append, ← List.append_assoc]
          exact ih none _ chs (fun ch hc => hne ch (List.mem_append_right _ hc))
            (Nat.lt_of_lt_of_le (netMeasure_pull buf chs h2) hm)
    · rw [decodeStream_err (decode1_append_err _ hd)]
      rcases err?_cases hd with ⟨hs, rfl⟩ | ⟨hs, rfl⟩ | ⟨r, hs, rfl⟩ | ⟨r, hs, rfl⟩ <;>
        cases mode <;> simp only [netRun, hs]
    · exact absurd hd (guarded_not_swallowed hg max buf n r)

/-- `readv` only ever removes whole frames from the front: what it appended, followed by the
    frames of what it left, are the frames of what it was given -/
theorem readv_spec (c : Copy) (body : FixedHeader → ByteList → Except (BodyErr ε) Pkt)
    (max : Limit) (k : Nat) (hg : Guarded c body) :
    ∀ (f held : Nat) (buf : ByteList), buf.length < f →
      (readv c body max k f held buf).2.1.length ≤ buf.length ∧
      match (readv c body max k f held buf).2.2 with
      | none => decodeAll c body max buf =
          ((readv c body max k f held buf).1 ++ (decodeAll c body max (readv c body max k f held buf).2.1).1,
           (decodeAll c body max (readv c body max k f held buf).2.1).2)
      | some e => decodeAll c body max buf = ((readv c body max k f held buf).1, .error e) := by
  intro f
  induction f with
  | zero => intro held buf h; exact absurd h (Nat.not_lt_zero _)
  | succ f ih =>
    intro held buf hf
    generalize hr : readv c body max k (f + 1) held buf = res
    rw [readv] at hr
    rcases Step.kinds (decode1 c body max buf) with ⟨p, r, hd⟩ | ⟨n, hd⟩ | ⟨e, hd⟩ | ⟨n, r, hd⟩
    · have hl := decode1_packet_rest_len hd
      simp only [hd] at hr
      rw [decodeAll_packet hd]
      split at hr <;> subst hr
      · exact ⟨by simp only; omega, rfl⟩
      · have := ih (held + 1) r (by omega)
        refine ⟨by simp only; omega, ?_⟩
        simp only
        split <;> rename_i he <;> rw [he] at this <;> simp only at this <;> rw [this.2] <;> rfl
    · simp only [hd] at hr; subst hr
      exact ⟨Nat.le_refl _, by rw [decodeAll_needMore hd]; rfl⟩
    · have he := decodeAll_err hd
      rcases err?_cases hd with ⟨hs, rfl⟩ | ⟨hs, rfl⟩ | ⟨r, hs, rfl⟩ | ⟨r, hs, rfl⟩ <;>
        simp only [hs] at hr <;> subst hr
      · exact ⟨Nat.le_refl _, he⟩
      · exact ⟨Nat.le_refl _, he⟩
      · exact ⟨decode1_malformed_rest_le hs, he⟩
      · exact absurd hs (decode1_ne_panic _ _ _ _ _)
    · exact absurd hd (guarded_not_swallowed hg max buf n r)

/-- the batches the broker link forms from a buffered burst (`read`, then `readv` with its
    `max_connection_buffer_len` cut), concatenated, are the frames of the burst -/
theorem linkBatches_flatten (c : Copy) (body : FixedHeader → ByteList → Except (BodyErr ε) Pkt)
    (max : Limit) (k : Nat) (hg : Guarded c body) :
    ∀ (f : Nat) (buf : ByteList), buf.length < f →
      ((linkBatches c body max k f buf).1.flatten, (linkBatches c body max k f buf).2) =
        decodeAll c body max buf := by
  intro f
  induction f with
  | zero => intro buf h; exact absurd h (Nat.not_lt_zero _)
  | succ f ih =>
    intro buf hf
    generalize hb : linkBatches c body max k (f + 1) buf = res
    rw [linkBatches] at hb
    rcases Step.kinds (decode1 c body max buf) with ⟨p, r, hd⟩ | ⟨n, hd⟩ | ⟨e, hd⟩ | ⟨n, r, hd⟩
    · have hl := decode1_packet_rest_len hd
      have hr := readv_spec c body max k hg (r.length + 1) 1 r (by omega)
      simp only [hd] at hb
      rw [decodeAll_packet hd]
      split at hb <;> rename_i he <;> rw [he] at hr <;> subst hb
      · rw [hr.2, ← ih (readv c body max k (r.length + 1) 1 r).2.1 (by omega)]; rfl
      · rw [hr.2]; simp only [List.flatten_cons, List.flatten_nil, List.append_nil]; rfl
    · simp only [hd] at hb; subst hb; rw [decodeAll_needMore hd]; rfl
    · rw [decodeAll_err hd]
      rcases err?_cases hd with ⟨hs, rfl⟩ | ⟨hs, rfl⟩ | ⟨r, hs, rfl⟩ | ⟨r, hs, rfl⟩ <;>
        simp only [hs] at hb <;> subst hb <;> rfl
    · exact absurd hd (guarded_not_swallowed hg max buf n r)

end
section
variable {Pkt : Type}

theorem readbBatches_flatten (m : Nat) : ∀ (f : Nat) (ready : List Pkt), ready.length < f →
    (readbBatches m f ready).flatten = ready := by
  intro f
  induction f with
  | zero => intro r h; omega
  | succ f ih =>
    intro ready hf
    cases ready with
    | nil => simp [readbBatches]
    | cons p ps =>
      simp only [readbBatches, readbTake, List.flatten_cons]
      have h1 : 1 ≤ Nat.max (m - 1) 1 := Nat.le_max_right _ _
      rw [ih _ (by simp only [List.length_drop, List.length_cons] at hf ⊢; omega)]
      exact List.take_append_drop _ _

theorem readbBatches_bound (m : Nat) : ∀ (f : Nat) (ready : List Pkt),
    ∀ b ∈ readbBatches m f ready, b.length ≤ Nat.max (m - 1) 1 := by
  intro f
  induction f with
  | zero => intro r b hb; simp [readbBatches] at hb
  | succ f ih =>
    intro ready b hb
    cases ready with
    | nil => simp [readbBatches] at hb
    | cons p ps =>
      simp only [readbBatches, readbTake, List.mem_cons] at hb
      rcases hb with h | h
      · subst h; simp only [List.length_take]; exact Nat.min_le_left _ _
      · exact ih _ b h
end
end Frame
