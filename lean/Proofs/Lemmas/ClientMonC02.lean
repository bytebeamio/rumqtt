/- The C02 clauses at a `Step`. -/
import Proofs.Lemmas.ClientRun
namespace Client
open Client.Spec

variable {l l' : LState} {g g' : Ghost} {o : Obs}

theorem held_mem_heldTags (hs : SInv l'.st) (hg : GInv0 l' g') (hv : o.view = g'.pView)
    (hc : o.col = g'.pCol) (t : Nat) (h : Held l' t) : t ∈ heldTags g' o := by
  unfold heldTags
  rw [hv, hc, hg.view, hg.col, hg.pend]
  rcases h with ⟨i, p, hp, ht⟩ | ⟨c, hc', ht⟩ | ⟨p, hp, ht⟩
  · apply List.mem_append_left; apply List.mem_append_left
    exact (mem_pubTags _ _).mpr ⟨p, (mem_cleanRequests hs _).mpr (Or.inl ⟨p, rfl, List.mem_iff_getElem?.mpr ⟨i, hp⟩⟩), ht⟩
  · apply List.mem_append_left; apply List.mem_append_right
    rw [hc']; simp [colTag, ht]
  · apply List.mem_append_right
    exact (mem_pubTags _ _).mpr ⟨p, hp, ht⟩

theorem C02_noLoss_ok (h : Step l g o l' g') : C02.noLoss g' o = true := by
  have hv := h.fields.1
  have hc := h.fields.2.1
  have h := h.post
  unfold C02.noLoss
  simp only [Bool.or_eq_true, List.all_eq_true, List.contains_iff_mem]
  exact .inr fun t ht => (h.g1.kept t ht).imp_right (held_mem_heldTags h.inv0.sinv h.g0 hv hc t)

theorem C02_relHeld_ok (h : Step l g o l' g') : C02.relHeld g' o = true := by
  have hv := h.fields.1
  have h := h.post
  unfold C02.relHeld
  simp only [Bool.or_eq_true, List.all_eq_true, List.contains_iff_mem]
  right
  intro i hi
  rw [hv, h.g0.view]
  exact (mem_cleanRequests h.inv0.sinv _).mpr (Or.inr (Or.inl ⟨i, rfl, (h.g0.rels.mem i).mp hi⟩))

theorem C02_cleanExact_ok (h : Step l g o l' g') : C02.cleanExact g o = true := by
  obtain ⟨sop, rfl⟩ := h.sop
  cases sop with
  | clean =>
    show (cleanRequests l.st == g.pView && (cleanRequests (cleanState l.st)).isEmpty &&
      (cleanState l.st).inflight == 0) = true
    rw [h.pre.g0.view, cleanState_clean h.pre.inv0.sinv, beq_self_eq_true]
    rfl
  | _ => rfl

/-- refused: MQTT 5 and a reason code other than Success / No matching subscribers -/
theorem pubrec_answer {s : State} (hs : SInv s) (i r : Nat) {x : Pub} (hx : s.outgoingPub[i]? = some (some x)) :
    ((handleIncoming s (.pubrec i r)).2 = .ok (some (.pubrel i)) ∧ relContains (handleIncoming s (.pubrec i r)).1 i = true) ↔
      ¬ (s.ver = .v5 ∧ ackOk r = false) := by
  have he := handleIncoming_eff hs (.pubrec i r)
  generalize handleIncoming s (.pubrec i r) = res at he ⊢
  cases he with
  | unsol _ _ s' hp h _ => cases hp; rcases h with h | h <;> rw [h] at hx <;> cases hx
  | acked _ _ _ res hp _ he' hwhy =>
    cases hp
    exact ⟨fun h => absurd h.1 (he'.rel.2 i), fun h => absurd (hwhy r rfl) h⟩
  | moved _ _ _ s' _ hi hc hv =>
    exact ⟨fun _ => hv, fun _ => ⟨rfl, by rw [relContains_of_set (congrArg Core.rel hc) hi i, if_pos rfl]⟩⟩
  | other _ _ _ hp => cases hp

theorem C02_relAnswered_of
    (hrec : ∀ i r, o.op = .inc (.pubrec i r) → (alookup g.unacked i).isSome = true → pubrecAccepts g.ver r = true →
      o.outcome = .ok (some (.pubrel i))) :
    C02.relAnswered g o g' = true := by
  unfold C02.relAnswered
  rw [Bool.or_eq_true]
  right
  split
  · rfl
  · split
    · rename_i i r hop
      split
      · rename_i hc
        rw [Bool.and_eq_true] at hc
        rw [hrec i r hop hc.1 hc.2]
        exact beq_self_eq_true _
      · rfl
    · rfl

theorem C02_relAnswered_ok (h : Step l g o l' g') : C02.relAnswered g o g' = true := by
  obtain ⟨sop, rfl⟩ := h.sop
  refine C02_relAnswered_of fun i r hop hlook hacc => ?_
  rw [sstepObs_op] at hop
  subst hop
  rw [h.pre.g1.unacked.isSome_look, occAt_iff] at hlook
  obtain ⟨x, hx⟩ := hlook
  refine ((pubrec_answer h.pre.inv0.sinv i r hx).mpr ?_).1
  -- MQTT 5 and a refusing reason code: `pubrecAccepts` is false
  rintro ⟨hv, hno⟩
  rw [pubrecAccepts, h.pre.g0.ver, show l.st.ver = .v5 from hv, Bool.or_assoc, show (r == 0 || r == 16) = false from hno] at hacc
  cases hacc

theorem C02_checks_ok (h : Step l g o l' g') (d d' : Diag) : C02.checks g d o g' d' = none :=
  firstFail_cons_chk (C02_noLoss_ok h) <| firstFail_cons_chk (C02_relAnswered_ok h) <|
    firstFail_cons_chk (C02_relHeld_ok h) <| firstFail_cons_chk (C02_cleanExact_ok h) rfl

end Client
