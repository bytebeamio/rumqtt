/-
What a call does to the core TOGETHER with what it returns: `IncEff` for an incoming packet (under `SInv`), `OutEff`
for a request the loop lets through (under `Inv0`). Those two invariants are proved by walking the handlers, since
the relations are proved from them and leave the id counter and the ping fields undescribed; every other invariant
is a case analysis over the relations. A stored or parked publish is one case wherever it comes from.
-/
import Proofs.Lemmas.ClientInv0
import Proofs.Lemmas.ClientEffects
namespace Client
open Client.Spec

theorem idOnly_of_core {s s' : State} (h : s'.core = s.core) : s'.core = { s.core with lastPkid := s'.lastPkid } := by
  rw [show s'.lastPkid = s.lastPkid from congrArg Core.lastPkid h]; exact h

theorem publishWithId_cases {s : State} {pd : List Request} (h0 : Inv0 ⟨s, pd⟩) (p : Pub)
    (h2 : p.pkid ≤ s.maxInflight) (hinf : s.inflight < u16Max) :
    (s.outgoingPub[p.pkid]? = some none ∧ relContains s p.pkid = false ∧
      publishWithId s p = ((storePub s p).pushOut (.publish p.pkid), .ok (some (.publish p)))) ∨
    (busyId s p.pkid ∧
      publishWithId s p = ({ s with collision := some p }.pushOut (.awaitAck p.pkid), .ok none)) := by
  obtain ⟨slot, hslot⟩ := h0.slot_some p.pkid h2
  cases slot with
  | none =>
    rcases Bool.eq_false_or_eq_true (relContains s p.pkid) with hr | hr
    · exact Or.inr ⟨Or.inr hr, publishWithId_park_eq s p none hslot (Or.inr hr)⟩
    · exact Or.inl ⟨hslot, hr, publishWithId_store_eq s p hslot hr hinf⟩
  | some x => exact Or.inr ⟨Or.inl ⟨x, hslot⟩, publishWithId_park_eq s p (some x) hslot (Or.inl rfl)⟩

theorem busyId_congr {s s' : State} (h : s'.core = s.core) (i : Nat) : busyId s' i ↔ busyId s i :=
  busyId_of_tables (congrArg Core.pub h) (congrArg Core.rel h) i

theorem busyId_nextPkidSt (s : State) (i : Nat) : busyId (nextPkidSt s) i ↔ busyId s i :=
  busyId_of_tables (congrArg Core.pub (nextPkidSt_core s)) (congrArg Core.rel (nextPkidSt_core s)) i


theorem ackedId_of_not_ack {p : Incoming} (h : p.isAck = false) : ackedId p = none := by
  cases p <;> first | rfl | cases h

inductive IncEff (s : State) : Incoming → State × Outcome → Prop
  /-- PUBACK / PUBREC for an id under which no publish is stored -/
  | unsol (p : Incoming) (i : Nat) (s' : State) (hp : ackedId p = some i)
      (h : s.outgoingPub[i]? = none ∨ s.outgoingPub[i]? = some none) (hc : s'.core = s.core) :
      IncEff s p (s', .err (.unsolicited i))
  /-- PUBACK, or PUBREC with a failure reason (`hwhy`) -/
  | acked (p : Incoming) (i : Nat) (x : Pub) (res : State × Outcome) (hp : ackedId p = some i)
      (hx : s.outgoingPub[i]? = some (some x))
      (he : ReleaseEff s i { s.core with pub := s.outgoingPub.set i none, inf := s.inflight - 1 } res)
      (hwhy : ∀ r, p = .pubrec i r → s.ver = .v5 ∧ ackOk r = false) : IncEff s p res
  /-- PUBREC (MQTT 3.1.1, or a reason code below 0x80): the flow moves from the slot to the release bit -/
  | moved (i r : Nat) (x : Pub) (s' : State) (hx : s.outgoingPub[i]? = some (some x)) (hi : i < s.outgoingRel.length)
      (hc : s'.core = { s.core with pub := s.outgoingPub.set i none, rel := s.outgoingRel.set i true })
      (hv : ¬ (s.ver = .v5 ∧ ackOk r = false)) : IncEff s (.pubrec i r) (s', .ok (some (.pubrel i)))
  | unsolComp (i r : Nat) (s' : State) (h : relContains s i = false) (hc : s'.core = s.core) :
      IncEff s (.pubcomp i r) (s', .err (.unsolicited i))
  | comped (i r : Nat) (res : State × Outcome) (h : relContains s i = true)
      (he : ReleaseEff s i { s.core with rel := s.outgoingRel.set i false, inf := s.inflight - 1 } res) :
      IncEff s (.pubcomp i r) res
  | other (p : Incoming) (s' : State) (o : Outcome) (hq : p.isAck = false)
      (hc : s'.core = s.core) (ho : (∀ q, o ≠ .ok (some (.publish q))) ∧ ∀ j, o ≠ .ok (some (.pubrel j))) :
      IncEff s p (s', o)

theorem ack_eff {s : State} (hs : SInv s) (i r : Nat) :
    IncEff s (.puback i r) (handlePuback s i) ∧ IncEff s (.pubrec i r) (handlePubrec s i r) ∧
    IncEff s (.pubcomp i r) (handlePubcomp s i) := by
  have hcnt := hs.counter
  refine ⟨?_, ?_, ?_⟩
  · unfold handlePuback
    split
    · rename_i h; exact .unsol _ i _ rfl (.inl h) rfl
    · rename_i h; exact .unsol _ i _ rfl (.inr h) rfl
    · rename_i x hslot
      have hpos := occ_pos_of_slot _ _ _ hslot
      rw [if_neg (by omega)]
      exact .acked _ i x _ rfl hslot (release_eff s { s with outgoingPub := s.outgoingPub.set i none, inflight := s.inflight - 1 } i rfl) fun _ => nofun
  · unfold handlePubrec
    split
    · rename_i h; exact .unsol _ i _ rfl (.inl h) rfl
    · rename_i h; exact .unsol _ i _ rfl (.inr h) rfl
    · rename_i x hslot
      have hlt : i < s.outgoingRel.length := by
        have := hs.lenPub; have := hs.lenRel; have := getElem?_lt_of_some hslot; omega
      have hpos := occ_pos_of_slot _ _ _ hslot
      simp only
      by_cases hv : (decide (s.ver = Version.v5) && !ackOk r) = true
      · rw [if_pos hv, if_neg (by omega)]
        exact .acked _ i x _ rfl hslot (release_eff s { s with outgoingPub := s.outgoingPub.set i none, inflight := s.inflight - 1 } i rfl) fun _ e => by cases e; simpa using hv
      · rw [if_neg hv, if_pos hlt]
        exact .moved i r x _ hslot hlt rfl (by simpa using hv)
  · unfold handlePubcomp
    by_cases hc : relContains s i = true
    · have hpos := relCount_pos_of_bit _ _ ((relContains_eq s i).mp hc)
      rw [if_pos hc, if_neg (by omega)]
      exact .comped i r _ hc (release_eff s { s with outgoingRel := s.outgoingRel.set i false, inflight := s.inflight - 1 } i rfl)
    · rw [if_neg hc]
      exact .unsolComp i r _ (by simpa using hc) rfl

/-- the handlers run on `s.pushEv e`, which has the core of `s` -/
theorem IncEff.pushed {s : State} {e : Event} {p : Incoming} {res : State × Outcome} (h : IncEff (s.pushEv e) p res) :
    IncEff s p res := by
  cases h with
  | unsol p i s' hp h hc => exact .unsol p i s' hp h hc
  | acked p i x res hp hx he hwhy => exact .acked p i x res hp hx (he.base rfl) hwhy
  | moved i r x s' hx hi hc hv => exact .moved i r x s' hx hi hc hv
  | unsolComp i r s' h hc => exact .unsolComp i r s' h hc
  | comped i r res h he => exact .comped i r res h (he.base rfl)
  | other p s' o hq hc ho => exact .other p s' o hq hc ho

theorem handleIncoming_eff {s : State} (hs : SInv s) (p : Incoming) : IncEff s p (handleIncoming s p) := by
  have oth : ∀ p : Incoming, p.isAck = false → IncEff s p (handleIncoming s p) := fun p hq => by
    rw [handleIncoming_quiet s p hq]
    exact .other _ _ _ hq rfl ⟨(quietOutcome_facts _ p).2.1, (quietOutcome_facts _ p).2.2.1⟩
  cases p with
  | puback i r => exact (ack_eff (hs.pushEv (.incoming (.puback i r))) i r).1.pushed
  | pubrec i r => exact (ack_eff (hs.pushEv (.incoming (.pubrec i r))) i r).2.1.pushed
  | pubcomp i r => exact (ack_eff (hs.pushEv (.incoming (.pubcomp i r))) i r).2.2.pushed
  | _ => exact oth _ rfl

theorem ReleaseEff.noPanic {s : State} {i : Nat} {c0 : Core} {res : State × Outcome} (h : ReleaseEff s i c0 res) :
    res.2 ≠ .panic := by cases h <;> nofun

/-- the panic sites of the acknowledgement handlers are excluded where `ack_eff` chooses the branch -/
theorem handleIncoming_noPanic {s : State} (h : SInv s) (p : Incoming) : (handleIncoming s p).2 ≠ .panic := by
  have he := handleIncoming_eff h p
  generalize hres : handleIncoming s p = res at he
  cases he with
  | acked _ _ _ _ _ _ he => exact he.noPanic
  | comped _ _ _ _ he => exact he.noPanic
  | other p _ _ hq => rw [← hres, handleIncoming_quiet s p hq]; exact (quietOutcome_facts _ p).1
  | _ => nofun


/-- the publish as it reaches `publishWithId`: an unnumbered one gets the next id -/
def withId (s : State) (p : Pub) : Pub := if p.pkid = 0 then { p with pkid := nextPkidVal s } else p

theorem withId_of_ne {s : State} {p : Pub} (h : p.pkid ≠ 0) : withId s p = p := if_neg h
theorem withId_of_eq {s : State} {p : Pub} (h : p.pkid = 0) : withId s p = { p with pkid := nextPkidVal s } := if_pos h

theorem withId_fields (s : State) (p : Pub) : (withId s p).tag = p.tag ∧ (withId s p).qos = p.qos := by
  unfold withId; split <;> exact ⟨rfl, rfl⟩

/-- a publish with QoS > 0 comes from the channel (unnumbered, nothing pending, nothing parked) or is the head of
    `pending`; `pd'` is what it leaves there -/
def PubFrom (s : State) (pd : List Request) (p : Pub) (pd' : List Request) : Prop :=
  (pd = [] ∧ pd' = [] ∧ p.pkid = 0 ∧ s.collision = none) ∨ pd = .publish p :: pd'

/-- request `r` reaches the state machine while `pd` is pending and leaves `pd'` there -/
inductive OutEff (s : State) (pd : List Request) : Request → List Request → State × Outcome → Prop
  /-- a QoS 0 publish, a subscription, a ping, …: only the id counter may move -/
  | idOnly (r : Request) (s' : State) (o : Outcome)
      (hpub : ∀ p, r = .publish p → p.qos = 0 ∧ o = .ok (some (.publish p))) (hrel : ∀ i, r ≠ .pubrel i)
      (hc : s'.core = { s.core with lastPkid := s'.lastPkid }) : OutEff s pd r pd (s', o)
  | store (p : Pub) (s' : State) (pd' : List Request) (hpd : PubFrom s pd p pd') (hq : p.qos ≠ 0)
      (hslot : s.outgoingPub[(withId s p).pkid]? = some none)
      (hrel : relContains s (withId s p).pkid = false)
      (hc : s'.core = ({ s.core with lastPkid := s'.lastPkid }).store (withId s p)) :
      OutEff s pd (.publish p) pd' (s', .ok (some (.publish (withId s p))))
  /-- the id is in use: the publish waits in the collision slot -/
  | park (p : Pub) (s' : State) (pd' : List Request) (hpd : PubFrom s pd p pd') (hq : p.qos ≠ 0)
      (hbusy : busyId s (withId s p).pkid)
      (hc : s'.core = { s.core with lastPkid := s'.lastPkid, col := some (withId s p) }) :
      OutEff s pd (.publish p) pd' (s', .ok none)
  /-- a release is replayed from the head of `pending` -/
  | setRel (i : Nat) (s' : State) (pd' : List Request) (hpd : pd = .pubrel i :: pd') (hi : i < s.outgoingRel.length)
      (hc : s'.core = { s.core with rel := s.outgoingRel.set i true, inf := s.inflight + 1 }) :
      OutEff s pd (.pubrel i) pd' (s', .ok (some (.pubrel i)))

/-- fresh: the id counter advances, then `publishWithId_cases` on `nextPkidSt s`; replayed: `publishWithId_cases`
    directly -/
theorem publish_eff {s : State} {pd pd' : List Request} (h0 : Inv0 ⟨s, pd⟩) (p : Pub) (hq : p.qos ≠ 0) (ha : p.alias = none)
    (h2 : p.pkid ≤ s.maxInflight) (hw : s.inflight < s.maxInflight) (hpd : PubFrom s pd p pd') :
    OutEff s pd (.publish p) pd' (handleOutgoing s (.publish p)) := by
  obtain ⟨hp, hv1, hv2, hv3⟩ := h0.nextPkid
  have hup := h0.upLe; have hml := h0.maxLe
  simp only at hup hml
  by_cases hid : p.pkid = 0
  · have e1 : withId s p = { p with pkid := nextPkidVal s } := withId_of_eq hid
    have hcore := nextPkidSt_core s
    have hrel := relContains_congr (show (nextPkidSt s).outgoingRel = s.outgoingRel from congrArg Core.rel hcore)
    rw [publish_fresh_eq s p ha hq hid hp]
    rcases publishWithId_cases h0.nextPkidSt { p with pkid := nextPkidVal s }
        (by rw [(nextPkidSt_same s).max]; exact hv2)
        (by rw [show (nextPkidSt s).inflight = s.inflight from congrArg Core.inf hcore]; omega) with
      ⟨hs, hr, heq⟩ | ⟨hb, heq⟩ <;> rw [heq, ← e1]
    · refine .store p _ pd' hpd hq ?_ ?_ ?_
      · rw [e1, ← show (nextPkidSt s).outgoingPub = s.outgoingPub from congrArg Core.pub hcore]; exact hs
      · rw [e1, ← hrel]; exact hr
      · rw [core_pushOut, storePub_core, hcore]; rfl
    · refine .park p _ pd' hpd hq (e1 ▸ (busyId_nextPkidSt s _).mp hb) ?_
      rw [core_pushOut]
      exact congrArg (fun c : Core => { c with col := some (withId s p) }) hcore
  · have e1 : withId s p = p := withId_of_ne hid
    rw [publish_replay_eq s p ha hq hid]
    rcases publishWithId_cases h0 p h2 (by omega) with ⟨hs, hr, heq⟩ | ⟨hb, heq⟩ <;> rw [heq]
    · have := OutEff.store (s := s) (pd := pd) p ((storePub s p).pushOut (.publish p.pkid)) pd' hpd hq (e1.symm ▸ hs)
        (e1.symm ▸ hr) (by rw [core_pushOut, storePub_core, e1]; rfl)
      rwa [e1] at this
    · exact .park p _ pd' hpd hq (e1.symm ▸ hb) (by rw [e1]; rfl)

theorem handleOutgoing_eff {s : State} {pd pd' : List Request} {op : LOp} {r : Request} (h0 : Inv0 ⟨s, pd⟩)
    (hf : LFires s pd op (.out r) pd') : OutEff s pd r pd' (handleOutgoing s r) := by
  have hw := h0.window
  cases hf with
  | user u hpd hgt =>
    have hgate := gate_open hgt
    subst hpd
    by_cases hu : ∃ q t, u = .publish q t
    · obtain ⟨q, t, rfl⟩ := hu
      by_cases hq : q = 0
      · subst hq
        rw [UserReq.toRequest, publish_qos0_eq]
        exact .idOnly _ _ _ (fun p e => by cases e; exact ⟨rfl, rfl⟩) (fun _ => nofun) rfl
      · exact publish_eff h0 ⟨q, 0, t, none⟩ hq rfl (Nat.zero_le _) hgate.1 (.inl ⟨rfl, rfl, rfl, hgate.2⟩)
    · refine .idOnly _ _ _ (fun p e => ?_) (fun i e => ?_) (user_nonpublish_core s u fun q t h => hu ⟨q, t, h⟩)
      · cases u <;> first | exact absurd ⟨_, _, rfl⟩ hu | cases e
      · cases u <;> cases e
  | pend _ _ hpd hr =>
    subst hpd
    simp only [List.length_cons] at hw
    rcases pend_cases h0 with ⟨p, rfl, hq, h2, ha⟩ | ⟨i, rfl, hlt, heff⟩
    · exact publish_eff h0 p hq ha h2 (by omega) (.inr rfl)
    · rw [heff]; exact .setRel i _ _ rfl hlt rfl
  | ping => exact .idOnly _ _ _ (fun _ => nofun) (fun _ => nofun) (idOnly_of_core (ping_core s))

end Client
