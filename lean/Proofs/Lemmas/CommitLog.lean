/-
Lemmas for C13 about the commit log model (`Model/CommitLog.lean`) and its specification
(`Model/CommitLogSpec.lean`). A cursor inside a segment is written `(i, s.abs + k)`: segment number, first
offset of the segment plus an index `k` into it, so that no truncated subtraction appears in the loop lemmas.
-/
import Model.CommitLog
import Model.CommitLogSpec

namespace CommitLog
variable {α : Type}

theorem zip_range'_eq_zipIdx : ∀ (l : List α) (a m : Nat), l.length ≤ m →
    l.zip (List.range' a m) = l.zipIdx a
  | [], _, _, _ => by simp
  | x :: xs, a, 0, h => by simp at h
  | x :: xs, a, m + 1, h => by
    simp only [List.range'_succ, List.zip_cons_cons, List.zipIdx_cons]
    rw [zip_range'_eq_zipIdx xs (a + 1) m (by simpa using h)]

theorem drop_zipIdx' : ∀ (l : List α) (a k : Nat), (l.zipIdx a).drop k = (l.drop k).zipIdx (a + k)
  | [], _, _ => by simp
  | x :: xs, a, 0 => by simp
  | x :: xs, a, k + 1 => by
    simp only [List.zipIdx_cons, List.drop_succ_cons]
    rw [drop_zipIdx' xs (a + 1) k]; congr 1; omega

theorem take_zipIdx' : ∀ (l : List α) (a k : Nat), (l.zipIdx a).take k = (l.take k).zipIdx a
  | [], _, _ => by simp
  | x :: xs, a, 0 => by simp
  | x :: xs, a, k + 1 => by
    simp only [List.zipIdx_cons, List.take_succ_cons]
    rw [take_zipIdx' xs (a + 1) k]

theorem take_append_take_drop {β : Type} (X : List β) (n m : Nat) :
    X.take n ++ (X.drop (X.take n).length).take m = X.take (n + m) := by
  rw [List.take_add, List.length_take]
  congr 2
  by_cases h : n ≤ X.length
  · rw [Nat.min_eq_left h]
  · rw [Nat.min_eq_right (by omega), List.drop_length, List.drop_eq_nil_of_le (by omega)]

theorem drop_succ_of_drop_eq {β : Type} {l : List β} {i : Nat} {a b : β} {t : List β}
    (h : l.drop i = a :: b :: t) : l[i + 1]? = some b ∧ l.drop (i + 1) = b :: t := by
  have h1 : l.drop (i + 1) = b :: t := by
    have := congrArg (List.drop 1) h
    rwa [List.drop_drop] at this
  exact ⟨by rw [← Nat.add_zero (i + 1), ← List.getElem?_drop, h1]; rfl, h1⟩

theorem drop_eq_cons_of_getElem? {β : Type} {l : List β} {i : Nat} {g : β} (h : l[i]? = some g) :
    l.drop i = g :: l.drop (i + 1) := by
  obtain ⟨hlt, rfl⟩ := List.getElem?_eq_some_iff.mp h
  exact List.drop_eq_getElem_cons hlt

@[simp] theorem length_tagSeg (i : Nat) (s : Seg α) : (tagSeg i s).length = s.len := by
  simp [tagSeg, Seg.len]

theorem Seg.slice_eq (s : Seg α) (i idx limit : Nat) :
    s.slice (i, s.abs + idx) idx limit = ((tagSeg i s).drop idx).take (limit - idx) := by
  unfold Seg.slice tagSeg
  rw [zip_range'_eq_zipIdx _ _ _ (by simp; omega), ← List.map_drop, ← List.map_take, drop_zipIdx',
    take_zipIdx']

theorem Seg.readv_at (s : Seg α) (i k len : Nat) (hU : s.len + len < U64) :
    s.readv (i, s.abs + k) len = .ok (((tagSeg i s).drop k).take len,
      if k + len < s.len then .next (s.abs + k + len) else .done s.next) := by
  unfold Seg.readv
  simp only [Nat.not_lt.mpr (Nat.le_add_right s.abs k), if_false, Nat.add_sub_cancel_left]
  by_cases h1 : k ≥ s.len
  · rw [if_pos h1, if_neg (by omega), List.drop_eq_nil_of_le (by simpa using h1), List.take_nil]
  · rw [if_neg h1, if_neg (by omega : ¬ k + len ≥ U64)]
    by_cases h3 : k + len < s.len
    · rw [if_neg (by omega), if_neg (by omega), if_pos h3, Seg.slice_eq, Nat.add_sub_cancel_left,
        Nat.add_assoc]
    · rw [if_pos (by omega), if_neg (by omega), if_neg h3, Seg.slice_eq,
        List.take_of_length_le (by simp), List.take_of_length_le (by simp; omega)]

theorem Seg.readv_spec (s : Seg α) (cur : Cursor) (len : Nat) (h : s.abs ≤ cur.2)
    (hU : s.len + len < U64) :
    s.readv cur len = .ok (((tagSeg cur.1 s).drop (cur.2 - s.abs)).take len,
      if cur.2 - s.abs + len < s.len then .next (cur.2 + len) else .done s.next) := by
  obtain ⟨i, o⟩ := cur
  obtain ⟨k, rfl⟩ : ∃ k, o = s.abs + k := Nat.exists_eq_add_of_le h
  simp only [Nat.add_sub_cancel_left]
  exact Seg.readv_at s i k len hU

@[simp] theorem flat_nil : flat ([] : List (Seg α)) = [] := rfl
@[simp] theorem flat_cons (s : Seg α) (r : List (Seg α)) : flat (s :: r) = s.data ++ flat r := rfl
@[simp] theorem tagSegs_nil (i : Nat) : tagSegs i ([] : List (Seg α)) = [] := rfl
@[simp] theorem tagSegs_cons (i : Nat) (s : Seg α) (r : List (Seg α)) :
    tagSegs i (s :: r) = tagSeg i s ++ tagSegs (i + 1) r := rfl

theorem flat_append (a b : List (Seg α)) : flat (a ++ b) = flat a ++ flat b := by
  induction a with
  | nil => simp
  | cons x xs ih => simp [ih]

theorem tagSegs_append (i : Nat) (a b : List (Seg α)) :
    tagSegs i (a ++ b) = tagSegs i a ++ tagSegs (i + a.length) b := by
  induction a generalizing i with
  | nil => simp
  | cons x xs ih => simp [ih, Nat.add_assoc, Nat.add_comm 1]

@[simp] theorem length_tagSegs (i : Nat) (segs : List (Seg α)) :
    (tagSegs i segs).length = (flat segs).length := by
  induction segs generalizing i with
  | nil => simp
  | cons x xs ih => simp [ih, Seg.len]

theorem tagSegs_drop_take (i : Nat) (s : Seg α) (r : List (Seg α)) (k n : Nat) (hk : k ≤ s.len) :
    ((tagSegs i (s :: r)).drop k).take n =
      ((tagSeg i s).drop k).take n ++ (tagSegs (i + 1) r).take (n - (s.len - k)) := by
  rw [tagSegs_cons, List.drop_append_of_le_length (by simpa using hk), List.take_append,
    List.length_drop, length_tagSeg]

theorem Contig.tail {a : Seg α} {r : List (Seg α)} (h : Contig (a :: r)) : Contig r := by
  cases r with
  | nil => trivial
  | cons b r => exact h.2

theorem Contig.head_next {a b : Seg α} {r : List (Seg α)} (h : Contig (a :: b :: r)) :
    a.next = b.abs := h.1

theorem Contig.drop {segs : List (Seg α)} (h : Contig segs) (k : Nat) : Contig (segs.drop k) := by
  induction k generalizing segs with
  | zero => simpa using h
  | succ k ih =>
    cases segs with
    | nil => simp; trivial
    | cons a r => simpa using ih h.tail

theorem Contig.next_le_later {a : Seg α} : ∀ {r : List (Seg α)} {j : Nat} {gb : Seg α},
    Contig (a :: r) → r[j]? = some gb → a.next ≤ gb.abs
  | [], j, gb, _, h => by simp at h
  | b :: r', 0, gb, hc, h => by
    simp only [List.getElem?_cons_zero, Option.some.injEq] at h; subst h
    exact Nat.le_of_eq hc.head_next
  | b :: r', j + 1, gb, hc, h => by
    simp only [List.getElem?_cons_succ] at h
    have := Contig.next_le_later (a := b) hc.tail h
    have h1 := hc.head_next
    have : b.abs ≤ b.next := by simp [Seg.next]
    omega

theorem Contig.next_le_abs {segs : List (Seg α)} (hc : Contig segs) {i j : Nat} {ga gb : Seg α}
    (hi : segs[i]? = some ga) (hj : segs[j]? = some gb) (hlt : i < j) : ga.next ≤ gb.abs := by
  have hd := hc.drop i
  rw [drop_eq_cons_of_getElem? hi] at hd
  exact hd.next_le_later (j := j - (i + 1)) (by rw [List.getElem?_drop, ← hj]; congr 1; omega)

theorem Contig.abs_add_length {a : Seg α} {r : List (Seg α)} (h : Contig (a :: r)) :
    ∀ g, (a :: r).getLast? = some g → a.abs + (flat (a :: r)).length = g.next := by
  induction r generalizing a with
  | nil => intro g hg; simp at hg; subst hg; simp [Seg.next, Seg.len]
  | cons b r ih =>
    intro g hg
    have hg' : (b :: r).getLast? = some g := by simpa [List.getLast?_cons_cons] using hg
    have := ih h.tail g hg'
    have h1 := h.head_next
    simp only [flat_cons, List.length_append] at this ⊢
    simp only [Seg.next, Seg.len] at h1
    omega

theorem decLen_eq (len nxt c2 : Nat) (h : nxt - c2 ≤ len) :
    decLen len nxt c2 = .ok (len - (nxt - c2)) := by
  unfold decLen
  by_cases h1 : nxt ≥ c2
  · rw [if_pos h1, if_neg (by omega)]
  · rw [if_neg h1, Nat.sub_eq_zero_of_le (Nat.le_of_not_ge h1), Nat.sub_zero]

theorem readActive_at (start : Cursor) (curr : Seg α) (i k len : Nat) (out : List (Entry α))
    (hk : k ≤ curr.len) (hU : curr.len + len < U64) :
    readActive start curr (i, curr.abs + k) len out =
      .ok (out ++ ((tagSeg i curr).drop k).take len,
        if k + len < curr.len then .next start (i, curr.abs + k + len)
        else .done start (i, curr.next)) := by
  unfold readActive
  by_cases h : k = curr.len
  · have hn : curr.next ≤ (i, curr.abs + k).2 := by simp only [Seg.next, h]; exact Nat.le_refl _
    rw [if_pos hn, if_neg (by omega), List.drop_eq_nil_of_le (by simp [h]), h]
    simp [Seg.next]
  · rw [if_neg (by simp only [Seg.next]; omega), Seg.readv_at curr i k len hU]
    by_cases hlt : k + len < curr.len
    · rw [if_pos hlt, if_pos hlt]
    · rw [if_neg hlt, if_neg hlt]

/-- the position `walk` answers with, started in the first of `segs`, `k0` entries into it. `end_seg`
    (the end lies in the `j`-th of `segs`, the segment number moved on by `j`) is what makes a
    continuation an issued cursor. -/
structure WalkPost (start : Cursor) (segs : List (Seg α)) (cur : Cursor) (k0 len : Nat)
    (pos : Position) : Prop where
  start_eq : pos.start = start
  end_off : pos.end_.2 = cur.2 + min len ((flat segs).length - k0)
  end_seg : ∃ j g, segs[j]? = some g ∧ pos.end_.1 = cur.1 + j ∧ g.abs ≤ pos.end_.2 ∧ pos.end_.2 ≤ g.next
  done_iff : pos.isDone = true ↔ (flat segs).length - k0 ≤ len

theorem WalkPost.stop {start : Cursor} {curr : Seg α} {rest : List (Seg α)} {i k len : Nat}
    (hlt : k + len < curr.len) :
    WalkPost start (curr :: rest) (i, curr.abs + k) k len (.next start (i, curr.abs + k + len)) := by
  simp only [Seg.len] at hlt
  refine ⟨rfl, ?_, ⟨0, curr, rfl, rfl, ?_, ?_⟩, ?_⟩ <;>
    simp only [Position.end_, Position.isDone, flat_cons, List.length_append, Seg.next, Seg.len,
      Bool.false_eq_true, false_iff] <;>
    omega

theorem WalkPost.done {start : Cursor} {curr : Seg α} {i k len : Nat}
    (hk : k ≤ curr.len) (hge : curr.len ≤ k + len) :
    WalkPost start [curr] (i, curr.abs + k) k len (.done start (i, curr.next)) := by
  simp only [Seg.len] at hk hge
  refine ⟨rfl, ?_, ⟨0, curr, rfl, rfl, ?_, ?_⟩, ?_⟩ <;>
    simp only [Position.end_, Position.isDone, flat_cons, flat_nil, List.length_append,
      List.length_nil, Seg.next, Seg.len, true_iff] <;>
    omega

/-- the arithmetic of `WalkPost.cons` (`L` entries in the segment, `N` behind it); `N - 0` is how
    `WalkPost` reads at index 0 -/
theorem walk_arith {k L N len len' : Nat} (hk : k ≤ L) (hlen : k + len = L + len') :
    L + min len' (N - 0) = k + min len (L + N - k) ∧ (N - 0 ≤ len' ↔ L + N - k ≤ len) := by
  omega

theorem WalkPost.cons {start : Cursor} {curr : Seg α} {rest : List (Seg α)} {i k len len' b : Nat}
    {pos : Position} (hp : WalkPost start rest (i + 1, b) 0 len' pos) (hb : curr.next = b)
    (hk : k ≤ curr.len) (hlen : k + len = curr.len + len') :
    WalkPost start (curr :: rest) (i, curr.abs + k) k len pos := by
  obtain ⟨p1, p2, ⟨j, g, pj, pe, pa, pb⟩, p4⟩ := hp
  have ha := walk_arith (N := (flat rest).length) hk hlen
  refine ⟨p1, ?_, ⟨j + 1, g, pj, by rw [pe]; exact Nat.add_right_comm i 1 j, pa, pb⟩, ?_⟩
  · rw [p2, flat_cons, List.length_append, ← hb, Seg.next, Nat.add_assoc, Nat.add_assoc, ha.1]; rfl
  · rw [p4, flat_cons, List.length_append]; exact ha.2

theorem walk_stop (l : Log α) (start : Cursor) (fuel idx : Nat) (curr : Seg α) (i k len : Nat)
    (out : List (Entry α)) (hU : curr.len + len < U64) (hlt : k + len < curr.len) :
    l.walk start fuel idx curr (i, curr.abs + k) len out =
      .ok (out ++ ((tagSeg i curr).drop k).take len, .next start (i, curr.abs + k + len)) := by
  cases fuel with
  | zero => rw [Log.walk, readActive_at start curr i k len out (by omega) hU, if_pos hlt]
  | succ f => rw [Log.walk, Seg.readv_at curr i k len hU, if_pos hlt]

/-- When nothing is left to read the code stops at the start of `r`; that is what the loop answers
    there for `len = 0`, as `r` holds an entry. -/
theorem walk_next (l : Log α) (start : Cursor) (fuel idx : Nat) (curr r : Seg α) (i k len : Nat)
    (out : List (Entry α)) (hU : curr.len + len < U64) (hrU : r.len < U64) (hlen : curr.len ≤ k + len)
    (hr : l.segments[idx + 1]? = some r) (hc : curr.next = r.abs) (hne : r.data ≠ []) :
    l.walk start (fuel + 1) idx curr (i, curr.abs + k) len out =
      l.walk start fuel (idx + 1) r (i + 1, r.abs) (len - (curr.len - k))
        (out ++ ((tagSeg i curr).drop k).take len) := by
  have e : curr.next - (curr.abs + k) = curr.len - k := by simp only [Seg.next]; omega
  rw [Log.walk, Seg.readv_at curr i k len hU, if_neg (by omega)]
  simp only [decLen_eq len curr.next (curr.abs + k) (by omega), e, hr]
  rw [hc]
  split
  · next h0 =>
    have hr0 : 0 + 0 < r.len := List.length_pos_iff.mpr hne
    have := walk_stop l start fuel (idx + 1) r (i + 1) 0 0
      (out ++ ((tagSeg i curr).drop k).take len) hrU hr0
    simp only [Nat.add_zero] at this
    rw [h0, this]
    simp
  · rfl

theorem walk_spec (l : Log α) (start : Cursor) :
    ∀ (rest : List (Seg α)) (idx : Nat) (curr : Seg α) (i k len : Nat) (out : List (Entry α)),
      l.segments.drop idx = curr :: rest →
      Contig (curr :: rest) →
      k ≤ curr.len →
      (∀ g ∈ curr :: rest, g.len + len < U64) →
      (∀ g ∈ rest, g.data ≠ []) →
      ∃ pos, l.walk start rest.length idx curr (i, curr.abs + k) len out
          = .ok (out ++ ((tagSegs i (curr :: rest)).drop k).take len, pos)
        ∧ WalkPost start (curr :: rest) (i, curr.abs + k) k len pos := by
  intro rest
  induction rest with
  | nil =>
    intro idx curr i k len out _ _ hk hU _
    rw [List.length_nil, Log.walk, readActive_at start curr i k len out hk (hU curr (by simp))]
    refine ⟨_, by rw [tagSegs_cons, tagSegs_nil, List.append_nil], ?_⟩
    by_cases hlt : k + len < curr.len
    · rw [if_pos hlt]; exact .stop hlt
    · rw [if_neg hlt]; exact .done hk (by omega)
  | cons r rs ih =>
    intro idx curr i k len out hd hc hk hU hne
    have hUc := hU curr (by simp)
    rw [tagSegs_drop_take i curr (r :: rs) k len hk]
    by_cases hlt : k + len < curr.len
    · refine ⟨_, ?_, .stop hlt⟩
      rw [walk_stop l start _ idx curr i k len out hUc hlt, Nat.sub_eq_zero_of_le (by omega),
        List.take_zero, List.append_nil]
    · obtain ⟨len', hlen⟩ : ∃ len', k + len = curr.len + len' := ⟨k + len - curr.len, by omega⟩
      have e : len - (curr.len - k) = len' := by omega
      obtain ⟨hidx, hd'⟩ := drop_succ_of_drop_eq hd
      have hUr := hU r (by simp)
      obtain ⟨pos, hw, hp⟩ := ih (idx + 1) r (i + 1) 0 len'
        (out ++ ((tagSeg i curr).drop k).take len) hd' hc.tail (Nat.zero_le _)
        (fun g hg => by have := hU g (List.mem_cons_of_mem _ hg); omega)
        (fun g hg => hne g (List.mem_cons_of_mem _ hg))
      simp only [Nat.add_zero] at hw
      refine ⟨pos, ?_, hp.cons hc.head_next hk hlen⟩
      rw [List.length_cons, walk_next l start _ idx curr r i k len out hUc (by omega) (by omega) hidx
        hc.head_next (hne r (by simp)), e, hw, List.drop_zero, List.append_assoc]

theorem Log.firstAbs_eq {l : Log α} {f : Seg α} (h : l.segments.head? = some f) : l.firstAbs = f.abs := by
  simp [Log.firstAbs, h]

theorem Log.nextAbs_eq {l : Log α} {z : Seg α} (h : l.segments.getLast? = some z) : l.nextAbs = z.next := by
  simp [Log.nextAbs, h]

theorem WF.exists_head {l : Log α} (hw : WF l) : ∃ f, l.segments.head? = some f := by
  cases h : l.segments with
  | nil => exact absurd h hw.ne
  | cons a r => exact ⟨a, rfl⟩

theorem WF.exists_last {l : Log α} (hw : WF l) : ∃ z, l.segments.getLast? = some z :=
  ⟨l.segments.getLast hw.ne, List.getLast?_eq_some_getLast hw.ne⟩

theorem WF.nextOffset_eq {l : Log α} (hw : WF l) : l.nextOffset = .ok (l.tail, l.nextAbs) := by
  obtain ⟨z, hz⟩ := hw.exists_last
  simp [Log.nextOffset, Log.activeSegment, hz, Log.nextAbs]

theorem WF.suffix_length {l : Log α} (hw : WF l) {i : Nat} {g : Seg α} (hg : l.segments[i]? = some g) :
    g.abs + (flat (l.segments.drop i)).length = l.nextAbs := by
  obtain ⟨z, hz⟩ := hw.exists_last
  have hd := drop_eq_cons_of_getElem? hg
  have hc := hw.contig.drop i
  have hl : (l.segments.drop i).getLast? = some z := by
    rw [List.getLast?_drop, if_neg (Nat.not_le.mpr (List.getElem?_eq_some_iff.mp hg).1), hz]
  rw [hd] at hc hl ⊢
  rw [Log.nextAbs_eq hz]
  exact hc.abs_add_length z hl

theorem WF.first_add_length {l : Log α} (hw : WF l) :
    l.firstAbs + (flat l.segments).length = l.nextAbs := by
  obtain ⟨f, hf⟩ := hw.exists_head
  rw [Log.firstAbs_eq hf]
  exact hw.suffix_length (i := 0) (by rw [← List.head?_eq_getElem?]; exact hf)

theorem WF.prefix_length {l : Log α} (hw : WF l) {i : Nat} {g : Seg α} (hg : l.segments[i]? = some g) :
    l.firstAbs + (flat (l.segments.take i)).length = g.abs := by
  have h1 := hw.first_add_length
  have h2 := hw.suffix_length hg
  have e : (flat l.segments).length =
      (flat (l.segments.take i)).length + (flat (l.segments.drop i)).length := by
    rw [← List.length_append, ← flat_append, List.take_append_drop]
  omega

theorem WF.next_le {l : Log α} (hw : WF l) (g : Seg α) (hg : g ∈ l.segments) : g.next ≤ l.nextAbs := by
  obtain ⟨i, hi⟩ := List.getElem?_of_mem hg
  have := hw.suffix_length hi
  rw [drop_eq_cons_of_getElem? hi, flat_cons, List.length_append] at this
  simp only [Seg.next, Seg.len]; omega

theorem WF.all_ne {l : Log α} (hw : WF l) (ht : 0 < l.tail) : ∀ g ∈ l.segments, g.data ≠ [] := by
  intro g hg hd
  obtain ⟨z, hz⟩ := hw.exists_last
  obtain ⟨ys, hys⟩ := List.getLast?_eq_some_iff.mp hz
  rw [hys] at hg
  rcases List.mem_append.mp hg with hm | hm
  · have h1 := hw.full g (by rw [hys]; simpa using hm)
    have h3 := hw.emptySize g (by rw [hys]; exact hg) hd
    have := hw.sizePos
    omega
  · simp at hm; subst hm
    exact hw.activeNe ht g hz hd

theorem WF.tagged_drop {l : Log α} (hw : WF l) {i : Nat} {g : Seg α} (hg : l.segments[i]? = some g) :
    (tagged l).drop (g.abs - l.firstAbs) = tagSegs (l.head + i) (l.segments.drop i) := by
  have hp := hw.prefix_length hg
  have hlt := (List.getElem?_eq_some_iff.mp hg).1
  have e : g.abs - l.firstAbs = (tagSegs l.head (l.segments.take i)).length := by
    rw [length_tagSegs]; omega
  unfold tagged
  conv => lhs; rw [← List.take_append_drop i l.segments, tagSegs_append]
  rw [e, List.drop_left, List.length_take, Nat.min_eq_left (Nat.le_of_lt hlt)]

theorem walk_at (l : Log α) (hw : WF l) (start c : Cursor) (n : Nat) (g : Seg α)
    (hc1 : l.head ≤ c.1) (hg : l.segments[c.1 - l.head]? = some g)
    (h1 : g.abs ≤ c.2) (h2 : c.2 ≤ g.next) (hU : l.nextAbs + n < U64) :
    ∃ pos, l.walk start (l.tail - c.1) (c.1 - l.head) g c n []
        = .ok (((tagged l).drop (c.2 - l.firstAbs)).take n, pos)
      ∧ pos.start = start
      ∧ pos.end_.2 = c.2 + min n (l.nextAbs - c.2)
      ∧ Issued l pos.end_ ∧ l.head ≤ pos.end_.1
      ∧ (pos.isDone = true ↔ l.nextAbs - c.2 ≤ n) := by
  obtain ⟨s, o⟩ := c
  obtain ⟨i, rfl⟩ : ∃ i, s = l.head + i := Nat.exists_eq_add_of_le hc1
  obtain ⟨k, rfl⟩ : ∃ k, o = g.abs + k := Nat.exists_eq_add_of_le h1
  simp only [Nat.add_sub_cancel_left] at hg ⊢
  have hd := drop_eq_cons_of_getElem? hg
  have hcount := hw.count
  have hsum := hw.suffix_length hg
  have htag := hw.tagged_drop hg
  have hle : l.firstAbs ≤ g.abs := Nat.le.intro (hw.prefix_length hg)
  have hfuel : (l.segments.drop (i + 1)).length = l.tail - (l.head + i) := by
    have := (List.getElem?_eq_some_iff.mp hg).1
    rw [List.length_drop]; omega
  have hmem : ∀ g' ∈ l.segments.drop i, g' ∈ l.segments := fun _ => List.mem_of_mem_drop
  rw [hd] at hsum htag hmem
  obtain ⟨pos, hwk, p1, p2, ⟨j, g', pj, pe, pa, pb⟩, p4⟩ :=
    walk_spec l start _ i g (l.head + i) k n [] hd (hd ▸ hw.contig.drop _)
      (Nat.le_of_add_le_add_left h2)
      (fun g' hg' => by have := hw.next_le g' (hmem g' hg'); simp only [Seg.next] at this; omega)
      (fun g' hg' => hw.all_ne (by have := List.length_pos_of_mem hg'; omega) g'
        (hmem g' (List.mem_cons_of_mem _ hg')))
  have hj : l.segments[pos.end_.1 - l.head]? = some g' := by
    rw [pe, Nat.add_assoc, Nat.add_sub_cancel_left, ← List.getElem?_drop, hd]; exact pj
  have hjlt := (List.getElem?_eq_some_iff.mp hj).1
  refine ⟨pos, ?read, p1, ?endOff, ⟨?endLeTail, Or.inr ⟨g', hj, pa, pb⟩⟩, ?headLeEnd, ?done⟩
  case read => rw [← hfuel, hwk, List.nil_append, ← htag, List.drop_drop, Nat.sub_add_comm hle]
  case endOff => rw [p2, ← hsum, Nat.add_sub_add_left]
  case endLeTail => clear p2 p4 pa pb; omega
  case headLeEnd => rw [pe, Nat.add_assoc]; exact Nat.le_add_right _ _
  case done => rw [p4, ← hsum, Nat.add_sub_add_left]

theorem cursorAbs_of_le {l : Log α} {c : Cursor} (h : l.head ≤ c.1) : cursorAbs l c = c.2 :=
  if_neg (Nat.not_lt.mpr h)

theorem Issued.abs_bounds {l : Log α} (hw : WF l) {c : Cursor} (hi : Issued l c) :
    l.firstAbs ≤ cursorAbs l c ∧ cursorAbs l c ≤ l.nextAbs := by
  have hsum := hw.first_add_length
  unfold cursorAbs
  split
  · omega
  · next hs =>
    obtain ⟨g, hg, h1, h2⟩ := hi.2.resolve_left hs
    have hp := hw.prefix_length hg
    have hn := hw.next_le g (List.mem_of_getElem? hg)
    omega

theorem expectedRead_length (l : Log α) (hw : WF l) (c : Cursor) (n : Nat) (hi : Issued l c) :
    (expectedRead l c n).length = min n (l.nextAbs - cursorAbs l c) := by
  have := hw.first_add_length
  have := hi.abs_bounds hw
  unfold expectedRead tagged
  simp only [List.length_take, List.length_drop, length_tagSegs]
  omega

theorem expectedRead_add (l : Log α) (hw : WF l) (c c' : Cursor) (n m : Nat) (hi : Issued l c)
    (hc' : l.head ≤ c'.1) (he : c'.2 = cursorAbs l c + (expectedRead l c n).length) :
    expectedRead l c n ++ expectedRead l c' m = expectedRead l c (n + m) := by
  have hb := (hi.abs_bounds hw).1
  unfold expectedRead at he ⊢
  rw [cursorAbs_of_le hc', he, Nat.sub_add_comm hb, ← List.drop_drop]
  exact take_append_take_drop _ n m

theorem readv_eq_walk (l : Log α) (c : Cursor) (n : Nat) (g : Seg α) (h1 : l.head ≤ c.1)
    (h2 : c.1 ≤ l.tail) (hg : l.segments[c.1 - l.head]? = some g) :
    l.readv c n = l.walk (offsetJump g c) (l.tail - c.1) (c.1 - l.head) g (offsetJump g c) n [] := by
  have e : (offsetJump g c).1 = c.1 := by unfold offsetJump; split <;> rfl
  unfold Log.readv Log.headJump
  rw [if_neg (Nat.not_lt.mpr h2), if_neg (Nat.not_lt.mpr h1)]
  simp only [if_neg (Nat.not_lt.mpr h1), hg, e]

theorem readv_stale (l : Log α) (hw : WF l) (c : Cursor) (n : Nat) (hs : c.1 < l.head) :
    l.readv c n = l.readv (l.head, l.firstAbs) n := by
  obtain ⟨f, hf⟩ := hw.exists_head
  have hcount := hw.count
  unfold Log.readv Log.headJump
  have hp := List.length_pos_iff.mpr hw.ne
  rw [if_neg (show ¬ c.1 > l.tail by omega), if_pos hs,
    if_neg (show ¬ (l.head, l.firstAbs).1 > l.tail from Nat.not_lt.mpr (by omega)),
    if_neg (show ¬ (l.head, l.firstAbs).1 < l.head from Nat.lt_irrefl _)]
  simp only [hf, Log.firstAbs_eq hf]

theorem readv_issued (l : Log α) (hw : WF l) (c : Cursor) (n : Nat) (hi : Issued l c)
    (hU : l.nextAbs + n < U64) :
    ∃ pos, l.readv c n = .ok (expectedRead l c n, pos)
      ∧ pos.start = (if c.1 < l.head then (l.head, l.firstAbs) else c)
      ∧ pos.end_.2 = cursorAbs l c + min n (l.nextAbs - cursorAbs l c)
      ∧ Issued l pos.end_ ∧ l.head ≤ pos.end_.1
      ∧ (pos.isDone = true ↔ l.nextAbs - cursorAbs l c ≤ n) := by
  have hcount := hw.count
  unfold expectedRead cursorAbs
  by_cases hs : c.1 < l.head
  · obtain ⟨f, hf⟩ := hw.exists_head
    have hf0 : l.segments[(l.head, l.firstAbs).1 - l.head]? = some f := by
      rw [Nat.sub_self, ← List.head?_eq_getElem?]; exact hf
    have hfa := Log.firstAbs_eq hf
    have hp := List.length_pos_iff.mpr hw.ne
    simp only [if_pos hs]
    rw [readv_stale l hw c n hs, readv_eq_walk l _ n f (Nat.le_refl _) (by simp only []; omega) hf0,
      offsetJump, if_neg (Nat.not_lt.mpr (Nat.le_of_eq hfa.symm))]
    exact walk_at l hw _ _ n f (Nat.le_refl _) hf0 (Nat.le_of_eq hfa.symm)
      (hfa ▸ Nat.le_add_right _ _) hU
  · obtain ⟨g, hg, h1, h2⟩ := hi.2.resolve_left hs
    simp only [if_neg hs]
    rw [readv_eq_walk l c n g (Nat.le_of_not_lt hs) hi.1 hg, offsetJump, if_neg (Nat.not_lt.mpr h1)]
    exact walk_at l hw c c n g (Nat.le_of_not_lt hs) hg h1 h2 hU

theorem walk_effective (l : Log α) (hw : WF l) (c start c' : Cursor) (n : Nat) (r : Seg α)
    (hc' : l.head ≤ c'.1) (hr : l.segments[c'.1 - l.head]? = some r)
    (h1 : r.abs ≤ c'.2) (h2 : c'.2 ≤ r.next) (hU : l.nextAbs + n < U64)
    (heff : effective l c = some c') :
    ∃ pos, l.walk start (l.tail - c'.1) (c'.1 - l.head) r c' n [] =
        .ok ((match effective l c with | none => [] | some c' => expectedRead l c' n), pos)
      ∧ (∀ c', effective l c = some c' → Issued l c') := by
  obtain ⟨pos, hwk, -⟩ := walk_at l hw start c' n r hc' hr h1 h2 hU
  have hlt := (List.getElem?_eq_some_iff.mp hr).1
  have hcount := hw.count
  rw [heff]
  refine ⟨pos, ?_, fun _ e => ?_⟩
  · rw [hwk]; simp only [expectedRead, cursorAbs_of_le hc']
  · cases e; exact ⟨by omega, .inr ⟨r, hr, h1, h2⟩⟩

theorem readv_any (l : Log α) (hw : WF l) (c : Cursor) (n : Nat) (hU : l.nextAbs + n < U64) :
    ∃ pos, l.readv c n =
        .ok ((match effective l c with | none => [] | some c' => expectedRead l c' n), pos)
      ∧ (∀ c', effective l c = some c' → Issued l c') := by
  have hcount := hw.count
  by_cases ht : c.1 > l.tail
  · rw [effective, if_pos ht]
    exact ⟨.done c c, by rw [Log.readv, if_pos ht], fun _ e => by cases e⟩
  by_cases hs : c.1 < l.head
  · have hi : Issued l c := ⟨by omega, .inl hs⟩
    obtain ⟨pos, hr, -⟩ := readv_issued l hw c n hi hU
    rw [effective, if_neg ht, if_pos hs]
    exact ⟨pos, hr, fun _ e => by cases e; exact hi⟩
  obtain ⟨g, hg⟩ : ∃ g, l.segments[c.1 - l.head]? = some g :=
    ⟨_, List.getElem?_eq_getElem (by omega)⟩
  have heff : effective l c = if c.2 < g.abs then some (c.1, g.abs) else if c.2 ≤ g.next then some c
      else if c.1 < l.tail then some (c.1 + 1, g.next) else none := by
    rw [effective, if_neg ht, if_neg hs]; simp only [hg]
  rw [readv_eq_walk l c n g (by omega) (by omega) hg, offsetJump]
  by_cases h1 : c.2 < g.abs
  · -- offset jump
    rw [if_pos h1]
    exact walk_effective l hw c _ (c.1, g.abs) n g (by omega) hg (Nat.le_refl _)
      (Nat.le_add_right _ _) hU (by rw [heff, if_pos h1])
  rw [if_neg h1]
  by_cases h2 : c.2 ≤ g.next
  · exact walk_effective l hw c c c n g (by omega) hg (by omega) h2 hU
      (by rw [heff, if_neg h1, if_pos h2])
  rw [if_neg h1, if_neg h2] at heff
  obtain ⟨s, o⟩ := c
  obtain ⟨k, rfl⟩ : ∃ k, o = g.abs + k := Nat.exists_eq_add_of_le (by omega)
  simp only [] at ht hs hg h2 heff ⊢
  have hk : g.len < k := by simp only [Seg.next] at h2; omega
  by_cases h3 : s < l.tail
  · -- beyond the end of a closed segment: continue at the next segment
    obtain ⟨r, hr⟩ : ∃ r, l.segments[s - l.head + 1]? = some r :=
      ⟨_, List.getElem?_eq_getElem (by omega)⟩
    have hgr : g.next = r.abs := by
      have := hw.contig.drop (s - l.head)
      rw [drop_eq_cons_of_getElem? hg, drop_eq_cons_of_getElem? hr] at this
      exact this.head_next
    have hgn := hw.next_le g (List.mem_of_getElem? hg)
    have hrn := hw.next_le r (List.mem_of_getElem? hr)
    simp only [Seg.next] at hgn hrn
    rw [if_pos h3, hgr] at heff
    rw [show l.tail - s = l.tail - (s + 1) + 1 by omega,
      walk_next l _ _ _ g r s k n [] (by omega) (by omega) (by omega) hr hgr
        (hw.all_ne (by omega) r (List.mem_of_getElem? hr)),
      List.drop_eq_nil_of_le (by rw [length_tagSeg]; omega), List.take_nil, List.append_nil,
      Nat.sub_eq_zero_of_le (Nat.le_of_lt hk), Nat.sub_zero,
      show s - l.head + 1 = s + 1 - l.head by omega]
    exact walk_effective l hw _ _ (s + 1, r.abs) n r (by simp only []; omega)
      (by rw [← hr]; congr 1; omega) (Nat.le_refl _) (Nat.le_add_right _ _) hU heff
  · -- beyond the end of the active segment
    rw [heff, if_neg h3]
    refine ⟨.done (s, g.abs + k) (s, g.abs + k), ?_, fun _ e => by cases e⟩
    rw [show l.tail - s = 0 by omega, Log.walk, readActive, if_pos (by simp only [Seg.next]; omega)]

/-- C13's no-panic clause, on the model -/
theorem readv_no_panic (l : Log α) (hw : WF l) (c : Cursor) (n : Nat) (hU : l.nextAbs + n < U64) :
    ∃ r, l.readv c n = .ok r := by
  obtain ⟨pos, h, _⟩ := readv_any l hw c n hU
  exact ⟨_, h⟩

theorem Contig.snoc_iff {X : List (Seg α)} {a : Seg α} :
    Contig (X ++ [a]) ↔ Contig X ∧ ∀ z, X.getLast? = some z → z.next = a.abs := by
  induction X with
  | nil => simp [Contig]
  | cons b X ih =>
    cases X with
    | nil => simp [Contig]
    | cons c X =>
      show (b.next = c.abs ∧ Contig (c :: X ++ [a])) ↔ (b.next = c.abs ∧ Contig (c :: X)) ∧ _
      rw [ih, List.getLast?_cons_cons, and_assoc]

/-- the invariant between `apply_retention` and `push` (the new active segment may be empty) -/
structure WF0 (l : Log α) : Prop where
  ne : l.segments ≠ []
  count : l.head + l.segments.length = l.tail + 1
  bound : l.segments.length ≤ l.maxMemSegments
  sizePos : 1 ≤ l.maxSegmentSize
  contig : Contig l.segments
  full : ∀ s ∈ l.segments.dropLast, l.maxSegmentSize ≤ s.totalSize
  emptySize : ∀ s ∈ l.segments, s.data = [] → s.totalSize = 0

theorem WF.toWF0 {l : Log α} (h : WF l) : WF0 l :=
  ⟨h.ne, h.count, h.bound, h.sizePos, h.contig, h.full, h.emptySize⟩

/-- segments of `l` that are still retained in `l'` keep their first offset and only grow -/
def SegMono (l l' : Log α) : Prop :=
  l.tail ≤ l'.tail ∧ l.head ≤ l'.head ∧
  ∀ s g, l.head ≤ s → l.segments[s - l.head]? = some g →
    s < l'.head ∨ ∃ g', l'.segments[s - l'.head]? = some g' ∧ g'.abs = g.abs ∧ g.next ≤ g'.next

theorem SegMono.refl (l : Log α) : SegMono l l :=
  ⟨Nat.le_refl _, Nat.le_refl _, fun _ g _ hg => Or.inr ⟨g, hg, rfl, Nat.le_refl _⟩⟩

theorem SegMono.trans {a b c : Log α} (h1 : SegMono a b) (h2 : SegMono b c) : SegMono a c := by
  refine ⟨Nat.le_trans h1.1 h2.1, Nat.le_trans h1.2.1 h2.2.1, ?_⟩
  intro s g hs hg
  rcases h1.2.2 s g hs hg with h | ⟨g', hg', e1, e2⟩
  · left; have := h2.2.1; omega
  · by_cases hb : s < b.head
    · left; have := h2.2.1; omega
    · rcases h2.2.2 s g' (by omega) hg' with h | ⟨g'', hg'', e3, e4⟩
      · left; exact h
      · right; exact ⟨g'', hg'', by rw [e3, e1], Nat.le_trans e2 e4⟩

/-- closing the full active segment `z` and opening a new one, after `d ≤ 1` of the oldest
    segments have been discarded -/
theorem WF.roll {l : Log α} (hw : WF l) {z : Seg α} (hz : l.segments.getLast? = some z)
    (hfull : l.maxSegmentSize ≤ z.totalSize) (d : Nat) (hd : d ≤ 1)
    (hb : l.segments.length + 1 ≤ l.maxMemSegments + d) :
    WF0 { l with segments := l.segments.drop d ++ [Seg.withOffset z.next],
                 head := l.head + d, tail := l.tail + 1 } ∧
    SegMono l { l with segments := l.segments.drop d ++ [Seg.withOffset z.next],
                       head := l.head + d, tail := l.tail + 1 } ∧
    Log.nextAbs { l with segments := l.segments.drop d ++ [Seg.withOffset z.next],
                         head := l.head + d, tail := l.tail + 1 } = l.nextAbs := by
  have hpos := List.length_pos_iff.mpr hw.ne
  have hcount := hw.count
  obtain ⟨ys, hys⟩ := List.getLast?_eq_some_iff.mp hz
  have hallfull : ∀ g ∈ l.segments, l.maxSegmentSize ≤ g.totalSize := by
    intro g hg
    rw [hys] at hg
    rcases List.mem_append.mp hg with hm | hm
    · exact hw.full g (by rw [hys, List.dropLast_concat]; exact hm)
    · rw [List.mem_singleton.mp hm]; exact hfull
  refine ⟨⟨by simp, ?count, ?bound, hw.sizePos, ?contig, ?full, ?emptySize⟩,
    ⟨Nat.le_succ _, Nat.le_add_right _ _, ?segMono⟩, ?nextAbs⟩
  case count => simp only [List.length_append, List.length_drop, List.length_singleton]; omega
  case bound => simp only [List.length_append, List.length_drop, List.length_singleton]; omega
  case contig =>
    refine Contig.snoc_iff.mpr ⟨hw.contig.drop d, fun z' hz' => ?_⟩
    rw [List.getLast?_drop] at hz'
    split at hz'
    · cases hz'
    · rw [hz] at hz'; cases hz'; rfl
  case full =>
    intro s hs
    rw [List.dropLast_concat] at hs
    exact hallfull s (List.mem_of_mem_drop hs)
  case emptySize =>
    intro s hs hd'
    rcases List.mem_append.mp hs with hm | hm
    · exact hw.emptySize s (List.mem_of_mem_drop hm) hd'
    · rw [List.mem_singleton.mp hm]; rfl
  case segMono =>
    intro s g hs hg
    by_cases hs0 : s < l.head + d
    · exact .inl hs0
    · refine .inr ⟨g, ?_, rfl, Nat.le_refl _⟩
      have hlt := (List.getElem?_eq_some_iff.mp hg).1
      show (l.segments.drop d ++ [_])[s - (l.head + d)]? = some g
      rw [List.getElem?_append_left (by rw [List.length_drop]; omega), List.getElem?_drop, ← hg]
      congr 1; omega
  case nextAbs => rw [Log.nextAbs_eq hz]; simp [Log.nextAbs, Seg.withOffset, Seg.next, Seg.len]

theorem applyRetention_spec (l : Log α) (hw : WF l) :
    ∃ l1, l.applyRetention = .ok l1 ∧ WF0 l1 ∧ SegMono l l1 ∧ l1.nextAbs = l.nextAbs ∧
      l1.maxMemSegments = l.maxMemSegments ∧ l1.maxSegmentSize = l.maxSegmentSize ∧
      ((l1.head = l.head ∧ retained l1 = retained l ∧ l1.firstAbs = l.firstAbs) ∨
       (l1.head = l.head + 1 ∧ l.segments.length = l.maxMemSegments ∧
         ∃ a rest, l.segments = a :: rest ∧ retained l1 = flat rest ∧ l1.firstAbs = a.next)) := by
  obtain ⟨z, hz⟩ := hw.exists_last
  unfold Log.applyRetention Log.activeSegment
  simp only [hz]
  by_cases hfull : z.totalSize ≥ l.maxSegmentSize
  · rw [if_pos hfull]
    obtain ⟨a, r, h⟩ := List.exists_cons_of_ne_nil hw.ne
    by_cases hcnt : l.segments.length ≥ l.maxMemSegments
    · -- evict the oldest segment, open a new one
      obtain ⟨h1, h2, h3⟩ := hw.roll hz hfull 1 (Nat.le_refl _) (by have := hw.bound; omega)
      rw [if_pos hcnt]
      refine ⟨_, rfl, h1, h2, h3, rfl, rfl, .inr ⟨rfl, Nat.le_antisymm hw.bound hcnt, a, r, h, ?_, ?_⟩⟩
      · simp [retained, h, flat_append, Seg.withOffset]
      · cases r with
        | nil => simp [h] at hz; simp [Log.firstAbs, h, Seg.withOffset, hz]
        | cons b r' => have hc := hw.contig; rw [h] at hc; simp [Log.firstAbs, h, hc.head_next]
    · -- open a new segment
      obtain ⟨h1, h2, h3⟩ := hw.roll hz hfull 0 (Nat.zero_le _) (by omega)
      rw [if_neg hcnt]
      exact ⟨_, rfl, h1, h2, h3, rfl, rfl, .inl ⟨rfl, by simp [retained, flat_append, Seg.withOffset],
        by simp [Log.firstAbs, h]⟩⟩
  · rw [if_neg hfull]
    exact ⟨l, rfl, hw.toWF0, SegMono.refl l, rfl, rfl, rfl, .inl ⟨rfl, rfl, rfl⟩⟩

theorem pushActive_spec (l1 : Log α) (h0 : WF0 l1) (x : α) (sz : Nat) :
    ∃ l2, l1.pushActive x sz = .ok l2 ∧ WF l2 ∧ SegMono l1 l2 ∧ l2.nextAbs = l1.nextAbs + 1 ∧
      l2.head = l1.head ∧ l2.tail = l1.tail ∧
      l2.maxMemSegments = l1.maxMemSegments ∧ l2.maxSegmentSize = l1.maxSegmentSize ∧
      retained l2 = retained l1 ++ [x] ∧ l2.firstAbs = l1.firstAbs := by
  obtain ⟨hd, tl, ms, mm, segs⟩ := l1
  obtain ⟨ys, z, rfl⟩ : ∃ ys z, segs = ys ++ [z] :=
    ⟨_, _, (List.dropLast_concat_getLast h0.ne).symm⟩
  obtain ⟨_, hcount, hbound, hsize, hcontig, hfull, hempty⟩ := h0
  simp only [List.dropLast_concat, List.length_append, List.length_singleton] at hcount hbound hfull
  unfold Log.pushActive
  simp only [List.getLast?_concat, List.dropLast_concat]
  refine ⟨_, rfl, ⟨by simp, by simpa using hcount, by simpa using hbound, hsize,
    Contig.snoc_iff.mpr ((Contig.snoc_iff (a := z)).mp hcontig), ?full, ?emptySize, ?activeNe⟩,
    ⟨Nat.le_refl _, Nat.le_refl _, ?segMono⟩, ?nextAbs, rfl, rfl, rfl, rfl, ?retained, ?firstAbs⟩
  case full => simpa only [List.dropLast_concat] using hfull
  case emptySize =>
    intro s hs he
    rcases List.mem_append.mp hs with hm | hm
    · exact hempty s (List.mem_append_left _ hm) he
    · rw [List.mem_singleton.mp hm] at he; simp [Seg.push] at he
  case activeNe =>
    intro _ a ha
    rw [List.getLast?_concat] at ha; cases ha
    simp [Seg.push]
  case segMono =>
    intro s g _ hg
    refine .inr ?_
    simp only [] at hg ⊢
    by_cases hlt : s - hd < ys.length
    · rw [List.getElem?_append_left hlt] at hg ⊢
      exact ⟨g, hg, rfl, Nat.le_refl _⟩
    · have hi : s - hd - ys.length = 0 := by
        have := (List.getElem?_eq_some_iff.mp hg).1
        simp at this; omega
      rw [List.getElem?_append_right (by omega), hi] at hg ⊢
      simp at hg; subst hg
      exact ⟨_, rfl, rfl, by simp [Seg.push, Seg.next, Seg.len]⟩
  case nextAbs => simp [Log.nextAbs, Seg.push, Seg.next, Seg.len]; omega
  case retained => simp [retained, flat_append, Seg.push]
  case firstAbs => cases ys <;> simp [Log.firstAbs, Seg.push]

theorem Rep.nextAbs_eq {l : Log α} {hist : List α} (h : Rep l hist) : l.nextAbs = hist.length := by
  have h1 := h.wf.first_add_length
  have h2 := congrArg List.length h.ret
  have h3 := h.le
  unfold retained at h2
  simp at h2
  omega

/-- the log `l'` after `x` is appended to a well-formed `l`; `retained`: nothing is discarded, or exactly the oldest segment -/
structure Appended (l : Log α) (x : α) (l' : Log α) : Prop where
  wf : WF l'
  segMono : SegMono l l'
  nextAbs : l'.nextAbs = l.nextAbs + 1
  maxMem : l'.maxMemSegments = l.maxMemSegments
  maxSize : l'.maxSegmentSize = l.maxSegmentSize
  retained : (l'.head = l.head ∧ retained l' = retained l ++ [x] ∧ l'.firstAbs = l.firstAbs) ∨
    (l'.head = l.head + 1 ∧ l.segments.length = l.maxMemSegments ∧
      ∃ a rest, l.segments = a :: rest ∧ CommitLog.retained l' = flat rest ++ [x] ∧ l'.firstAbs = a.next)
  rep : ∀ hist, Rep l hist → Rep l' (hist ++ [x])

theorem append_spec (l : Log α) (hw : WF l) (x : α) (sz : Nat) :
    ∃ l', l.append x sz = .ok (l', (l'.tail, l'.nextAbs)) ∧ Appended l x l' := by
  obtain ⟨l1, h1, hw0, hm1, hn1, hc1, hs1, hcase⟩ := applyRetention_spec l hw
  obtain ⟨l2, h2, hw2, hm2, hn2, hh2, ht2, hc2, hs2, hr2, hf2⟩ := pushActive_spec l1 hw0 x sz
  rw [← hh2, ← hf2] at hcase
  refine ⟨l2, by simp [Log.append, h1, h2, hw2.nextOffset_eq], ?_⟩
  suffices key : _ ∧ _ from ⟨hw2, hm1.trans hm2, by omega, by omega, by omega, key.1, key.2⟩
  rw [hr2]
  rcases hcase with ⟨e1, e2, e3⟩ | ⟨e1, e2, a, rest, hseg, e4, e5⟩
  · refine ⟨.inl ⟨e1, by rw [e2], e3⟩, fun hist h => ⟨hw2, ?_, ?_⟩⟩
    · rw [e3, List.length_append]; exact Nat.le_succ_of_le h.le
    · rw [hr2, e2, e3, h.ret, List.drop_append_of_le_length h.le]
  · refine ⟨.inr ⟨e1, e2, a, rest, hseg, by rw [e4], e5⟩, fun hist h => ?_⟩
    -- the evicted segment `a` held `hist[l.firstAbs ..< a.next]`
    have hfa : l.firstAbs = a.abs := Log.firstAbs_eq (by rw [hseg]; rfl)
    have hle : a.next ≤ hist.length := by
      have := hw.next_le a (by rw [hseg]; exact List.mem_cons_self); have := h.nextAbs_eq; omega
    have hret : a.data ++ flat rest = hist.drop l.firstAbs := by rw [← h.ret, retained, hseg, flat_cons]
    refine ⟨hw2, ?_, ?_⟩
    · rw [e5, List.length_append]; exact Nat.le_succ_of_le hle
    · rw [hr2, e4, e5, List.drop_append_of_le_length hle, Seg.next, Seg.len, ← hfa, ← List.drop_drop,
        ← hret, List.drop_left]

theorem readv_rep (l : Log α) (hist : List α) (h : Rep l hist) (c : Cursor) (n : Nat)
    (hi : Issued l c) (hU : hist.length + n < U64) :
    ∃ pos, l.readv c n = .ok (expectedRead l c n, pos) ∧
      pos.end_.2 = cursorAbs l c + (expectedRead l c n).length ∧
      Issued l pos.end_ ∧ l.head ≤ pos.end_.1 ∧
      (pos.isDone = true ↔ cursorAbs l c + (expectedRead l c n).length = hist.length) := by
  have hna := h.nextAbs_eq
  obtain ⟨pos, h1, _, h3, h4, h5, h6⟩ := readv_issued l h.wf c n hi (by omega)
  have hlen := expectedRead_length l h.wf c n hi
  have hb := hi.abs_bounds h.wf
  refine ⟨pos, h1, by omega, h4, h5, ?_⟩
  rw [h6]; omega

theorem rep_fresh (ms mm : Nat) (h1 : 1 ≤ ms) (h2 : 1 ≤ mm) :
    Rep ({ head := 0, tail := 0, maxSegmentSize := ms, maxMemSegments := mm,
           segments := [Seg.new] } : Log α) [] :=
  ⟨⟨by simp, rfl, h2, h1, trivial, by simp, by simp [Seg.new], by simp⟩, Nat.le_refl _, rfl⟩

theorem new_rep {ms mm : Nat} {l : Log α} (h : Log.new ms mm = .ok l) :
    Rep l [] ∧ l.maxMemSegments = mm ∧ l.maxSegmentSize = ms ∧ 1024 ≤ ms ∧ 1 ≤ mm ∧
      l.head = 0 ∧ l.tail = 0 := by
  unfold Log.new at h
  split at h
  · cases h
  · split at h
    · cases h
    · cases h
      exact ⟨rep_fresh ms mm (by omega) (by omega), rfl, rfl, by omega, by omega, rfl, rfl⟩

theorem append_rep (l : Log α) (hist : List α) (h : Rep l hist) (x : α) (sz : Nat) :
    ∃ l', l.append x sz = .ok (l', (l'.tail, hist.length + 1)) ∧ Rep l' (hist ++ [x]) ∧ SegMono l l' ∧
      l'.maxMemSegments = l.maxMemSegments ∧ l'.maxSegmentSize = l.maxSegmentSize := by
  obtain ⟨l', ha, hA⟩ := append_spec l h.wf x sz
  exact ⟨l', by rw [ha, hA.nextAbs, h.nextAbs_eq], hA.rep hist h, hA.segMono, hA.maxMem, hA.maxSize⟩

theorem appends_rep (xs : List (α × Nat)) : ∀ (l : Log α) (hist : List α), Rep l hist →
    ∃ l', l.appends xs = .ok l' ∧ Rep l' (hist ++ xs.map (·.1)) ∧ SegMono l l' ∧
      l'.maxMemSegments = l.maxMemSegments ∧ l'.maxSegmentSize = l.maxSegmentSize := by
  induction xs with
  | nil => intro l hist h; exact ⟨l, rfl, by simpa using h, SegMono.refl l, rfl, rfl⟩
  | cons p ps ih =>
    intro l hist h
    obtain ⟨l1, h1, hr1, hm1, hc1, hs1⟩ := append_rep l hist h p.1 p.2
    obtain ⟨l2, h2, hr2, hm2, hc2, hs2⟩ := ih l1 _ hr1
    refine ⟨l2, by simp [Log.appends, h1, h2], by simpa using hr2, hm1.trans hm2, by omega, by omega⟩

theorem issued_of_segMono {l l' : Log α} (hm : SegMono l l') {c : Cursor} (hi : Issued l c) :
    Issued l' c := by
  obtain ⟨h1, h2, h3⟩ := hm
  refine ⟨Nat.le_trans hi.1 h1, ?_⟩
  rcases hi.2 with hlt | ⟨g, hg, ha, hb⟩
  · left; omega
  · by_cases hs : c.1 < l.head
    · left; omega
    · rcases h3 c.1 g (by omega) hg with h | ⟨g', hg', e1, e2⟩
      · left; exact h
      · right; exact ⟨g', hg', by omega, by omega⟩

theorem issued_tail {l : Log α} (hw : WF l) : Issued l (l.tail, l.nextAbs) := by
  obtain ⟨z, hz⟩ := hw.exists_last
  refine ⟨Nat.le_refl _, Or.inr ⟨z, ?_, ?_, ?_⟩⟩
  · have := hw.count
    rw [List.getLast?_eq_getElem?] at hz
    rw [← hz]; congr 1; simp; omega
  · simp [Log.nextAbs_eq hz, Seg.next]
  · simp [Log.nextAbs_eq hz]

theorem issued_of_holds {l : Log α} {s o : Nat} (hw : WF l) (h : Holds l s o) : Issued l (s, o) := by
  obtain ⟨h1, g, hg, ha, hb⟩ := h
  refine ⟨?_, Or.inr ⟨g, hg, ha, by simp; omega⟩⟩
  have := (List.getElem?_eq_some_iff.mp hg).1
  have := hw.count
  simp; omega

def untag (e : Entry α) : α × Nat := (e.1, e.2.2)

theorem tagSeg_untag (i : Nat) (s : Seg α) : (tagSeg i s).map untag = s.data.zipIdx s.abs := by
  simp [tagSeg, untag, Function.comp_def]

theorem mem_tagSeg {i : Nat} {s : Seg α} {e : Entry α} (h : e ∈ tagSeg i s) :
    e.2.1 = i ∧ s.abs ≤ e.2.2 ∧ e.2.2 < s.next := by
  have hu : untag e ∈ s.data.zipIdx s.abs := tagSeg_untag i s ▸ List.mem_map_of_mem h
  obtain ⟨h1, h2, _⟩ := List.mem_zipIdx hu
  obtain ⟨p, _, rfl⟩ := List.mem_map.mp h
  exact ⟨rfl, h1, h2⟩

theorem mem_tagSegs {i : Nat} {segs : List (Seg α)} {e : Entry α} (h : e ∈ tagSegs i segs) :
    ∃ j g, segs[j]? = some g ∧ e.2.1 = i + j ∧ g.abs ≤ e.2.2 ∧ e.2.2 < g.next := by
  induction segs generalizing i with
  | nil => simp at h
  | cons a r ih =>
    rcases List.mem_append.mp h with hm | hm
    · exact ⟨0, a, rfl, mem_tagSeg hm⟩
    · obtain ⟨j, g, hj, e1, e2⟩ := ih hm
      exact ⟨j + 1, g, hj, by omega, e2⟩

theorem holds_of_mem_tagged {l : Log α} {e : Entry α} (h : e ∈ tagged l) : Holds l e.2.1 e.2.2 := by
  obtain ⟨j, g, hj, e1, e2⟩ := mem_tagSegs h
  exact ⟨by omega, g, by rw [e1, Nat.add_sub_cancel_left]; exact hj, e2⟩

theorem tagSegs_untag (i : Nat) (a : Seg α) (r : List (Seg α)) (h : Contig (a :: r)) :
    (tagSegs i (a :: r)).map untag = (flat (a :: r)).zipIdx a.abs := by
  induction r generalizing i a with
  | nil => simp [tagSeg_untag]
  | cons b r ih =>
    rw [tagSegs_cons, List.map_append, ih (i + 1) b h.tail, tagSeg_untag, ← h.head_next]
    exact List.zipIdx_append.symm

theorem tagged_untag (l : Log α) (hw : WF l) : (tagged l).map untag = (retained l).zipIdx l.firstAbs := by
  obtain ⟨a, r, h⟩ := List.exists_cons_of_ne_nil hw.ne
  have hc := hw.contig
  rw [h] at hc
  rw [tagged, retained, h, tagSegs_untag _ a r hc, Log.firstAbs_eq (f := a) (by rw [h]; rfl)]

/-- what is read, without the segment numbers: a slice of the retained entries with their offsets -/
theorem expectedRead_untag (l : Log α) (hw : WF l) (c : Cursor) (n : Nat) (hi : Issued l c) :
    (expectedRead l c n).map untag =
      (((retained l).drop (cursorAbs l c - l.firstAbs)).take n).zipIdx (cursorAbs l c) := by
  rw [expectedRead, List.map_take, List.map_drop, tagged_untag l hw, drop_zipIdx', take_zipIdx',
    Nat.add_sub_of_le (hi.abs_bounds hw).1]

theorem expectedRead_values (l : Log α) (hist : List α) (h : Rep l hist) (c : Cursor) (n : Nat)
    (hi : Issued l c) :
    (expectedRead l c n).map (·.1) = (hist.drop (cursorAbs l c)).take n := by
  have := congrArg (List.map Prod.fst) (expectedRead_untag l h.wf c n hi)
  rw [List.map_map, List.zipIdx_map_fst, h.ret, List.drop_drop,
    Nat.add_sub_of_le (hi.abs_bounds h.wf).1] at this
  exact this

theorem expectedRead_offsets (l : Log α) (hw : WF l) (c : Cursor) (n : Nat) (hi : Issued l c) :
    (expectedRead l c n).map (·.2.2) = List.range' (cursorAbs l c) (expectedRead l c n).length := by
  have := congrArg (List.map Prod.snd) (expectedRead_untag l hw c n hi)
  rw [List.map_map, List.zipIdx_map_snd, ← List.length_zipIdx (i := cursorAbs l c),
    ← expectedRead_untag l hw c n hi, List.length_map] at this
  exact this

theorem expectedRead_tags (l : Log α) (hist : List α) (h : Rep l hist) (c : Cursor) (n : Nat)
    (e : Entry α) (he : e ∈ expectedRead l c n) :
    Holds l e.2.1 e.2.2 ∧ hist[e.2.2]? = some e.1 := by
  have hm : e ∈ tagged l := List.mem_of_mem_drop (List.mem_of_mem_take he)
  refine ⟨holds_of_mem_tagged hm, ?_⟩
  have hu : untag e ∈ (retained l).zipIdx l.firstAbs := tagged_untag l h.wf ▸ List.mem_map_of_mem hm
  obtain ⟨h1, h2, h3⟩ := List.mem_zipIdx hu
  have h4 : (hist.drop l.firstAbs)[e.2.2 - l.firstAbs]? = some e.1 := by
    rw [← h.ret, h3]; exact List.getElem?_eq_getElem _
  rwa [List.getElem?_drop, Nat.add_sub_of_le h1] at h4

theorem stale_head (l : Log α) (hw : WF l) (c : Cursor) (n : Nat) (hs : c.1 < l.head) (hn : 0 < n) :
    ∃ x, (expectedRead l c n).head? = some (x, (l.head, l.firstAbs)) := by
  obtain ⟨a, r, hl⟩ := List.exists_cons_of_ne_nil hw.ne
  have hcount := hw.count
  obtain ⟨x, xs, hd⟩ := List.exists_cons_of_ne_nil
    (hw.all_ne (by rw [hl] at hcount; simp at hcount; omega) a (by simp [hl]))
  exact ⟨x, by simp [expectedRead, cursorAbs, hs, tagged, hl, tagSeg, hd, Log.firstAbs,
    List.head?_take, Nat.ne_of_gt hn]⟩

end CommitLog
