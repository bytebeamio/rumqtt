/-
The C11 clauses at a `Step`, and the decision procedures that the concrete witnesses and non-vacuity examples of the
property files need.
-/
import Proofs.Lemmas.ClientOrder
import Proofs.Lemmas.ClientMonC07
import Proofs.Lemmas.ClientMonC02
import Proofs.Lemmas.ClientMonC10
namespace Client
open Client.Spec

theorem along_obs (P : Obs → Prop) (hP : ∀ s sop, P (sstepObs s sop)) (l : LState) (g : Ghost) (ops : List LOp) :
    Along (fun _ _ o _ _ => P o) l g ops := by
  induction ops generalizing l g with
  | nil => trivial
  | cons op ops ih =>
    simp only [Along]
    cases ho : (lstep l op).2 with
    | none => exact ih _ _
    | some o =>
      obtain ⟨sop, rfl⟩ := lstep_obs ho
      exact ⟨hP _ _, ih _ _⟩

theorem clean_order_state {l : LState} {g : Ghost} (hv : l.st.ver = .v4) (h : B1 l g) :
    pubIds (sentPubs (cleanRequests l.st)) = g.unacked.map (·.1) ∧
    pubTags (sentPubs (cleanRequests l.st)) = g.unacked.map (·.2) := by
  rw [sentPubs_cleanRequests h.inv0]
  exact cleanPubs_order h.inv0.sinv hv h.g1.unacked

theorem C11_order_ok {l l' : LState} {g g' : Ghost} {o : Obs} (h : Step l g o l' g') (hv : l'.st.ver = .v4) :
    C11.order g' o = true := by
  have hview := h.fields.1
  have h := h.post
  obtain ⟨k1, k2⟩ := clean_order_state hv h
  unfold C11.order
  rw [hview, h.g0.view, k1, k2, Bool.or_eq_true]
  right
  split
  · rfl
  · rw [beq_self_eq_true, beq_self_eq_true]; rfl

theorem C11_retransmit_ok (s : State) (sop : SOp) : C11.retransmitSame (sstepObs s sop) = true := by
  unfold C11.retransmitSame
  rw [sstepObs_op]
  split
  · rename_i p q hout
    rcases publish_out s p _ hout with ⟨hq, _⟩ | ⟨_, h0, _⟩
    · cases hq; simp
    · simp [h0]
  · rfl

theorem C11_checks_ok {l l' : LState} {g g' : Ghost} {o : Obs} (h : Step l g o l' g') (hv : l'.st.ver = .v4)
    (d d' : Diag) : C11.checks g d o g' d' = none :=
  let ⟨sop, ho⟩ := h.sop
  firstFail_cons_chk (C11_order_ok h hv) <|
    firstFail_cons_chk (ho ▸ C11_retransmit_ok l.st sop) rfl

instance (l : LState) (op : LOp) : Decidable (unsafeConnack l op) := by
  unfold unsafeConnack
  cases op with
  | inc p =>
    cases p with
    | connack ok sp rm am => cases ok <;> cases rm <;> simp only <;> infer_instance
    | _ => simp only; infer_instance
  | _ => simp only; infer_instance

instance decAvoids (trig : LState → LOp → Prop) [∀ l op, Decidable (trig l op)] :
    ∀ (l : LState) (ops : List LOp), Decidable (Avoids trig l ops)
  | _, [] => isTrue trivial
  | l, op :: ops =>
    have := decAvoids trig (lstep l op).1 ops
    by unfold Avoids; infer_instance

/-- Boolean form of `Along` for predicates that are Boolean -/
def alongB (P : Ghost → Obs → Ghost → Bool) : LState → Ghost → List LOp → Bool
  | _, _, [] => true
  | l, g, op :: ops =>
    match (lstep l op).2 with
    | none => alongB P (lstep l op).1 g ops
    | some o => P g o (g.step o) && alongB P (lstep l op).1 (g.step o) ops

theorem along_iff_alongB (P : Ghost → Obs → Ghost → Bool) (l : LState) (g : Ghost) (ops : List LOp) :
    Along (fun _ g o _ g' => P g o g' = true) l g ops ↔ alongB P l g ops = true := by
  induction ops generalizing l g with
  | nil => simp [Along, alongB]
  | cons op ops ih =>
    simp only [Along, alongB]
    cases (lstep l op).2 with
    | none => exact ih _ _
    | some o => simp only [Bool.and_eq_true]; rw [ih]

instance (l : LState) : Decidable (Inv3 l) := by unfold Inv3; infer_instance

end Client
