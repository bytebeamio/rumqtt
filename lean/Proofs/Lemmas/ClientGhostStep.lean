/-
`Ghost.stepOut`, `Ghost.stepIn` and `Ghost.released` are nested matches in the model that update a field here and
there; each is brought once into the form `{ g with field := f old … }`, so that a field of the next ghost is a
projection. `lstep_cases` does the same for the loop: which harness operation `lstep` performs and what it leaves in
`pending`.
-/
import Model.Client.Spec
namespace Client
open Client.Spec

theorem alookup_append (U : List (Nat × Nat)) (k v j : Nat) :
    alookup (U ++ [(k, v)]) j = match alookup U j with
      | some x => some x
      | none => if k = j then some v else none := by
  induction U with
  | nil => simp [alookup]
  | cons a U ih =>
    obtain ⟨a1, a2⟩ := a
    simp only [List.cons_append, alookup]
    split
    · rfl
    · exact ih

theorem alookup_none_iff (U : List (Nat × Nat)) (j : Nat) : alookup U j = none ↔ j ∉ U.map (·.1) := by
  induction U with
  | nil => simp [alookup]
  | cons a U ih =>
    obtain ⟨a1, a2⟩ := a
    simp only [alookup, List.map_cons, List.mem_cons]
    split
    · rename_i h; simp [h]
    · rename_i h
      rw [ih]
      constructor
      · intro h1 h2; rcases h2 with h2 | h2
        · exact h h2.symm
        · exact h1 h2
      · intro h1 h2; exact h1 (Or.inr h2)

theorem aerase_sublist (U : List (Nat × Nat)) (i : Nat) : (aerase U i).Sublist U := by
  induction U with
  | nil => simp [aerase]
  | cons a U ih =>
    obtain ⟨a1, a2⟩ := a
    simp only [aerase]
    split
    · exact List.sublist_cons_self _ _
    · exact ih.cons_cons _

theorem alookup_aerase (U : List (Nat × Nat)) (i j : Nat) (hnd : (U.map (·.1)).Nodup) :
    alookup (aerase U i) j = if i = j then none else alookup U j := by
  induction U with
  | nil => simp [alookup, aerase]
  | cons a U ih =>
    obtain ⟨a1, a2⟩ := a
    have hnd' := List.nodup_cons.mp hnd
    simp only [aerase]
    split
    · rename_i h
      subst h
      split
      · rename_i h2; subst h2
        exact (alookup_none_iff U a1).mpr hnd'.1
      · rename_i h2
        simp [alookup, h2]
    · rename_i h
      simp only [alookup]
      split
      · rename_i h2; subst h2
        simp [Ne.symm h]
      · exact ih hnd'.2

theorem aerase_absent (U : List (Nat × Nat)) (i : Nat) (h : alookup U i = none) : aerase U i = U := by
  induction U with
  | nil => rfl
  | cons a U ih =>
    obtain ⟨a1, a2⟩ := a
    simp only [alookup] at h
    split at h
    · simp at h
    · rename_i hne
      simp [aerase, hne, ih h]

theorem mem_addRel (l : List Nat) (i j : Nat) : j ∈ addRel l i ↔ j = i ∨ j ∈ l := by
  unfold addRel
  split
  · rename_i h
    have : i ∈ l := by simpa using h
    constructor
    · intro hj; exact Or.inr hj
    · rintro (rfl | hj)
      · exact this
      · exact hj
  · simp [or_comm]

theorem nodup_addRel (l : List Nat) (i : Nat) (h : l.Nodup) : (addRel l i).Nodup := by
  unfold addRel
  split
  · exact h
  · rename_i hc
    have : i ∉ l := by simpa using hc
    rw [List.nodup_append]
    exact ⟨h, by simp, by intro a ha b hb; simp at hb; subst hb; intro hab; subst hab; exact this ha⟩

def relsAfterIn (R : List Nat) (p : Incoming) (o : Outcome) : List Nat :=
  let R1 := match p with
    | .pubcomp i _ => R.filter (· != i)
    | _ => R
  match o with
  | .ok (some (.pubrel j)) => addRel R1 j
  | _ => R1

def aliasesAfter (g : Ghost) : Incoming → List Nat
  | .publish q =>
    if protocolError g q then g.aliases else
    (match g.ver, q.alias with
     | .v5, some a => if q.topicEmpty then g.aliases else addRel g.aliases a
     | _, _ => g.aliases)
  | _ => g.aliases

def q2After (g : Ghost) : Incoming → List Nat
  | .publish q => if protocolError g q then g.inQos2 else if q.qos = 0 || q.qos = 1 then g.inQos2 else addRel g.inQos2 q.pkid
  | .pubrel i _ => g.inQos2.filter (· != i)
  | _ => g.inQos2

def limitAfter (g : Ghost) : Incoming → Nat
  | .connack ok _ rm _ =>
    (match g.ver, ok, rm with
     | .v5, true, some m => min m g.upper
     | _, _, _ => g.limit)
  | _ => g.limit

def relPub (U : List (Nat × Nat)) (o : Outcome) : List (Nat × Nat) :=
  match o with
  | .ok (some (.publish q)) => if q.qos = 0 then U else U ++ [(q.pkid, q.tag)]
  | _ => U

def unackedAfterOut (U : List (Nat × Nat)) (r : Request) (o : Outcome) : List (Nat × Nat) :=
  match r with
  | .publish _ => relPub U o
  | _ => U

def ackedId : Incoming → Option Nat
  | .puback i _ => some i
  | .pubrec i _ => some i
  | _ => none

def unackedAfterIn (U : List (Nat × Nat)) (p : Incoming) : List (Nat × Nat) :=
  match ackedId p with
  | some i => aerase U i
  | none => U

def doneAfterIn (D : List Nat) (U : List (Nat × Nat)) (p : Incoming) : List Nat :=
  match ackedId p with
  | some i => (match alookup U i with
      | some t => t :: D
      | none => D)
  | none => D

def acceptedAfterOut (A : List Nat) (r : Request) (o : Outcome) : List Nat :=
  match r, o with
  | .publish p, .ok (some (.publish q)) => if q.qos = 0 then A else if p.pkid == 0 then q.tag :: A else A
  | .publish p, .ok none => if p.qos = 0 then A else if p.pkid == 0 then p.tag :: A else A
  | _, _ => A

def pendingAfterOut (P : List Request) : Request → List Request
  | .publish p => eraseFirst P (.publish p)
  | .pubrel i => eraseFirst P (.pubrel i)
  | _ => P

def relsAfterOut (R : List Nat) : Request → Outcome → List Nat
  | .pubrel _, .ok (some (.pubrel j)) => addRel R j
  | _, _ => R

theorem stepOut_eq (g : Ghost) (r : Request) (o : Outcome) :
    g.stepOut r o =
      { g with gated := g.gated && (g.loopOwn r || (isUserRequest r && g.gateOpen)),
               pending := pendingAfterOut g.pending r,
               inOrder := (match r with
                 | .publish p => g.inOrder && decide (p.qos ≤ 1)
                 | .pubrel _ => false
                 | _ => g.inOrder),
               unacked := unackedAfterOut g.unacked r o,
               accepted := acceptedAfterOut g.accepted r o,
               rels := relsAfterOut g.rels r o } := by
  cases r with
  | publish p =>
    cases o with
    | ok x =>
      cases x with
      | none =>
        by_cases hq : p.qos = 0 <;>
          simp only [Ghost.stepOut, pendingAfterOut, unackedAfterOut, relPub, acceptedAfterOut, relsAfterOut, hq, if_true, if_false]
      | some pkt =>
        cases pkt with
        | publish q =>
          by_cases hq : q.qos = 0 <;>
            simp only [Ghost.stepOut, pendingAfterOut, unackedAfterOut, relPub, acceptedAfterOut, relsAfterOut, hq, if_true, if_false]
        | _ => rfl
    | _ => rfl
  | pubrel i =>
    cases o with
    | ok x =>
      cases x with
      | none => rfl
      | some pkt => cases pkt <;> rfl
    | _ => rfl
  | _ => rfl

theorem stepIn_eq (g : Ghost) (p : Incoming) :
    g.stepIn p =
      { g with unacked := unackedAfterIn g.unacked p,
               done := doneAfterIn g.done g.unacked p,
               rels := (match p with
                 | .pubcomp i _ => g.rels.filter (· != i)
                 | _ => g.rels),
               inQos2 := q2After g p,
               aliases := aliasesAfter g p,
               limit := limitAfter g p,
               inOrder := (match p with
                 | .puback i _ => g.inOrder && (alookup g.unacked i).isSome &&
                     (match g.unacked with
                      | (j, _) :: _ => decide (j = i)
                      | [] => false)
                 | .pubrec _ _ => false
                 | .pubcomp _ _ => false
                 | _ => g.inOrder) } := by
  cases p with
  | puback i r =>
    simp only [Ghost.stepIn, unackedAfterIn, doneAfterIn, ackedId, q2After, aliasesAfter, limitAfter]
    cases h : alookup g.unacked i with
    | none => simp only [aerase_absent _ _ h, Option.isSome_none, Bool.and_false, Bool.false_and]
    | some t => simp only [Option.isSome_some, Bool.and_true]; rfl
  | pubrec i r =>
    simp only [Ghost.stepIn, unackedAfterIn, doneAfterIn, ackedId, q2After, aliasesAfter, limitAfter]
    cases h : alookup g.unacked i with
    | none => simp only [aerase_absent _ _ h]
    | some t => rfl
  | publish q =>
    simp only [Ghost.stepIn, unackedAfterIn, doneAfterIn, ackedId, q2After, aliasesAfter, limitAfter]
    cases protocolError g q
    · -- the ghost taken apart, so that `match g.ver` reduces once the version is a constructor
      obtain ⟨ver, _, _, _, _, _, _, _, _, _, _, _, _, _, _, _⟩ := g
      cases ver with
      | v4 => cases (decide (q.qos = 0) || decide (q.qos = 1)) <;> rfl
      | v5 =>
        cases q.alias with
        | none => cases (decide (q.qos = 0) || decide (q.qos = 1)) <;> rfl
        | some a => cases q.topicEmpty <;> cases (decide (q.qos = 0) || decide (q.qos = 1)) <;> rfl
    · rfl
  | connack ok sp rm am =>
    obtain ⟨ver, _, _, _, _, _, _, _, _, _, _, _, _, _, _, _⟩ := g
    cases ver <;> cases ok <;> cases rm <;> rfl
  | _ => rfl

theorem released_eq (g : Ghost) (o : Outcome) :
    g.released o =
      { g with unacked := relPub g.unacked o,
               rels := (match o with
                 | .ok (some (.pubrel j)) => addRel g.rels j
                 | _ => g.rels) } := by
  cases o with
  | ok x =>
    cases x with
    | none => rfl
    | some pkt =>
      cases pkt with
      | publish q => by_cases hq : q.qos = 0 <;> simp only [Ghost.released, relPub, hq, if_true, if_false]
      | _ => rfl
  | _ => rfl

theorem eraseFirst_head (r : Request) (l : List Request) : eraseFirst (r :: l) r = l := by
  simp [eraseFirst]

theorem sstepObs_op (s : State) (op : SOp) : (sstepObs s op).op = op := by
  cases op <;> rfl

theorem sstepObs_view (s : State) (op : SOp) :
    (sstepObs s op).view = cleanRequests (sstepSt s op) ∧ (sstepObs s op).col = (sstepSt s op).collision ∧
    (sstepObs s op).inf = (sstepSt s op).inflight := by
  cases op <;> exact ⟨rfl, rfl, rfl⟩

/-- the model names the ghost step twice; the proofs speak of `Ghost.step` only -/
theorem Ghost.step_eq_core (g : Ghost) (o : Obs) : g.step o = g.core o := rfl

theorem step_out (g : Ghost) (s : State) (r : Request) :
    g.step (sstepObs s (.out r)) =
      { g.stepOut r (handleOutgoing s r).2 with
        pView := cleanRequests (sstepSt s (.out r)), pCol := (sstepSt s (.out r)).collision,
        pInf := (sstepSt s (.out r)).inflight } := rfl

theorem step_inc (g : Ghost) (s : State) (p : Incoming) :
    g.step (sstepObs s (.inc p)) =
      { (g.stepIn p).released (handleIncoming s p).2 with
        pView := cleanRequests (sstepSt s (.inc p)), pCol := (sstepSt s (.inc p)).collision,
        pInf := (sstepSt s (.inc p)).inflight } := rfl

theorem step_clean (g : Ghost) (s : State) :
    g.step (sstepObs s .clean) =
      { g with pending := cleanRequests s ++ g.pending, unacked := [], rels := [], inQos2 := [],
               pView := cleanRequests (cleanState s), pCol := (cleanState s).collision, pInf := (cleanState s).inflight } := rfl

theorem step_drop (g : Ghost) (s : State) :
    g.step (sstepObs s .drop) =
      { g with done := pubTags g.pending ++ g.done, pending := [],
               pView := cleanRequests s, pCol := s.collision, pInf := s.inflight } := rfl

/-- `op` reaches the state machine as the harness operation `sop` and leaves `pd'` in `pending` -/
inductive LFires (s : State) (pd : List Request) : LOp → SOp → List Request → Prop
  /-- a request is taken from the channel: nothing pending, gate open -/
  | user (u : UserReq) (hpd : pd = []) (hg : selectEnabled s [] = true) : LFires s pd (.user u) (.out u.toRequest) []
  | pend (r : Request) (rest : List Request) (hpd : pd = r :: rest) (hr : pendingReady s (r :: rest) = true) :
      LFires s pd .pend (.out r) rest
  | ping : LFires s pd .ping (.out .pingreq) pd
  | inc (p : Incoming) : LFires s pd (.inc p) (.inc p) pd
  /-- `clean()` has no panic site (`cleanPanics` is constantly `false`): a failure always cleans -/
  | fail : LFires s pd .fail .clean (cleanRequests s ++ pd)
  | newSession : LFires s pd .newSession .drop []

theorem lstep_cases (s : State) (pd : List Request) (op : LOp) :
    lstep ⟨s, pd⟩ op = (⟨s, pd⟩, none) ∨
    ∃ sop pd', LFires s pd op sop pd' ∧ lstep ⟨s, pd⟩ op = (⟨sstepSt s sop, pd'⟩, some (sstepObs s sop)) := by
  cases op with
  | user u =>
    by_cases hc : (pd.isEmpty && selectEnabled s pd) = true
    · have hpd : pd = [] := by
        simp only [Bool.and_eq_true, List.isEmpty_iff] at hc; exact hc.1
      subst hpd
      exact Or.inr ⟨_, _, .user u rfl (by simpa using hc), by simp only [lstep, lop?, hc, if_true, lpending]⟩
    · exact Or.inl (by simp only [lstep, lop?, hc, Bool.false_eq_true, if_false])
  | pend =>
    cases pd with
    | nil => exact Or.inl rfl
    | cons r rest =>
      by_cases hr : pendingReady s (r :: rest) = true
      · exact Or.inr ⟨_, _, .pend r rest rfl hr, by simp only [lstep, lop?, hr, if_true, lpending, List.tail_cons]⟩
      · exact Or.inl (by simp only [lstep, lop?, hr, Bool.false_eq_true, if_false])
  | ping => exact Or.inr ⟨_, _, .ping, rfl⟩
  | inc p => exact Or.inr ⟨_, _, .inc p, rfl⟩
  | fail => exact Or.inr ⟨_, _, .fail, rfl⟩
  | newSession => exact Or.inr ⟨_, _, .newSession, rfl⟩

theorem lstep_inv {I : LState → Ghost → Prop} {s : State} {pd : List Request} {g : Ghost} (op : LOp) (h : I ⟨s, pd⟩ g)
    (step : ∀ sop pd', LFires s pd op sop pd' → I ⟨sstepSt s sop, pd'⟩ (g.step (sstepObs s sop))) :
    match (lstep ⟨s, pd⟩ op).2 with
    | none => I (lstep ⟨s, pd⟩ op).1 g
    | some o => I (lstep ⟨s, pd⟩ op).1 (g.step o) := by
  rcases lstep_cases s pd op with he | ⟨sop, pd', hf, he⟩ <;> rw [he]
  · exact h
  · exact step sop pd' hf

end Client
