/-
Helper lemmas for C16 (server part): the will bookkeeping of `remote()` (`Model/ServerWill.lean`).
A task record changes in three ways only: by a step of its own small automaton (`TStep`), by a signal put
into its channel inside the handler step of a newer connection, or by a panic inside its link. Every
operation of the model is shown once to be such moves (`Moves`); the facts about `World.run {} ops` are
inductions over `Moves`.
-/
import Model.ServerWill
import Proofs.Lemmas.Router.Base.Assoc
namespace ServerWill
open Router (alookup aremove ainsert alookup_ainsert alookup_aremove_some lt_of_getElem?_some
  getElem?_set_some getElem?_append_one)

def willCount : Option Resolution → Nat
  | some r => if publishWillDecision r then 1 else 0
  | none => 0

def discCount : Option Cause → Nat
  | some c => if c.sendDisconnect then 1 else 0
  | none => 0

/-- per-task clauses of the counting invariant -/
structure TaskA (pw sd : Nat) (x : Task) : Prop where
  pw : pw = willCount x.resolution
  sd : sd = discCount x.cause
  resNone : (x.phase = .running ∨ ∃ d, x.phase = .waiting d) → x.resolution = none
  resSome : x.resolution ≠ none → x.linked = true ∧ x.endedAt ≠ none
  wait : (∃ d, x.phase = .waiting d) → x.linked = true ∧ x.endedAt ≠ none
  causeRun : x.phase = .running → x.cause = none

def willsIn (log : List Ev) (t : Nat) : Nat :=
  (log.filter (fun e => match e with | .publishWill t' _ => t' == t | _ => false)).length

def discsIn (log : List Ev) (t : Nat) : Nat :=
  (log.filter (fun e => match e with | .disconnect t' => t' == t | _ => false)).length

/-- the lemmas below speak of the counts of a bare log, which the moves append to -/
theorem publishedWill_eq (w : World) (t : Nat) : w.publishedWill t = willsIn w.log t := rfl

theorem sentDisconnect_eq (w : World) (t : Nat) : w.sentDisconnect t = discsIn w.log t := rfl

/-- counting: the will and disconnect events of every task in the log are those its record accounts
    for (`TaskA`), and no event names a task that does not exist -/
structure InvA (w : World) : Prop where
  task : ∀ t x, w.tasks[t]? = some x → TaskA (willsIn w.log t) (discsIn w.log t) x
  out : ∀ t, w.tasks.length ≤ t → willsIn w.log t = 0 ∧ discsIn w.log t = 0

@[simp] theorem willsIn_nil (t : Nat) : willsIn [] t = 0 := rfl
@[simp] theorem discsIn_nil (t : Nat) : discsIn [] t = 0 := rfl

theorem willsIn_append (l r : List Ev) (t : Nat) :
    willsIn (l ++ r) t = willsIn l t + willsIn r t := by
  simp only [willsIn, List.filter_append, List.length_append]

theorem discsIn_append (l r : List Ev) (t : Nat) :
    discsIn (l ++ r) t = discsIn l t + discsIn r t := by
  simp only [discsIn, List.filter_append, List.length_append]

theorem willsIn_publishWill (t u : Nat) (cid : String) :
    willsIn [.publishWill t cid] u = if t = u then 1 else 0 := by
  by_cases h : t = u <;> simp [willsIn, h]

theorem discsIn_disconnect (t u : Nat) : discsIn [.disconnect t] u = if t = u then 1 else 0 := by
  by_cases h : t = u <;> simp [discsIn, h]

@[simp] theorem log_setTask (w : World) (u : Nat) (x : Task) : (w.setTask u x).log = w.log := rfl
@[simp] theorem log_emit (w : World) (e : Ev) : (w.emit e).log = w.log ++ [e] := rfl
@[simp] theorem tasks_setTask (w : World) (u : Nat) (x : Task) :
    (w.setTask u x).tasks = w.tasks.set u x := rfl
@[simp] theorem tasks_emit (w : World) (e : Ev) : (w.emit e).tasks = w.tasks := rfl
@[simp] theorem handlers_setTask (w : World) (u : Nat) (x : Task) :
    (w.setTask u x).handlers = w.handlers := rfl
@[simp] theorem handlers_emit (w : World) (e : Ev) : (w.emit e).handlers = w.handlers := rfl
@[simp] theorem now_setTask (w : World) (u : Nat) (x : Task) : (w.setTask u x).now = w.now := rfl
@[simp] theorem now_emit (w : World) (e : Ev) : (w.emit e).now = w.now := rfl

/-- one step of `remote()` on its own task record `x` (task number `t`), with the events it sends. A
    signal found in the channel or a zero delay when the link ends is a wait that is over at once. -/
inductive TStep (t : Nat) : Task → List Ev → Task → Prop
  | linked {x : Task} (h : x.phase = .running) : TStep t x [.connect t x.cid] { x with linked := true }
  | refused {x : Task} (h : x.phase = .running) : TStep t x [.connect t x.cid] { x with phase := .finished }
  | ended {x : Task} (c : Cause) (now d : Nat) (h : x.phase = .running) (hl : x.linked = true) :
      TStep t x (if c.sendDisconnect then [.disconnect t] else [])
        { x with endedAt := some now, cause := some c, phase := .waiting d }
  | signalled {x : Task} (d : Nat) (s : Signal) (h : x.phase = .waiting d) (hi : x.inbox = some s) :
      TStep t x (match s with | .fire => [.publishWill t x.cid] | .cancel => [])
        { x with phase := .finished, inbox := none, resolution := some (.signalled s) }
  | timedOut {x : Task} (d : Nat) (h : x.phase = .waiting d) :
      TStep t x [.publishWill t x.cid] { x with phase := .finished, resolution := some .timedOut }

section
variable {t : Nat} {x x' : Task} {es : List Ev}

theorem TStep.cid (h : TStep t x es x') : x'.cid = x.cid := by cases h <;> rfl
theorem TStep.clean (h : TStep t x es x') : x'.clean = x.clean := by cases h <;> rfl

theorem TStep.not_panicked (h : TStep t x es x') : x'.phase ≠ .panicked := by
  cases h with
  | linked h => exact fun hp => nomatch h.symm.trans hp
  | _ => exact Phase.noConfusion

theorem TStep.signal (h : TStep t x es x') {s : Signal}
    (hs : x'.inbox = some s ∨ x'.resolution = some (.signalled s)) :
    x.inbox = some s ∨ x.resolution = some (.signalled s) := by
  cases h with
  | signalled d s' _ hi =>
    rcases hs with hs | hs
    · cases hs
    · cases hs; exact .inl hi
  | timedOut d _ =>
    rcases hs with hs | hs
    · exact .inl hs
    · cases hs
  | _ => exact hs

theorem TStep.others (h : TStep t x es x') {u : Nat} (hu : u ≠ t) :
    willsIn es u = 0 ∧ discsIn es u = 0 := by
  have hu' : ¬ t = u := fun e => hu e.symm
  cases h with
  | ended c => cases c.sendDisconnect <;> simp [discsIn_disconnect, hu'] <;> rfl
  | signalled d s => cases s <;> simp [willsIn_publishWill, hu'] <;> rfl
  | timedOut => simp [willsIn_publishWill, hu']; rfl
  | _ => exact ⟨rfl, rfl⟩

theorem TStep.taskA (h : TStep t x es x') {pw sd : Nat} (hx : TaskA pw sd x) :
    TaskA (pw + willsIn es t) (sd + discsIn es t) x' := by
  have over : ∀ {y : Task}, y.phase = .finished → ¬ (y.phase = .running ∨ ∃ d, y.phase = .waiting d) := by
    rintro y hf (h | ⟨_, h⟩) <;> exact nomatch hf.symm.trans h
  cases h with
  | linked h =>
    have hr := hx.resNone (.inl h)
    exact { pw := hx.pw, sd := hx.sd, resNone := fun _ => hr, resSome := fun hn => absurd hr hn,
            wait := fun ⟨_, hd⟩ => (nomatch h.symm.trans hd), causeRun := hx.causeRun }
  | refused h =>
    have hr := hx.resNone (.inl h)
    exact { pw := hx.pw, sd := hx.sd, resNone := fun _ => hr, resSome := fun hn => absurd hr hn,
            wait := fun ⟨_, hd⟩ => (nomatch hd), causeRun := fun hp => (nomatch hp) }
  | ended c now d h hl =>
    have hr := hx.resNone (.inl h)
    refine { pw := ?_, sd := ?_, resNone := fun _ => hr, resSome := fun hn => absurd hr hn,
             wait := fun _ => ⟨hl, fun hn => nomatch hn⟩, causeRun := fun hp => (nomatch hp) }
    · cases c.sendDisconnect <;> exact hx.pw
    · rw [hx.sd, hx.causeRun h]
      cases hc : c.sendDisconnect <;> simp [discCount, hc, discsIn_disconnect]
  | signalled d s h hi =>
    refine { pw := ?_, sd := ?_, resNone := fun hp => absurd hp (over rfl), resSome := fun _ => hx.wait ⟨d, h⟩,
             wait := fun ⟨_, hd⟩ => (nomatch hd), causeRun := fun hp => (nomatch hp) }
    · rw [hx.pw, hx.resNone (.inr ⟨d, h⟩)]
      cases s <;> simp [willCount, publishWillDecision, willsIn_publishWill]
    · cases s <;> exact hx.sd
  | timedOut d h =>
    refine { pw := ?_, sd := hx.sd, resNone := fun hp => absurd hp (over rfl), resSome := fun _ => hx.wait ⟨d, h⟩,
             wait := fun ⟨_, hd⟩ => (nomatch hd), causeRun := fun hp => (nomatch hp) }
    rw [hx.pw, hx.resNone (.inr ⟨d, h⟩)]
    simp [willCount, publishWillDecision, willsIn_publishWill]

end

/-- `ts` is the task list after the first half of the handler step of a connection `cid`: the task
    registered under `cid`, if there is one and it can still receive, has the signal in its channel -/
def Signalled (w : World) (cid : String) (clean : Bool) (ts : List Task) : Prop :=
  ts = w.tasks ∨ ∃ o old, alookup cid w.handlers = some o ∧ w.tasks[o]? = some old ∧
    old.phase ≠ .panicked ∧
    ts = w.tasks.set o { old with inbox := some (if clean then .fire else .cancel) }

/-- `w'` arises from `w` by what the operations of the model do: steps of the tasks' automata, the
    events of each step logged and entries of the handler map at most removed; admissions; panics of
    tasks `t` with `P t`. The clock is free. -/
inductive Moves (P : Nat → Prop) (w : World) : World → Prop
  | base {w' : World} (ht : w'.tasks = w.tasks) (hl : w'.log = w.log) (hh : w'.handlers = w.handlers) :
      Moves P w w'
  | step {w' w'' : World} {t : Nat} {x x' : Task} {es : List Ev} (h : Moves P w w') (hs : TStep t x es x')
      (hx : w'.tasks[t]? = some x) (ht : w''.tasks = w'.tasks.set t x') (hl : w''.log = w'.log ++ es)
      (hh : ∀ cid u, alookup cid w''.handlers = some u → alookup cid w'.handlers = some u) : Moves P w w''
  | admit {w' w'' : World} {ts : List Task} (cid : String) (clean : Bool) (delay : Nat) (h : Moves P w w')
      (hts : Signalled w' cid clean ts)
      (ht : w''.tasks = ts ++ [{ cid := cid, clean := clean, delay := delay, phase := .running }])
      (hl : w''.log = w'.log)
      (hh : ∀ c u, alookup c w''.handlers = some u → alookup c w'.handlers = some u ∨
        (u = w'.tasks.length ∧ cid = c)) : Moves P w w''
  | panic {w' w'' : World} {t : Nat} {x : Task} (h : Moves P w w') (hP : P t) (hx : w'.tasks[t]? = some x)
      (hr : x.phase = .running) (ht : w''.tasks = w'.tasks.set t { x with phase := .panicked })
      (hl : w''.log = w'.log) (hh : w''.handlers = w'.handlers) : Moves P w w''

theorem Moves.refl {P : Nat → Prop} (w : World) : Moves P w w := .base rfl rfl rfl

section
variable {P : Nat → Prop} {w0 w : World}

theorem Moves.clock (h : Moves P w0 w) (n : Nat) : Moves P w0 { w with now := n } := by
  cases h with
  | base a b c => exact .base a b c
  | step h hs hx a b c => exact .step h hs hx a b c
  | admit cid cl d h hts a b c => exact .admit cid cl d h hts a b c
  | panic h hP hx hr a b c => exact .panic h hP hx hr a b c

theorem resolveSignal_moves {n d : Nat} {x : Task} {s : Signal} (h : Moves P w0 w) (hx : w.tasks[n]? = some x)
    (hw : x.phase = .waiting d) (hi : x.inbox = some s) : Moves P w0 (w.resolveSignal n x s) := by
  cases s
  · exact .step h (.signalled d .fire hw hi) hx rfl rfl fun _ _ hu => hu
  · exact .step h (.signalled d .cancel hw hi) hx rfl (List.append_nil _).symm fun _ _ hu => hu

theorem resolveTimeout_moves {n d : Nat} {x : Task} (h : Moves P w0 w) (hx : w.tasks[n]? = some x)
    (hw : x.phase = .waiting d) : Moves P w0 (w.resolveTimeout n x) :=
  .step h (.timedOut d hw) hx rfl rfl fun _ _ hu => alookup_aremove_some hu

theorem linkStep_moves (h : Moves P w0 w) (t : Nat) (ok : Bool) : Moves P w0 (w.linkStep t ok) := by
  unfold World.linkStep
  split
  · exact h
  · rename_i x hx
    split
    · exact h
    · rename_i hc
      have hrun : x.phase = .running := Decidable.not_not.mp hc
      cases ok
      · exact .step h (.refused hrun) hx rfl rfl fun _ _ hu => alookup_aremove_some hu
      · exact .step h (.linked hrun) hx rfl rfl fun _ _ hu => hu

theorem wake_succ (w : World) (n : Nat) :
    w.wake (n + 1) = w.wake n ∨ ∃ x d s, (w.wake n).tasks[n]? = some x ∧ x.phase = .waiting d ∧
      x.inbox = some s ∧ w.wake (n + 1) = (w.wake n).resolveSignal n x s := by
  rw [World.wake]
  split
  · rename_i x hx
    split
    · rename_i d s hp hi
      exact .inr ⟨x, d, s, hx, hp, hi, rfl⟩
    · exact .inl rfl
  · exact .inl rfl

theorem expire_succ (w : World) (n : Nat) :
    w.expire (n + 1) = w.expire n ∨ ∃ x d, (w.expire n).tasks[n]? = some x ∧ x.phase = .waiting d ∧
      w.expire (n + 1) = (w.expire n).resolveTimeout n x := by
  rw [World.expire]
  split
  · rename_i x hx
    split
    · rename_i d hp
      split
      · exact .inr ⟨x, d, hx, hp, rfl⟩
      · exact .inl rfl
    · exact .inl rfl
  · exact .inl rfl

theorem wake_moves (h : Moves P w0 w) (n : Nat) : Moves P w0 (w.wake n) := by
  induction n with
  | zero => exact h
  | succ n ih =>
    rcases wake_succ w n with he | ⟨x, d, s, hx, hp, hi, he⟩ <;> rw [he]
    · exact ih
    · exact resolveSignal_moves ih hx hp hi

theorem expire_moves (h : Moves P w0 w) (n : Nat) : Moves P w0 (w.expire n) := by
  induction n with
  | zero => exact h
  | succ n ih =>
    rcases expire_succ w n with he | ⟨x, d, hx, hp, he⟩ <;> rw [he]
    · exact ih
    · exact resolveTimeout_moves ih hx hp

theorem advance_moves (h : Moves P w0 w) (ms : Nat) : Moves P w0 (w.advance ms) :=
  expire_moves (h.clock _) _

theorem endLink_moves (h : Moves P w0 w) (t : Nat) (c : Cause) : Moves P w0 (w.endLink t c) := by
  unfold World.endLink
  split
  · exact h
  · rename_i x hx
    split
    · exact h
    · rename_i hc
      simp only [Bool.or_eq_true, decide_eq_true_eq, Bool.not_eq_true', not_or, Decidable.not_not,
        Bool.not_eq_false] at hc
      have hlt := lt_of_getElem?_some hx
      generalize hw0 : (if c.sendDisconnect = true then w.emit (Ev.disconnect t) else w) = w1
      have h0 : w1.tasks = w.tasks ∧ w1.handlers = w.handlers ∧
          w1.log = w.log ++ (if c.sendDisconnect then [.disconnect t] else []) := by
        subst hw0; split
        · exact ⟨rfl, rfl, rfl⟩
        · exact ⟨rfl, rfl, (List.append_nil _).symm⟩
      -- first move: the task enters its wait
      have h1 : ∀ d, Moves P w0 (w1.setTask t
          { x with endedAt := some w1.now, cause := some c, phase := .waiting d }) := fun d =>
        .step h (.ended c w1.now d hc.1 hc.2) hx (by rw [← h0.1]; rfl) h0.2.2 (fun _ _ hu => h0.2.1 ▸ hu)
      have hget : ∀ y : Task, (w1.setTask t y).tasks[t]? = some y := fun y => by
        rw [tasks_setTask, h0.1, List.getElem?_set_self hlt]
      simp only
      split
      · rename_i s hs
        refine .step (h1 0) (.signalled (x := { x with endedAt := some w1.now, cause := some c, phase := .waiting 0 })
          0 s rfl hs) (hget _) ?_ ?_ (fun _ _ hu => ?_)
        · cases s <;> exact (List.set_set ..).symm
        · cases s
          · rfl
          · exact (List.append_nil _).symm
        · cases s <;> exact hu
      · split
        · exact .step (h1 0) (.timedOut (x := { x with endedAt := some w1.now, cause := some c, phase := .waiting 0 })
            0 rfl) (hget _) (List.set_set ..).symm rfl (fun _ _ hu => alookup_aremove_some hu)
        · exact h1 _

theorem handlerStep_eq (w : World) (cid : String) (clean : Bool) (delay : Nat) :
    ∃ ts hs, (w.handlerStep cid clean delay).1 =
        { w with tasks := ts ++ [{ cid := cid, clean := clean, delay := delay, phase := .running }],
                 handlers := ainsert cid w.tasks.length hs } ∧
      (∀ c u, alookup c hs = some u → alookup c w.handlers = some u) ∧ Signalled w cid clean ts := by
  unfold World.handlerStep
  simp only
  split
  · exact ⟨_, _, rfl, fun _ _ hu => hu, .inl rfl⟩
  · rename_i o ho
    split
    · exact ⟨_, _, rfl, fun _ _ hu => alookup_aremove_some hu, .inl rfl⟩
    · rename_i old hold
      split
      · rename_i hc
        refine ⟨_, _, rfl, fun _ _ hu => alookup_aremove_some hu, .inr ⟨o, old, ho, hold, fun hp => ?_, rfl⟩⟩
        simp [Task.receiverAlive, hp] at hc
      · exact ⟨_, _, rfl, fun _ _ hu => alookup_aremove_some hu, .inl rfl⟩

theorem handlerStep_moves (h : Moves P w0 w) (cid : String) (clean : Bool) (delay : Nat) :
    Moves P w0 (w.handlerStep cid clean delay).1 := by
  obtain ⟨ts, hs, heq, hsub, hts⟩ := handlerStep_eq w cid clean delay
  rw [heq]
  refine .admit cid clean delay h hts rfl rfl fun c u hu => ?_
  rw [alookup_ainsert] at hu
  split at hu
  · rename_i hc; cases hu; exact .inr ⟨rfl, hc.symm⟩
  · exact .inl (hsub c u hu)

theorem panicLink_moves (h : Moves P w0 w) (t : Nat) (hP : P t) : Moves P w0 (w.panicLink t) := by
  unfold World.panicLink
  split
  · exact h
  · rename_i x hx
    split
    · exact h
    · rename_i hc
      exact .panic h hP hx (Decidable.not_not.mp hc) rfl rfl rfl

theorem step_moves (h : Moves P w0 w) (op : Op) (hP : ∀ t, op = .taskPanic t → P t) :
    Moves P w0 (w.step op) := by
  cases op with
  | admitted cid clean delay linkOk =>
    exact wake_moves (linkStep_moves (handlerStep_moves h cid clean delay) _ linkOk) _
  | ended t c => exact endLink_moves h t c
  | taskPanic t => exact panicLink_moves h t (hP t rfl)
  | advance ms => exact advance_moves h ms

theorem run_moves (ops : List Op) (hP : ∀ t, Op.taskPanic t ∈ ops → P t) (h : Moves P w0 w) :
    Moves P w0 (w.run ops) := by
  induction ops generalizing w with
  | nil => exact h
  | cons op ops ih =>
    exact ih (fun t ht => hP t (List.mem_cons_of_mem _ ht))
      (step_moves h op fun t e => hP t (e ▸ List.mem_cons_self ..))

end

theorem run_moves_self (w : World) (ops : List Op) : Moves (fun t => Op.taskPanic t ∈ ops) w (w.run ops) :=
  run_moves ops (fun _ h => h) (.refl w)

theorem InvA.update {w w' : World} (h : InvA w) (t : Nat) (x x' : Task) (hx : w.tasks[t]? = some x)
    (ht : w'.tasks = w.tasks.set t x')
    (hother : ∀ u, u ≠ t → willsIn w'.log u = willsIn w.log u ∧ discsIn w'.log u = discsIn w.log u)
    (hnew : TaskA (willsIn w'.log t) (discsIn w'.log t) x') : InvA w' := by
  constructor
  · intro u y hy
    rw [ht, getElem?_set_some hx] at hy
    rcases hy with ⟨rfl, rfl⟩ | ⟨hu, hy⟩
    · exact hnew
    · rw [(hother u hu).1, (hother u hu).2]; exact h.task u y hy
  · intro u hu
    rw [ht, List.length_set] at hu
    have hut : u ≠ t := fun e => absurd (lt_of_getElem?_some hx) (e ▸ Nat.not_lt.mpr hu)
    rw [(hother u hut).1, (hother u hut).2]; exact h.out u hu

theorem InvA.append {w w' : World} (h : InvA w) (f : Task)
    (ht : w'.tasks = w.tasks ++ [f])
    (hlog : ∀ u, willsIn w'.log u = willsIn w.log u ∧ discsIn w'.log u = discsIn w.log u)
    (hnew : TaskA 0 0 f) : InvA w' := by
  constructor
  · intro u y hy
    rw [(hlog u).1, (hlog u).2]
    rw [ht, getElem?_append_one] at hy
    rcases hy with hy | ⟨rfl, rfl⟩
    · exact h.task u y hy
    · rw [(h.out _ (Nat.le_refl _)).1, (h.out _ (Nat.le_refl _)).2]; exact hnew
  · intro u hu
    rw [ht, List.length_append] at hu
    rw [(hlog u).1, (hlog u).2]
    exact h.out u (Nat.le_of_succ_le hu)

theorem InvA.moves {P : Nat → Prop} {w w' : World} (h : InvA w) (m : Moves P w w') : InvA w' := by
  induction m with
  | base ht hl hh => exact ⟨fun t x hx => hl ▸ h.task t x (ht ▸ hx), fun t ht' => hl ▸ h.out t (ht ▸ ht')⟩
  | step _ hs hx ht hl _ ih =>
    refine ih.update _ _ _ hx ht (fun u hu => ?_) ?_
    · rw [hl, willsIn_append, discsIn_append, (hs.others hu).1, (hs.others hu).2]; exact ⟨rfl, rfl⟩
    · rw [hl, willsIn_append, discsIn_append]; exact hs.taskA (ih.task _ _ hx)
  | @admit w1 _ ts _ _ _ _ hts ht hl _ ih =>
    have h1 : InvA { w1 with tasks := ts } := by
      rcases hts with rfl | ⟨o, old, _, hold, _, rfl⟩
      · exact ih
      · -- the clauses do not look at the channel
        obtain ⟨a, b, c, d, e, f⟩ := ih.task o old hold
        exact ih.update o old _ hold rfl (fun _ _ => ⟨rfl, rfl⟩) ⟨a, b, c, d, e, f⟩
    exact h1.append _ ht (fun _ => hl ▸ ⟨rfl, rfl⟩)
      ⟨rfl, rfl, fun _ => rfl, fun hn => absurd rfl hn, fun ⟨_, hd⟩ => (nomatch hd), fun _ => rfl⟩
  | panic _ _ hx _ ht hl _ ih =>
    obtain ⟨a, b, _, d, _, _⟩ := ih.task _ _ hx
    exact ih.update _ _ _ hx ht (fun _ _ => hl ▸ ⟨rfl, rfl⟩)
      (hl ▸ ⟨a, b, fun hp => hp.elim (fun hp => nomatch hp) (fun ⟨_, hp⟩ => nomatch hp), d,
        fun ⟨_, hd⟩ => (nomatch hd), fun hp => nomatch hp⟩)

theorem InvA.advance {w : World} (h : InvA w) (ms : Nat) : InvA (w.advance ms) :=
  h.moves (advance_moves (P := fun _ => False) (.refl w) ms)

theorem InvA.run (ops : List Op) : InvA (World.run {} ops) :=
  InvA.moves (w := {}) ⟨fun _ _ h => (nomatch h), fun _ _ => ⟨rfl, rfl⟩⟩ (run_moves_self {} ops)

/-- a later task with client id `c` whose clean flag explains signal `s` -/
def Later (tasks : List Task) (t : Nat) (c : String) (s : Signal) : Prop :=
  ∃ t' y, t < t' ∧ tasks[t']? = some y ∧ y.cid = c ∧
    s = (if y.clean then Signal.fire else Signal.cancel)

theorem Later.set {tasks : List Task} {t : Nat} {c : String} {s : Signal} (h : Later tasks t c s)
    {u : Nat} {x x' : Task} (hx : tasks[u]? = some x) (hc : x'.cid = x.cid) (hcl : x'.clean = x.clean) :
    Later (tasks.set u x') t c s := by
  obtain ⟨t', y, hlt, hy, hyc, hs⟩ := h
  by_cases hut : t' = u
  · subst hut; rw [hx] at hy; cases hy
    exact ⟨t', x', hlt, (getElem?_set_some hx).2 (.inl ⟨rfl, rfl⟩), hc.trans hyc, hcl ▸ hs⟩
  · exact ⟨t', y, hlt, (getElem?_set_some hx).2 (.inr ⟨hut, hy⟩), hyc, hs⟩

theorem Later.append {tasks : List Task} {t : Nat} {c : String} {s : Signal} (h : Later tasks t c s)
    (f : Task) : Later (tasks ++ [f]) t c s := by
  obtain ⟨t', y, hlt, hy, hyc, hs⟩ := h
  exact ⟨t', y, hlt, getElem?_append_one.2 (.inl hy), hyc, hs⟩

/-- the handler map names tasks with that client id, and every signal, still in a channel or
    already taken, is explained by a later task with the same client id (`Later`) -/
structure InvB (w : World) : Prop where
  hcid : ∀ cid o, alookup cid w.handlers = some o → ∃ x, w.tasks[o]? = some x ∧ x.cid = cid
  later : ∀ t x s, w.tasks[t]? = some x →
    (x.inbox = some s ∨ x.resolution = some (.signalled s)) → Later w.tasks t x.cid s

theorem InvB.update {w w' : World} (h : InvB w) (o : Nat) (x x' : Task)
    (hx : w.tasks[o]? = some x) (ht : w'.tasks = w.tasks.set o x')
    (hc : x'.cid = x.cid) (hcl : x'.clean = x.clean)
    (hh : ∀ cid u, alookup cid w'.handlers = some u → alookup cid w.handlers = some u)
    (hs : ∀ s, (x'.inbox = some s ∨ x'.resolution = some (.signalled s)) →
        (x.inbox = some s ∨ x.resolution = some (.signalled s)) ∨ Later w'.tasks o x.cid s) : InvB w' := by
  have hlater : ∀ t c s, Later w.tasks t c s → Later w'.tasks t c s := fun t c s hl => by
    rw [ht]; exact hl.set hx hc hcl
  constructor
  · intro cid u hu
    rw [ht]
    obtain ⟨y, hy, hyc⟩ := h.hcid cid u (hh cid u hu)
    by_cases huo : u = o
    · subst huo; rw [hx] at hy; cases hy
      exact ⟨x', (getElem?_set_some hx).2 (.inl ⟨rfl, rfl⟩), hc.trans hyc⟩
    · exact ⟨y, (getElem?_set_some hx).2 (.inr ⟨huo, hy⟩), hyc⟩
  · intro t y s hy hys
    rw [ht, getElem?_set_some hx] at hy
    rcases hy with ⟨rfl, rfl⟩ | ⟨_, hy⟩
    · rw [hc]
      rcases hs s hys with h1 | h1
      · exact hlater _ _ _ (h.later t x s hx h1)
      · exact h1
    · exact hlater _ _ _ (h.later t y s hy hys)

theorem InvB.append {w w' : World} (h : InvB w) (f : Task)
    (ht : w'.tasks = w.tasks ++ [f]) (hfi : f.inbox = none) (hfr : f.resolution = none)
    (hh : ∀ cid u, alookup cid w'.handlers = some u → alookup cid w.handlers = some u ∨
        (u = w.tasks.length ∧ f.cid = cid)) : InvB w' := by
  constructor
  · intro cid u hu
    rw [ht]
    rcases hh cid u hu with h1 | ⟨rfl, hfc⟩
    · obtain ⟨y, hy, hyc⟩ := h.hcid cid u h1
      exact ⟨y, getElem?_append_one.2 (.inl hy), hyc⟩
    · exact ⟨f, getElem?_append_one.2 (.inr ⟨rfl, rfl⟩), hfc⟩
  · intro t y s hy hys
    rw [ht] at hy ⊢
    rcases getElem?_append_one.1 hy with hy | ⟨_, rfl⟩
    · exact (h.later t y s hy hys).append f
    · rcases hys with h1 | h1
      · rw [hfi] at h1; cases h1
      · rw [hfr] at h1; cases h1

theorem InvB.moves {P : Nat → Prop} {w w' : World} (h : InvB w) (m : Moves P w w') : InvB w' := by
  induction m with
  | base ht _ hh =>
    exact ⟨fun cid o ho => ht ▸ h.hcid cid o (hh ▸ ho), fun t x s hx hs => ht ▸ h.later t x s (ht ▸ hx) hs⟩
  | step _ hs hx ht _ hh ih =>
    exact ih.update _ _ _ hx ht hs.cid hs.clean hh fun _ h' => .inl (hs.signal h')
  | @admit w1 w2 ts cid clean delay _ hts ht _ hh ih =>
    rcases hts with rfl | ⟨o, old, ho, hold, _, rfl⟩
    · exact ih.append _ ht rfl rfl hh
    · -- the signal put into the old task's channel is explained by the task appended in the same step
      obtain ⟨old', hold', hoc⟩ := ih.hcid cid o ho
      rw [hold] at hold'; cases hold'
      have hlt := lt_of_getElem?_some hold
      have h1 : InvB { w2 with tasks := w1.tasks ++
          [{ cid := cid, clean := clean, delay := delay, phase := .running }] } :=
        ih.append _ rfl rfl rfl hh
      refine h1.update o old _ (getElem?_append_one.2 (.inl hold))
        (ht.trans (List.set_append_left _ _ hlt).symm) rfl rfl (fun _ _ hu => hu) fun s hs' => ?_
      rcases hs' with hs' | hs'
      · cases hs'
        refine .inr ⟨w1.tasks.length, { cid := cid, clean := clean, delay := delay, phase := .running }, hlt, ?_,
          hoc.symm, rfl⟩
        rw [ht]; exact getElem?_append_one.2 (.inr ⟨(List.length_set ..).symm, rfl⟩)
      · exact .inl (.inr hs')
  | panic _ _ hx _ ht _ hh ih =>
    exact ih.update _ _ _ hx ht rfl rfl (fun _ _ hu => hh ▸ hu) fun _ hs => .inl hs

theorem InvB.advance {w : World} (h : InvB w) (ms : Nat) : InvB (w.advance ms) :=
  h.moves (advance_moves (P := fun _ => False) (.refl w) ms)

theorem InvB.run (ops : List Op) : InvB (World.run {} ops) :=
  InvB.moves (w := {}) ⟨fun _ _ h => (nomatch h), fun _ _ _ h => (nomatch h)⟩ (run_moves_self {} ops)

@[reducible] def NoNewPanic (w w' : World) : Prop :=
  ∀ (t : Nat) (x : Task), w'.tasks[t]? = some x → x.phase = .panicked →
    ∃ x0 : Task, w.tasks[t]? = some x0 ∧ x0.phase = .panicked

theorem NoNewPanic.append (w : World) (f : Task) (hs : List (String × Nat))
    (hp : f.phase ≠ .panicked) :
    NoNewPanic w { w with tasks := w.tasks ++ [f], handlers := hs } := by
  intro u y hy hyp
  rcases getElem?_append_one.1 hy with hy | ⟨_, rfl⟩
  · exact ⟨y, hy, hyp⟩
  · exact absurd hyp hp

theorem Moves.panicked {P : Nat → Prop} {w w' : World} (m : Moves P w w') (t : Nat) (x : Task)
    (h : w'.tasks[t]? = some x) (hp : x.phase = .panicked) :
    P t ∨ ∃ x0, w.tasks[t]? = some x0 ∧ x0.phase = .panicked := by
  induction m generalizing x with
  | base ht _ _ => exact .inr ⟨x, ht ▸ h, hp⟩
  | step _ hs hx ht _ _ ih =>
    rw [ht, getElem?_set_some hx] at h
    rcases h with ⟨_, rfl⟩ | ⟨_, h⟩
    · exact absurd hp hs.not_panicked
    · exact ih x h hp
  | admit _ _ _ _ hts ht _ _ ih =>
    rw [ht, getElem?_append_one] at h
    rcases h with h | ⟨_, rfl⟩
    · rcases hts with rfl | ⟨o, old, _, hold, hp', rfl⟩
      · exact ih x h hp
      · rw [getElem?_set_some hold] at h
        rcases h with ⟨_, rfl⟩ | ⟨_, h⟩
        · exact absurd hp hp'
        · exact ih x h hp
    · cases hp
  | panic _ hP hx _ ht _ _ ih =>
    rw [ht, getElem?_set_some hx] at h
    rcases h with ⟨rfl, _⟩ | ⟨_, h⟩
    · exact .inl hP
    · exact ih x h hp

theorem NoNewPanic.advance (w : World) (ms : Nat) : NoNewPanic w (w.advance ms) := fun t x h hp =>
  ((advance_moves (P := fun _ => False) (.refl w) ms).panicked t x h hp).resolve_left id

theorem step_admitted (w : World) (cid : String) (clean : Bool) (delay : Nat) (ok : Bool) :
    w.step (.admitted cid clean delay ok) =
      (((w.handlerStep cid clean delay).1.linkStep (w.handlerStep cid clean delay).2 ok).wake
        ((w.handlerStep cid clean delay).1.linkStep (w.handlerStep cid clean delay).2 ok).tasks.length) :=
  rfl

theorem wake_handlers (w : World) (n : Nat) : (w.wake n).handlers = w.handlers := by
  induction n with
  | zero => rfl
  | succ n ih =>
    rcases wake_succ w n with he | ⟨x, d, s, _, _, _, he⟩ <;> rw [he]
    · exact ih
    · cases s <;> exact ih

theorem handlerStep_snd (w : World) (cid : String) (clean : Bool) (delay : Nat) :
    (w.handlerStep cid clean delay).2 = w.tasks.length := rfl

theorem handlerStep_task (w : World) (cid : String) (clean : Bool) (delay : Nat) :
    (w.handlerStep cid clean delay).1.task? (w.handlerStep cid clean delay).2 =
      some { cid := cid, clean := clean, delay := delay, phase := .running } := by
  obtain ⟨ts, hs, heq, _, hts⟩ := handlerStep_eq w cid clean delay
  have hl : ts.length = w.tasks.length := by
    rcases hts with rfl | ⟨_, _, _, _, _, rfl⟩
    · rfl
    · exact List.length_set ..
  rw [heq, handlerStep_snd]
  exact getElem?_append_one.2 (.inr ⟨hl.symm, rfl⟩)

theorem handlerStep_handlers (w : World) (cid : String) (clean : Bool) (delay : Nat) :
    alookup cid (w.handlerStep cid clean delay).1.handlers = some (w.handlerStep cid clean delay).2 := by
  obtain ⟨ts, hs, heq, _, _⟩ := handlerStep_eq w cid clean delay
  rw [heq]
  exact Router.alookup_ainsert_same _ _ _

theorem linkStep_false_handlers (w : World) (t : Nat) (x : Task) (h : w.task? t = some x)
    (hp : x.phase = .running) : (w.linkStep t false).handlers = aremove x.cid w.handlers := by
  unfold World.linkStep
  rw [h]
  simp [hp]

theorem resolveTimeout_other (w : World) (m : Nat) (x : Task) (t : Nat) (h : t ≠ m) :
    (w.resolveTimeout m x).tasks[t]? = w.tasks[t]? :=
  List.getElem?_set_ne (Ne.symm h)

theorem expire_now (w : World) (n : Nat) : (w.expire n).now = w.now := by
  induction n with
  | zero => rfl
  | succ n ih => rcases expire_succ w n with he | ⟨_, _, _, _, he⟩ <;> rw [he] <;> exact ih

theorem expire_above (w : World) (n t : Nat) (h : n ≤ t) : (w.expire n).tasks[t]? = w.tasks[t]? := by
  induction n with
  | zero => rfl
  | succ n ih =>
    have ih' := ih (Nat.le_of_succ_le h)
    rcases expire_succ w n with he | ⟨_, _, _, _, he⟩ <;> rw [he]
    · exact ih'
    · rw [resolveTimeout_other _ _ _ _ (Nat.ne_of_gt h), ih']

theorem expire_at (w : World) (n t : Nat) (x : Task) (d : Nat) (hn : t < n)
    (hx : w.tasks[t]? = some x) (hw : x.phase = .waiting d) (hres : x.resolution = none) :
    ∃ y, (w.expire n).tasks[t]? = some y ∧ (y.resolution ≠ none ↔ d ≤ w.now) := by
  induction n with
  | zero => omega
  | succ n ih =>
    by_cases htn : t = n
    · -- round `t` is the one that looks at task `t`, which is as it was
      subst htn
      have hx' : (w.expire t).tasks[t]? = some x := by rw [expire_above _ _ _ (Nat.le_refl _)]; exact hx
      rw [World.expire]
      simp only [World.task?, hx', hw, expire_now]
      split
      · rename_i hd
        exact ⟨_, List.getElem?_set_self (lt_of_getElem?_some hx'), iff_of_true (fun hn => nomatch hn) hd⟩
      · rename_i hd
        exact ⟨x, hx', by simp [hres, hd]⟩
    · obtain ⟨y, hy, hiff⟩ := ih (by omega)
      refine ⟨y, ?_, hiff⟩
      rcases expire_succ w n with he | ⟨_, _, _, _, he⟩ <;> rw [he]
      · exact hy
      · rw [resolveTimeout_other _ _ _ _ htn]; exact hy

theorem endLink_task (w : World) (t : Nat) (x : Task) (cause : Cause)
    (h : w.task? t = some x) (hrun : x.phase = .running) (hl : x.linked = true)
    (hin : x.inbox = none) :
    (w.endLink t cause).task? t = some
      (if x.delay = 0 then
        { x with endedAt := some w.now, cause := some cause, phase := .finished, resolution := some .timedOut }
      else
        { x with endedAt := some w.now, cause := some cause, phase := .waiting (w.now + x.delay * 1000) }) := by
  have hlt := lt_of_getElem?_some h
  unfold World.endLink
  rw [h]
  have hc : ¬ ((decide (x.phase ≠ Phase.running) || !x.linked) = true) := by simp [hrun, hl]
  simp only
  rw [if_neg hc]
  cases cause.sendDisconnect <;> simp only [hin, Bool.false_eq_true, if_false, if_true] <;>
    split <;> exact List.getElem?_set_self hlt

theorem run_counts (ops : List Op) (t : Nat) :
    (World.run {} ops).publishedWill t = willCount (((World.run {} ops).task? t).bind (·.resolution)) ∧
    (World.run {} ops).sentDisconnect t = discCount (((World.run {} ops).task? t).bind (·.cause)) := by
  have h := InvA.run ops
  rw [publishedWill_eq, sentDisconnect_eq]
  cases ht : (World.run {} ops).task? t with
  | none => exact h.out t (Nat.le_of_not_lt fun hlt => nomatch (List.getElem?_eq_getElem hlt).symm.trans ht)
  | some x => exact ⟨(h.task t x ht).pw, (h.task t x ht).sd⟩

end ServerWill
