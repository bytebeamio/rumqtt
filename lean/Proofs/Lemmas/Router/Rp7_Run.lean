/-
THE request of `(a, f)` threaded through `consume`, one quiet step and a quiet run: what is forwarded to `a` through `f`
is a `ReqRun` of that request.
-/
import Proofs.Lemmas.Router.Rp6_Idle
import Proofs.Lemmas.Router.Rp7_Loop
namespace Router
open Router.Rp3
open CommitLog (Rep logC Issued U64)

theorem RC.tracked_parked_ne {s : RState} (h : RC s) {a : Nat} {x r : DataRequest}
    (hx : TrackedBy s a x) (hr : Parked s a r ∨ Notified s a r) : x.filter ≠ r.filter := by
  have hnd := h.held_nodup a
  unfold held at hnd
  rw [List.append_assoc, List.map_append] at hnd
  refine (List.nodup_append.mp hnd).2.2 _ (List.mem_map_of_mem (mem_tracked.mpr hx)) _ (List.mem_map_of_mem ?_)
  rw [List.mem_append, ← parked_iff, mem_pick]; exact hr

theorem consume_thread {a : Nat} {f : String} {s s' : RState} {b : Bool} {r : DataRequest}
    (hc : consume s = .ok (s', b)) (hrc : RC s) (hown : Own s a r) (hf : r.filter = f) (hg : r.group = none) :
    ∃ r', Own s' a r' ∧ r'.filter = f ∧ r'.group = none ∧ r'.filterIdx = r.filterIdx ∧
      ReqRun r.filterIdx s r (consumeFwd a f s) s' r' := by
  have hk := dkeyFrame.consume hc
  rcases Walk.consume_cases hc with ⟨_, hidle, rfl⟩ | ⟨id, rq, c, s1, hq, hcn, _, h1, h2⟩
  · have e : consumeFwd a f s = [] := by unfold consumeFwd; rw [hidle]
    rw [e]
    exact ⟨r, ((OEq.connClosed.of_rest (s := s) (s' := { s with readyqueue := [] }) rfl rfl).own a r).mpr hown,
      hf, hg, rfl, reqRun_idle r hk⟩
  · have mw := OEq.closed.wakeTurnMoved h2
    have ma := OEq.connClosed.ackDeviceData (Walk.takeRequests s id c rq) id
    have e : consumeFwd a f s = if id ≠ a then [] else
        loopFwd f id MAX_SCHEDULE_ITERATIONS (ackDeviceData (Walk.takeRequests s id c rq) id) c.tracker.requests [] := by
      unfold consumeFwd
      rw [hq]
      simp only []
      split
      · rfl
      · rw [show getConn ({ s with readyqueue := rq } : RState) id = some c from hcn]; rfl
    rw [e]
    by_cases hid : id = a
    · subst hid
      simp only [ne_eq, not_true_eq_false, if_false]
      have hk0 : dkey (ackDeviceData (Walk.takeRequests s id c rq) id) = dkey s := by rw [dkeyFrame.ackDeviceData]; rfl
      have hnd : ((c.tracker.requests ++ []).map (fun x : DataRequest => x.filter)).Nodup := by
        simpa using (trackerNoDup_iff _).mp (hrc.tracker_nodup hcn)
      -- where the request is when the loop starts: taken out of the tracker with the others, or parked / notified
      have hw : r ∈ c.tracker.requests ++ [] ∨ (Own (ackDeviceData (Walk.takeRequests s id c rq) id) id r ∧
          ∀ x ∈ c.tracker.requests ++ [], x.filter ≠ f) := by
        rcases hown with ⟨c', hc', hm⟩ | hrest
        · rw [hcn] at hc'; cases hc'
          exact .inl (by simpa using hm)
        · refine .inr ⟨(ma.own id r).mpr ((takeRequests_own rq hcn id r).mpr (.inr ⟨rfl, hrest⟩)), fun x hx => ?_⟩
          rw [← hf]
          exact hrc.tracked_parked_ne ⟨c, hcn, by simpa using hx⟩ hrest
      obtain ⟨r', o', f', g', i', run⟩ := consumeLoop_thread (f := f) _ h1 hnd hw hf hg
      exact ⟨r', (mw.own id r').mpr o', f', g', i',
        ReqRun.other (fun _ h => reqAt_of_dkey h hk0) (run.idle (dkeyFrame.wakeTurnMoved h2))⟩
    · simp only [ne_eq, hid, not_false_eq_true, if_true]
      have hne : ¬ (a = id ∧ r ∈ c.tracker.requests) := fun h => hid h.1.symm
      have o0 := (takeRequests_own rq hcn a r).mpr (.inl ⟨hown, hne⟩)
      have o1 := consumeLoop_own _ h1 a r ((ma.own a r).mpr o0)
      exact ⟨r, (mw.own a r).mpr o1, hf, hg, rfl, reqRun_idle r hk⟩

/-- what `delivery_is_prefix` assumes of a state of the run: connection `a` is live and is the connection of client `cid`;
    the cursor of its request for `f` has not been evicted ("within the configured log retention") -/
def Stays (a : Nat) (cid f : String) (t : RState) : Prop :=
  (∃ c, getConn t a = some c ∧ c.clientId = cid) ∧
  ∀ r, Own t a r → r.filter = f → ∀ fd, t.datalog.native[r.filterIdx]? = some fd → (logC fd.log).head ≤ r.cursor.1

/-- what `delivery_is_prefix` assumes of an op of the run, in the state `t` it is applied to: no CONNECT of the same
    client (which would take the connection over), no UNSUBSCRIBE naming `f` in a batch of connection `a` -/
def QuietOp (a : Nat) (cid f : String) (t : RState) : Op → Prop
  | .connect spec => spec.clientId ≠ cid
  | .event id .deviceData => id = a → ∀ c, getConn t a = some c → ∀ p ∈ (getLink t c.link).ibuf, f ∉ pktUnsubs p
  | _ => True

def QuietRun (a : Nat) (cid f : String) : RState → List (Op × List Choice) → Prop
  | s, [] => Stays a cid f s
  | s, (op, ch) :: rest => Stays a cid f s ∧ QuietOp a cid f s op ∧
      ∀ s' out, step { s with oracle := ch } op = .ok (s', out) → QuietRun a cid f s' rest

theorem own_allReqs {s : RState} {a : Nat} {r : DataRequest} (h : Own s a r) : allReqs s r :=
  (allReqs_iff s r).mpr ⟨a, (own_iff s a r).mp h⟩

theorem reqAt_of_own {s : RState} {a : Nat} {cid f : String} {r : DataRequest} (hi : DLInv s) (hno : NoOverflow s)
    (hcs : CS s) (hst : Stays a cid f s) (hown : Own s a r) (hf : r.filter = f) : ReqAt r.filterIdx s r.cursor := by
  obtain ⟨⟨fd, hfd, hiss⟩, _⟩ := hcs.req r (own_allReqs hown)
  obtain ⟨hist, hrep⟩ := hi.logs fd.log (List.mem_map.mpr ⟨fd, List.mem_of_getElem? hfd, rfl⟩)
  exact ⟨fd, hist, hfd, hrep, hiss, hst.2 r hown hf fd hfd, hno fd (List.mem_of_getElem? hfd) hist hrep⟩

theorem step_thread {a : Nat} {cid f : String} {s s' : RState} {op : Op} {out : Out} {r : DataRequest}
    (h3 : Inv3 s) (hi : DLInv s) (hno : NoOverflow s) (hcs : CS s) (hq : QI s)
    (hs : step s op = .ok (s', out)) (hst : Stays a cid f s) (hst' : ∃ c, getConn s' a = some c ∧ c.clientId = cid)
    (hqo : QuietOp a cid f s op) (hown : Own s a r) (hf : r.filter = f) (hg : r.group = none) :
    ∃ r', Own s' a r' ∧ r'.filter = f ∧ r'.group = none ∧
      ((r' = r ∧ stepFwd a f s op = []) ∨
        (ReqAt r.filterIdx s r.cursor ∧ r'.filterIdx = r.filterIdx ∧
          ReqRun r.filterIdx s r (stepFwd a f s op) s' r')) := by
  have hb := h3.inv2.binv
  have same : Own s' a r → stepFwd a f s op = [] → ∃ r', Own s' a r' ∧ r'.filter = f ∧ r'.group = none ∧
      ((r' = r ∧ stepFwd a f s op = []) ∨
        (ReqAt r.filterIdx s r.cursor ∧ r'.filterIdx = r.filterIdx ∧
          ReqRun r.filterIdx s r (stepFwd a f s op) s' r')) := fun ho e => ⟨r, ho, hf, hg, .inl ⟨rfl, e⟩⟩
  cases op_cases hs with
  | connect spec hc =>
    refine same ((handleNewConnection_qi hb.2 h3.inv2.inv1.adm hq hc).2.1 a r hown fun e => ?_) rfl
    obtain ⟨c', hc', e'⟩ := h3.inv2.inv1.adm.map.1 _ _ e
    obtain ⟨c, hca, hcid⟩ := hst.1
    rw [hca] at hc'; cases hc'
    exact hqo (e'.symm.trans hcid)
  | consume b hc =>
    have hat := reqAt_of_own hi hno hcs hst hown hf
    obtain ⟨r', o', f', g', i', run⟩ := consume_thread (f := f) hc h3.rc hown hf hg
    exact ⟨r', o', f', g', .inr ⟨hat, i', run⟩⟩
  | event id e he =>
    cases e with
    | deviceData =>
      cases hcid : getConn s id with
      | none =>
        obtain rfl := Except.ok.inj ((handleDevicePayload_none hcid).symm.trans he)
        exact same hown rfl
      | some c =>
        refine same ((handleDevicePayload_qi hb.2 hq he).2.2 c hcid a r hown fun hh => ?_) rfl
        obtain ⟨hai, hor⟩ := hh
        subst hai
        rcases hor with hgone | ⟨p, hp, hm⟩
        · obtain ⟨c1, hc1, _⟩ := hst'
          rw [hgone] at hc1; cases hc1
        · exact hqo rfl c hcid p hp (hf ▸ hm)
    | disconnect =>
      refine same ((handleDisconnection_qi (id := id) (r := none) hq hb.2 he).2.1 a r hown fun e => ?_) rfl
      subst e
      obtain ⟨c1, hc1, _⟩ := hst'
      rw [getConn_handleDisconnection (show handleDisconnection s a none = .ok s' from he)] at hc1; cases hc1
    | _ => exact same (((OEq.closed.step (by simp) hs).own a r).mpr hown) rfl
  | _ => exact same (((OEq.closed.step (by simp) hs).own a r).mpr hown) rfl

theorem NoOverflow.back_run {cfg : Config} (h1 : 1 ≤ cfg.maxSegmentSize) (h2 : 1 ≤ cfg.maxSegmentCount) :
    ∀ (ops : List (Op × List Choice)) {s s2 : RState}, Reachable cfg s → run s ops = .ok s2 → NoOverflow s2 → NoOverflow s
  | [], s, s2, _, h, hno => by simp only [run, Except.ok.injEq] at h; subst h; exact hno
  | (op, ch) :: rest, s, s2, hr, h, hno => by
    simp only [run] at h
    split at h
    · simp at h
    · rename_i s' out hstep
      have hr' : Reachable cfg s' := hr.step hstep
      have hno' := NoOverflow.back_run h1 h2 rest hr' h hno
      have hi0 : DLInv ({ s with oracle := ch } : RState) := (reachable_inv h1 h2 hr).of_dkey rfl
      have hcfg : s'.config = s.config := by rw [config_reachable hr', config_reachable hr]
      have : NoOverflow ({ s with oracle := ch } : RState) :=
        NoOverflow.back (reachable_inv h1 h2 hr') (step_mono hi0 hstep) hcfg hno'
      exact this

/-- a property `T r offs r'` of "THE request went from `r` to `r'` while `offs` were forwarded" that holds when nothing
    happens, composes, and holds along a `ReqRun` holds over every quiet run -/
theorem run_thread_of {cfg : Config} (h1 : 1 ≤ cfg.maxSegmentSize) (h2 : 1 ≤ cfg.maxSegmentCount)
    (hpos : 0 < cfg.maxOutgoingPacketCount) {a : Nat} {cid f : String} {T : DataRequest → List Nat → DataRequest → Prop}
    (refl : ∀ r, T r [] r)
    (trans : ∀ {r r1 r2 : DataRequest} {o o' : List Nat}, T r o r1 → T r1 o' r2 → T r (o ++ o') r2)
    (ofRun : ∀ {s s' : RState} {r r' : DataRequest} {o : List Nat}, ReqAt r.filterIdx s r.cursor →
      r'.filterIdx = r.filterIdx → ReqRun r.filterIdx s r o s' r' → T r o r') :
    ∀ (ops : List (Op × List Choice)) {s s2 : RState} {r : DataRequest}, Reachable cfg s → run s ops = .ok s2 →
    NoOverflow s2 → QuietRun a cid f s ops → Own s a r → r.filter = f → r.group = none →
    ∃ r2, Own s2 a r2 ∧ r2.filter = f ∧ r2.group = none ∧ T r (runFwd a f s ops) r2
  | [], s, s2, r, _, h, _, _, hown, hf, hg => by
    simp only [run, Except.ok.injEq] at h; subst h
    exact ⟨r, hown, hf, hg, refl r⟩
  | (op, ch) :: rest, s, s2, r, hr, h, hno2, hqr, hown, hf, hg => by
    have hrun := h
    simp only [run] at h
    split at h
    · simp at h
    · rename_i s' out hstep
      obtain ⟨hst, hqo, hnext⟩ := hqr
      have hqr' := hnext s' out hstep
      have hr' : Reachable cfg s' := hr.step hstep
      have hno : NoOverflow s := NoOverflow.back_run h1 h2 _ hr hrun hno2
      have hno0 : NoOverflow ({ s with oracle := ch } : RState) := hno
      have hi0 : DLInv ({ s with oracle := ch } : RState) := (reachable_inv h1 h2 hr).of_dkey rfl
      have hcs0 : CS ({ s with oracle := ch } : RState) := (CS.reachable h1 h2 hr hno).oracle ch
      have hq0 : QI ({ s with oracle := ch } : RState) := (QI.reachable h1 h2 hpos hr hno).oracle ch
      have h30 := (Inv3.reachable hr).oracle ch
      have hst0 : Stays a cid f ({ s with oracle := ch } : RState) := hst
      have hqo0 : QuietOp a cid f ({ s with oracle := ch } : RState) op := by
        cases op with
        | event id e => cases e <;> exact hqo
        | _ => exact hqo
      have hst' : Stays a cid f s' := by
        cases rest with
        | nil => exact hqr'
        | cons p rest' => exact hqr'.1
      have hown0 : Own ({ s with oracle := ch } : RState) a r := hown
      obtain ⟨r1, o1, f1, g1, t1⟩ := step_thread h30 hi0 hno0 hcs0 hq0 hstep hst0 hst'.1 hqo0 hown0 hf hg
      obtain ⟨r2, o2, f2, g2, t2⟩ := run_thread_of h1 h2 hpos refl trans ofRun rest hr' h hno2 hqr' o1 f1 g1
      refine ⟨r2, o2, f2, g2, ?_⟩
      simp only [runFwd, hstep]
      refine trans ?_ t2
      rcases t1 with ⟨rfl, e⟩ | ⟨hat, hi, hrun⟩
      · rw [e]; exact refl _
      · exact ofRun hat hi hrun

theorem run_thread {cfg : Config} (h1 : 1 ≤ cfg.maxSegmentSize) (h2 : 1 ≤ cfg.maxSegmentCount)
    (hpos : 0 < cfg.maxOutgoingPacketCount) {a : Nat} {cid f : String}
    (ops : List (Op × List Choice)) {s s2 : RState} {r : DataRequest} (hr : Reachable cfg s) (h : run s ops = .ok s2)
    (hno : NoOverflow s2) (hq : QuietRun a cid f s ops) (hown : Own s a r) (hf : r.filter = f) (hg : r.group = none) :
    ∃ r2, Own s2 a r2 ∧ r2.filter = f ∧ r2.group = none ∧ r2.filterIdx = r.filterIdx ∧
      runFwd a f s ops = List.range' r.cursor.2 (runFwd a f s ops).length ∧
      r2.cursor.2 = r.cursor.2 + (runFwd a f s ops).length :=
  run_thread_of h1 h2 hpos
    (T := fun r o r' => r'.filterIdx = r.filterIdx ∧ Contig r.cursor.2 o r'.cursor.2)
    (fun _ => ⟨rfl, Contig.nil _⟩)
    (fun ⟨i1, p1⟩ ⟨i2, p2⟩ => ⟨i2.trans i1, p1.append p2⟩)
    (fun hat hi hrun => ⟨hi, (reqRun_contiguous hrun hat).1⟩)
    ops hr h hno hq hown hf hg

end Router
