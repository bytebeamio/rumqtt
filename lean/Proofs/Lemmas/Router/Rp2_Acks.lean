/-
`Wrote id s s' as`: handling packets of connection `id` appended exactly `as` to its ack log (`Appended`), recorded
exactly these acks as `committed` (`Commits`) and moved the history as `Hist` allows. It composes by `++`; its unit
`Calm` holds across every function `f` that `Bookkeeping` covers (`Calm.bookkeeping.f`). `handlePacket_did` /
`handlePackets_did`: a packet / a batch is `Wrote` of its replies (`IsReplyTo` / `Replies`), with the flags as `FlagStep` /
`FlagSteps`.
-/
import Proofs.Lemmas.Router.Rp2_AckLog
import Proofs.Lemmas.Router.Rp2_Hist
namespace Router

/-- nothing written to an ack log or a link, no `committed` event; history as `Hist` says -/
def Calm (s s' : RState) : Prop := AckFrame s s' ∧ Commits s s' [] ∧ Hist s s'

theorem Calm.bookkeeping : Bookkeeping Calm := AckFrame.bookkeeping.and (Commits.bookkeeping.and Hist.bookkeeping)

theorem Calm.trans {a b c : RState} (h1 : Calm a b) (h2 : Calm b c) : Calm a c := Calm.bookkeeping.trans h1 h2

theorem Calm.g (s : RState) {e : Ghost} (hc : committedEvents [e] = []) (hl : e.loud = false) : Calm s (s.g e) :=
  ⟨AckFrame.of_eq rfl rfl, Commits.g_other e hc, Hist.of_boring ((Boring.refl s).g hl)⟩

structure Wrote (id : Nat) (s s' : RState) (as : List Ack) : Prop where
  acks : Appended s s' id as
  commits : Commits s s' (as.map fun a => (id, a))
  hist : Hist s s'

theorem Wrote.calm {s s' : RState} (id : Nat) (h : Calm s s') : Wrote id s s' [] :=
  ⟨Appended.of_frame h.1 id, h.2.1, h.2.2⟩

theorem Wrote.trans {id : Nat} {a b c : RState} {x y : List Ack} (h1 : Wrote id a b x) (h2 : Wrote id b c y) :
    Wrote id a c (x ++ y) :=
  ⟨h1.acks.trans h2.acks, by rw [List.map_append]; exact h1.commits.trans h2.commits, h1.hist.trans h2.hist⟩

theorem Wrote.then_calm {id : Nat} {a b c : RState} {x : List Ack} (h1 : Wrote id a b x) (h2 : Calm b c) :
    Wrote id a c x := by simpa using h1.trans (Wrote.calm id h2)

theorem Wrote.after_calm {id : Nat} {a b c : RState} {x : List Ack} (h1 : Calm a b) (h2 : Wrote id b c x) :
    Wrote id a c x := by simpa using (Wrote.calm id h1).trans h2

/-- the one way the model registers a reply; the recorded QoS 2 publishes and the window may change with it -/
theorem Wrote.ack {s : RState} {id : Nat} {c : Conn} (hc : getConn s id = some c) (a : Ack) (o : Outgoing) (r : List Pub) :
    Wrote id s ((setConn s id { c with out := o, acks := { committed := c.acks.committed ++ [a], recorded := r } }).g
      (.committed id a)) [a] :=
  ⟨Appended.g (Appended.setConn hc
      (c' := { c with out := o, acks := { committed := c.acks.committed ++ [a], recorded := r } }) rfl rfl rfl) _,
    Commits.g_commit _ id a, Hist.of_boring ((setConn_boring s id _).g rfl)⟩

theorem commitAck_wrote {s s' : RState} {id : Nat} {a : Ack} (h : commitAck s id a = .ok s') : Wrote id s s' [a] := by
  obtain ⟨c, hc, rfl⟩ := commitAck_upd h
  exact Wrote.ack hc a c.out c.acks.recorded

theorem Calm.out {s : RState} {id : Nat} {c : Conn} (hc : getConn s id = some c) (o : Outgoing) :
    Calm s (setConn s id { c with out := o }) := Calm.bookkeeping.setConn hc rfl

theorem appendToFilter_calm {s s' : RState} {i : Nat} {p : Pub} (hp : p.retain = false)
    (h : appendToFilter s i p = .ok s') : Calm s s' :=
  ⟨appendToFilter_frame h, appendToFilter_commits h, appendToFilter_hist hp h⟩

theorem appendToCommitlog_calm {s s' : RState} {id : Nat} {p : Pub} {e : Option AppendErr}
    (h : appendToCommitlog s id p = .ok (s', e)) : Calm s s' :=
  Calm.bookkeeping.appendToCommitlog
    (fun s topic p => ⟨(updateRetained_frame s topic p).g _,
      ⟨[.accepted (some id) p topic], by simp [RState.g, (updateRetained_same s topic p).1], rfl⟩,
      accept_hist s topic p (some id)⟩)
    (fun hp h => appendToFilter_calm hp h) h

/-- the flags across one packet: a request for a flush is kept, a packet owed a reply at once asks for one, `stop` is
    only set together with `disconnect` (`Flags.stopOk`; with `Flags.kick`, `appendFlags` in `Base/Packet.lean`) -/
structure FlagStep (pkt : Packet) (fl fl' : Flags) : Prop where
  mono : fl.forceAck = true → fl'.forceAck = true
  force : pkt.forcesAck = true → fl'.forceAck = true
  stopOk : fl.stopOk → fl'.stopOk

theorem FlagStep.same (pkt : Packet) (fl : Flags) (h : pkt.forcesAck = false) : FlagStep pkt fl fl :=
  ⟨fun h => h, fun h' => (by rw [h] at h'; cases h'), fun h => h⟩

theorem FlagStep.kick (pkt : Packet) (fl : Flags) (h : pkt.forcesAck = false) : FlagStep pkt fl fl.kick :=
  ⟨fun h => h, fun h' => (by rw [h] at h'; cases h'), fun _ _ => rfl⟩

theorem FlagStep.forced (pkt : Packet) (fl : Flags) : FlagStep pkt fl { fl with forceAck := true } :=
  ⟨fun _ => rfl, fun _ => rfl, fun h => h⟩

theorem FlagStep.append {pkt : Packet} {fl fl1 : Flags} (e : Option AppendErr) (h : FlagStep pkt fl fl1) :
    FlagStep pkt fl (appendFlags fl1 e) :=
  ⟨fun h0 => (appendFlags_forceAck fl1 e).trans (h.mono h0), fun h0 => (appendFlags_forceAck fl1 e).trans (h.force h0),
   fun h0 => appendFlags_stopOk e (h.stopOk h0)⟩

theorem handlePacket_did {s s' : RState} {id : Nat} {cid : String} {pkt : Packet} {fl fl' : Flags}
    (h : handlePacket s id cid pkt fl = .ok (s', fl')) :
    ∃ as, IsReplyTo pkt as ∧ Wrote id s s' as ∧ FlagStep pkt fl fl' := by
  have a1 {c : Conn} {pkid : Nat} (hc : getConn s id = some c) (rest : List Pub) :=
    Wrote.ack hc (Ack.pubcomp pkid) c.out rest
  cases packet_cases h with
  | @pub1 _ _ e h1 hca hap e1 =>
    subst e1
    exact ⟨_, by simp [IsReplyTo, h1], (commitAck_wrote hca).then_calm (appendToCommitlog_calm hap),
      (FlagStep.forced _ _).append e⟩
  | @pub2 _ c h2 hc e1 e2 =>
    subst e1 e2; exact ⟨_, by simp [IsReplyTo, h2], Wrote.ack hc _ c.out _, FlagStep.forced _ _⟩
  | @pub0 _ e h1 h2 hap e1 =>
    subst e1
    exact ⟨[], by simp [IsReplyTo, h1, h2], Wrote.calm id (appendToCommitlog_calm hap),
      (FlagStep.same _ _ (by simp [Packet.forcesAck, h1, h2])).append e⟩
  | @subscribe pkid subId fs s1 codes fl1 hsf hca e =>
    subst e
    obtain ⟨k, hk, hc, hcase⟩ := subscribeFilters_out id subId fs hsf
    refine ⟨_, ⟨codes, rfl, ⟨k, hk, by simpa using hc⟩, fun ⟨h0, hv⟩ => ?_⟩,
      Wrote.after_calm (Calm.bookkeeping.subscribeFilters id subId fs hsf) (commitAck_wrote hca),
      ⟨fun _ => rfl, fun _ => rfl, fun hso => ?_⟩⟩
    · rcases hcase with ⟨rfl, _⟩ | ⟨f, hf, hbad | hbad, _⟩
      · simpa using hc
      · rw [hv f (List.mem_of_getElem? hf)] at hbad; cases hbad
      · exact absurd hbad h0
    · rcases hcase with ⟨_, rfl⟩ | ⟨_, _, _, r, rfl⟩
      · exact hso
      · exact fun _ => rfl
  | @unsubscribe pkid fs s1 reasons hu hca e =>
    subst e
    exact ⟨_, ⟨reasons, rfl, by simpa using unsubscribeFilters_length id fs hu⟩,
      Wrote.after_calm (Calm.bookkeeping.unsubscribeFilters id fs hu) (commitAck_wrote hca), FlagStep.forced _ _⟩
  | ping hca e => subst e; exact ⟨_, rfl, commitAck_wrote hca, FlagStep.forced _ _⟩
  | pubackBad hc _ e1 e2 => subst e1 e2; exact ⟨[], rfl, Wrote.calm id (Calm.out hc _), FlagStep.kick _ _ rfl⟩
  | pubackOk hc _ h2 e =>
    subst e
    exact ⟨[], rfl, Wrote.calm id (((Calm.out hc _).trans (Calm.g _ rfl rfl)).trans (Calm.bookkeeping.reschedule h2)),
      FlagStep.same _ _ rfl⟩
  | pubrecBad hc _ e1 e2 => subst e1 e2; exact ⟨[], .inl rfl, Wrote.calm id (Calm.out hc _), FlagStep.kick _ _ rfl⟩
  | @pubrecOk pkid _ hc _ h2 e =>
    subst e
    refine ⟨_, .inr rfl, Wrote.then_calm ?_ (Calm.bookkeeping.reschedule h2), FlagStep.same _ _ rfl⟩
    -- `clientAcked` is recorded between the update of the connection and `committed`: both orders give the same state
    exact Wrote.after_calm ((Calm.g s (e := .clientAcked id pkid) rfl rfl)) (Wrote.ack (s := s.g (.clientAcked id pkid)) hc _ _ _)
  | pubrelNone hc _ e1 e2 => subst e1 e2; exact ⟨_, rfl, a1 hc [], FlagStep.kick _ _ rfl⟩
  | pubrelErr hc _ hap _ e =>
    subst e; exact ⟨_, rfl, (a1 hc _).then_calm (appendToCommitlog_calm hap), FlagStep.kick _ _ rfl⟩
  | pubrelOk hc _ hap h3 e =>
    subst e
    exact ⟨_, rfl, ((a1 hc _).then_calm (appendToCommitlog_calm hap)).then_calm (Calm.bookkeeping.reschedule h3),
      ⟨fun h => h, fun h' => (by cases h'), fun h => h⟩⟩
  | pubcomp hc e1 e2 =>
    subst e1
    rcases e2 with ⟨_, rfl⟩ | ⟨_, rfl⟩
    · exact ⟨[], rfl, Wrote.calm id (Calm.out hc _), FlagStep.kick _ _ rfl⟩
    · exact ⟨[], rfl, Wrote.calm id (Calm.out hc _), FlagStep.same _ _ rfl⟩
  | disconnect e1 e2 =>
    subst e1 e2
    refine ⟨[], rfl, Wrote.calm id ⟨AckFrame.of_eq rfl rfl, ⟨[.willCleared cid], rfl, rfl⟩, ?_⟩, FlagStep.kick _ _ rfl⟩
    exact Hist.of_wills [.willCleared cid] rfl rfl nofun rfl fun c' =>
      Nat.add_le_add_left (stored_aremove_le s.lastWills cid c') _
  | other e1 e2 => subst e1 e2; exact ⟨[], rfl, Wrote.calm id (Calm.bookkeeping.refl _), FlagStep.same _ _ rfl⟩

structure FlagSteps (ps : List Packet) (fl fl' : Flags) : Prop where
  mono : fl.forceAck = true → fl'.forceAck = true
  force : (∃ p ∈ ps, p.forcesAck = true) → fl'.forceAck = true
  stopOk : fl.stopOk → fl'.stopOk

theorem FlagSteps.nil (fl : Flags) : FlagSteps [] fl fl := ⟨fun h => h, fun ⟨_, hp, _⟩ => (nomatch hp), fun h => h⟩

theorem FlagStep.cons {p : Packet} {ps : List Packet} {fl fl1 fl' : Flags} (f1 : FlagStep p fl fl1)
    (f2 : FlagSteps ps fl1 fl') : FlagSteps (p :: ps) fl fl' :=
  ⟨fun h => f2.mono (f1.mono h),
   fun ⟨q, hq, hf⟩ => (List.mem_cons.mp hq).elim (fun e => f2.mono (f1.force (e ▸ hf))) fun hq => f2.force ⟨q, hq, hf⟩,
   fun h => f2.stopOk (f1.stopOk h)⟩

/-- `k` packets were handled: all, or up to and including the one that stops the batch -/
theorem handlePackets_did (id : Nat) (cid : String) : ∀ (pkts : List Packet) {s s' : RState} {fl fl' : Flags},
    handlePackets s id cid pkts fl = .ok (s', fl') →
    ∃ k as, k ≤ pkts.length ∧ Replies (pkts.take k) as ∧ Wrote id s s' as ∧
      (fl'.stop = false → k = pkts.length) ∧ FlagSteps (pkts.take k) fl fl'
  | [], s, s', fl, fl', h => by
    simp only [handlePackets, Except.ok.injEq, Prod.mk.injEq] at h; obtain ⟨rfl, rfl⟩ := h
    exact ⟨0, [], Nat.le_refl _, .nil, Wrote.calm id (Calm.bookkeeping.refl _), fun _ => rfl, FlagSteps.nil _⟩
  | p :: rest, s, s', fl, fl', h => by
    simp only [handlePackets] at h
    split at h
    · simp at h
    · rename_i s1 fl1 h1
      obtain ⟨as, r1, a1, f1⟩ := handlePacket_did h1
      split at h
      · rename_i hstop
        simp only [Except.ok.injEq, Prod.mk.injEq] at h; obtain ⟨rfl, rfl⟩ := h
        exact ⟨1, as, by simp, by simpa using Replies.cons r1 .nil, a1, fun hs => by simp [hstop] at hs,
          f1.cons (FlagSteps.nil _)⟩
      · obtain ⟨k, bs, hk, r2, a2, hs, f2⟩ := handlePackets_did id cid rest h
        exact ⟨k + 1, as ++ bs, by simp; omega, by simpa using Replies.cons r1 r2, a1.trans a2,
          fun h' => by simp [hs h'], f1.cons f2⟩

end Router
