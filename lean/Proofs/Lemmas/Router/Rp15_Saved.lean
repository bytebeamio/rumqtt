/-
C08 — the graveyard entry a connection leaves when it ends, and what a later CONNECT of the same client id
makes of it.
-/
import Proofs.Lemmas.Router.Rp12_Resume
namespace Router
open Router.Rp3

theorem graveyard_after_disconnection {s s' : RState} {id : Nat} {r : Option String} {c : Conn}
    (hc : getConn s id = some c) (h : handleDisconnection s id r = .ok s') :
    alookup c.clientId s'.graveyard = some (hdSession s id c) := by
  rw [(handleDisconnection_spec hc h).graveyard]; exact alookup_ainsert_same _ _ _

theorem savedOf_mem_saved {s : RState} {id : Nat} {c : Conn} {q : DataRequest}
    (hq : q ∈ c.tracker.requests ++ (datalogClean s.datalog id).2) :
    savedOf s.shared c.out.inflight q ∈ (hdSavedOf s id c).2 := by
  rw [hdSavedOf_reqs, List.map_map]
  exact List.mem_map.mpr ⟨q, hq, rfl⟩

theorem restores_saved {s s1 s2 : RState} {id : Nat} {c : Conn} {r : Option String} {spec : ConnectSpec}
    (hc : getConn s id = some c) (hcl : c.clean = false) (hd : handleDisconnection s id r = .ok s1)
    (hgy : alookup c.clientId s2.graveyard = alookup c.clientId s1.graveyard)
    (hid : spec.clientId = c.clientId) (hsc : spec.clean = false) :
    hnRestored (setLink s2 spec.link {}) spec = hdSession s id c ∧
    (hnSession (setLink s2 spec.link {}) spec).isSome = true := by
  have hsaved : alookup spec.clientId (setLink s2 spec.link {}).graveyard = some (hdSession s id c) := by
    show alookup spec.clientId s2.graveyard = _
    rw [hid, hgy, graveyard_after_disconnection hc hd]
  unfold hnRestored hnSession
  simp [hsc, hsaved, hdSession_isSome, hcl]

theorem connect_fresh {s s' : RState} {spec : ConnectSpec} (hv : validClientId spec.clientId = true)
    (hnew : alookup spec.clientId s.connectionMap = none) (hroom : ¬ s.conns.len ≥ s.config.maxConnections)
    (h : handleNewConnection s spec = .ok s') :
    ∃ t, alookup spec.clientId s'.connectionMap = some (hnKey (setLink s spec.link {}) spec) ∧
      getConn s' (hnKey (setLink s spec.link {}) spec) = some { hnNew (setLink s spec.link {}) spec with tracker := t } ∧
      t.requests = (hnTracker spec (hnRestored (setLink s spec.link {}) spec)).requests ∧
      alookup spec.clientId s'.graveyard = none ∧
      s'.shared = rejoinGroups s.config.strategy spec.clientId t.requests s.shared ∧
      s'.subscriptionMap = (hnSubs (hnRestored (setLink s spec.link {}) spec)).foldl
        (fun m f => subscriptionMapAdd m f (hnKey (setLink s spec.link {}) spec)) s.subscriptionMap := by
  obtain ⟨t, woke, hR⟩ := register_spec (register_fresh hv hnew hroom h)
  have hreq := tryReady_some hR.ready
  exact ⟨t, by rw [hR.connectionMap]; exact alookup_ainsert_same _ _ _, hR.conn, hreq,
    by rw [hR.graveyard]; exact alookup_aremove_same _ _, by rw [hR.shared, hreq]; rfl, hR.subscriptionMap⟩

end Router
