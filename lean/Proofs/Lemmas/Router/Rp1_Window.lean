/-
`OutInv o`: the packet ids in the window are the `o.inflight.length ≤ MAX_INFLIGHT` consecutive ids (cyclically in
`1..=MAX_INFLIGHT`) that end at the id numbered last; appending while there is room and popping the front keep it.
-/
import Proofs.Lemmas.Router.Base.Outgoing
namespace Router

theorem MAX_INFLIGHT_eq : MAX_INFLIGHT = 100 := rfl

theorem Outgoing.freeSlots_of_full {o : Outgoing} (h : o.inflight.length = MAX_INFLIGHT) : o.freeSlots = 0 := by
  unfold Outgoing.freeSlots; rw [h]; exact Nat.sub_self _

/-- the `k`-th id of a window of `n` entries when the id numbered last is `last` (`0` standing for `MAX_INFLIGHT`) -/
def pkidAt (last n k : Nat) : Nat := (last + MAX_INFLIGHT - n + k) % MAX_INFLIGHT + 1

def OutInv (o : Outgoing) : Prop :=
  o.inflight.length ≤ MAX_INFLIGHT ∧ o.lastPkid < MAX_INFLIGHT ∧
  ∀ k e, o.inflight[k]? = some e → e.1 = pkidAt o.lastPkid o.inflight.length k

theorem OutInv.empty (p : List Nat) : OutInv { unackedPubrels := p } := by
  refine ⟨by simp, by simp [MAX_INFLIGHT_eq], fun k e h => ?_⟩
  simp at h

theorem OutInv.drop {o o' : Outgoing} (h : OutInv o) (n : Nat) (e1 : o'.inflight = o.inflight.drop n)
    (e2 : o'.lastPkid = o.lastPkid) : OutInv o' := by
  obtain ⟨h1, h2, h3⟩ := h
  refine ⟨by rw [e1, List.length_drop]; omega, by rw [e2]; exact h2, fun k e hk => ?_⟩
  rw [e1, List.getElem?_drop] at hk
  have hlt : n + k < o.inflight.length := by
    by_cases hl : n + k < o.inflight.length
    · exact hl
    · rw [List.getElem?_eq_none (by omega)] at hk; simp at hk
  rw [h3 _ _ hk, e1, e2, List.length_drop]
  unfold pkidAt
  rw [MAX_INFLIGHT_eq] at *
  congr 2
  omega

theorem OutInv.forget {o o' : Outgoing} (h : OutInv o) (e1 : Forgets o.inflight o'.inflight)
    (e2 : o'.lastPkid = o.lastPkid) : OutInv o' := by
  obtain ⟨h1, h2, h3⟩ := h
  refine ⟨by rw [e1.length]; exact h1, by rw [e2]; exact h2, fun k e hk => ?_⟩
  obtain ⟨e0, hk0, he⟩ := e1.getElem? hk
  rw [he.1, h3 _ _ hk0, e1.length, e2]

theorem pkidAt_push {L n k : Nat} (hL : L < MAX_INFLIGHT) (hn : n < MAX_INFLIGHT) :
    pkidAt ((L + 1) % MAX_INFLIGHT) (n + 1) k = pkidAt L n k := by
  unfold pkidAt; rw [MAX_INFLIGHT_eq] at *; omega

theorem pkidAt_last {L n : Nat} (hL : L < MAX_INFLIGHT) (hn : n < MAX_INFLIGHT) :
    pkidAt ((L + 1) % MAX_INFLIGHT) (n + 1) n = L + 1 := by
  unfold pkidAt; rw [MAX_INFLIGHT_eq] at *; omega

theorem OutInv.push {o : Outgoing} (h : OutInv o) (hroom : o.inflight.length < MAX_INFLIGHT) (fi : Nat)
    (cur : Option Cursor) :
    OutInv { o with inflight := o.inflight ++ [(o.lastPkid + 1, fi, cur)],
                    lastPkid := if o.lastPkid + 1 = MAX_INFLIGHT then 0 else o.lastPkid + 1 } := by
  obtain ⟨h1, h2, h3⟩ := h
  have e : (if o.lastPkid + 1 = MAX_INFLIGHT then 0 else o.lastPkid + 1) = (o.lastPkid + 1) % MAX_INFLIGHT := by
    rw [MAX_INFLIGHT_eq] at h2 ⊢; split <;> omega
  rw [e]
  refine ⟨?_, Nat.mod_lt _ (by decide), fun k e hk => ?_⟩
  · show (o.inflight ++ [_]).length ≤ _
    rw [List.length_append]; exact hroom
  · show e.1 = pkidAt _ (o.inflight ++ [_]).length k
    replace hk : (o.inflight ++ [(o.lastPkid + 1, fi, cur)])[k]? = some e := hk
    rw [List.length_append, List.length_singleton]
    rw [List.getElem?_append] at hk
    split at hk
    · rename_i hlt
      rw [h3 _ _ hk, pkidAt_push h2 hroom]
    · have hk' : k = o.inflight.length := by
        by_cases e0 : k - o.inflight.length = 0
        · omega
        · rw [List.getElem?_eq_none (by simp; omega)] at hk; simp at hk
      subst hk'
      simp only [Nat.sub_self, List.getElem?_cons_zero, Option.some.injEq] at hk
      subst hk
      exact (pkidAt_last h2 hroom).symm
theorem OutInv.numberForwards (fi : Nat) : ∀ (ps : List (Pub × Option Cursor)) (o : Outgoing) (acc : List Notif),
    OutInv o → o.inflight.length + ps.length ≤ MAX_INFLIGHT → OutInv (numberForwards o fi ps acc).1
  | [], o, acc, h, _ => by simpa [Router.numberForwards] using h
  | (p, c) :: rest, o, acc, h, hl => by
    simp only [Router.numberForwards]
    simp only [List.length_cons] at hl
    refine OutInv.numberForwards fi rest _ _ (h.push (by omega) fi c) ?_
    simp only [List.length_append, List.length_cons, List.length_nil]
    omega

theorem OutInv.pkids {o : Outgoing} (h : OutInv o) :
    (∀ e ∈ o.inflight, 0 < e.1 ∧ e.1 ≤ MAX_INFLIGHT) ∧ (o.inflight.map (·.1)).Nodup := by
  obtain ⟨h1, h2, h3⟩ := h
  refine ⟨fun e he => ?_, ?_⟩
  · obtain ⟨k, hk, rfl⟩ := List.getElem_of_mem he
    rw [h3 k _ (List.getElem?_eq_getElem hk)]
    unfold pkidAt
    rw [MAX_INFLIGHT_eq]
    omega
  · rw [List.nodup_iff_pairwise_ne, List.pairwise_iff_getElem]
    intro i j hi hj hij
    simp only [List.length_map] at hi hj
    simp only [List.getElem_map]
    rw [h3 i _ (List.getElem?_eq_getElem hi), h3 j _ (List.getElem?_eq_getElem hj)]
    -- positions `i < j` of at most 100 entries: `x + i` and `x + j` differ mod 100
    unfold pkidAt
    rw [MAX_INFLIGHT_eq] at *
    omega

end Router
