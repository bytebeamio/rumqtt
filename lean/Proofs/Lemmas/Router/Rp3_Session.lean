/-
Sessions: what `handle_disconnection` leaves in the graveyard, the connection map and the slab, and what a registration
builds from it.
-/
import Proofs.Lemmas.Router.Base.Connect
import Proofs.Lemmas.Router.Rp1_ShapeOf
namespace Router
namespace Rp3

theorem cids_of_shape {s s' : RState} (h : Shape RT s s') : cids s'.conns = cids s.conns := by
  unfold cids
  apply List.ext_getElem?
  intro j
  simp only [List.getElem?_map]
  by_cases hj : j < s.conns.entries.length
  · have hj' : j < s'.conns.entries.length := by rw [h.elen]; exact hj
    rw [List.getElem?_eq_getElem hj, List.getElem?_eq_getElem hj']
    simp only [Option.map_some, Option.some.injEq]
    have g1 : getConn s j = s.conns.entries[j] := by
      unfold getConn Slab.get?; rw [List.getElem?_eq_getElem hj]; rfl
    have g2 : getConn s' j = s'.conns.entries[j] := by
      unfold getConn Slab.get?; rw [List.getElem?_eq_getElem hj']; rfl
    rcases h.conn j with ⟨a, b⟩ | ⟨c, c', a, b, t, rfl⟩
    · rw [← g1, ← g2, a, b]
    · rw [← g1, ← g2, a, b]; rfl
  · rw [List.getElem?_eq_none (by rw [h.elen]; omega), List.getElem?_eq_none (by omega)]

/-- the wake-up of parked group members changes trackers of other connections only, hence `cids` and `len` where
    `HdFinal` has `conns` -/
structure Disconnected (s : RState) (id : Nat) (c : Conn) (s' : RState) : Prop where
  graveyard : s'.graveyard = ainsert c.clientId (hdSession s id c) s.graveyard
  connectionMap : s'.connectionMap = aremove c.clientId s.connectionMap
  cids : cids s'.conns = cids (s.conns.remove id)
  config : s'.config = s.config
  len : s'.conns.len = (s.conns.remove id).len

theorem handleDisconnection_spec {s s' : RState} {id : Nat} {r : Option String} {c : Conn}
    (hc : getConn s id = some c) (h : handleDisconnection s id r = .ok s') : Disconnected s id c s' := by
  rcases handleDisconnection_cases h with ⟨hn, _⟩ | ⟨c', hc', h⟩
  · rw [hc] at hn; cases hn
  rw [hc] at hc'; cases hc'
  have wf := wakeParked_wakeFrame h
  have sh := wakeParked_shape h
  rw [hdFinal_eq_record] at wf sh
  exact ⟨wf.graveyard, wf.cmap, cids_of_shape sh, wf.config, sh.len⟩

/-- `hnNew`: the restored or fresh connection with its CONNACK committed; `t`, `woke`: what `reschedule(Init)` makes of
    its tracker -/
structure Registered (s : RState) (spec : ConnectSpec) (t : Tracker) (woke : Bool) (s' : RState) : Prop where
  ready : (hnTracker spec (hnRestored s spec)).tryReady .init = some (t, woke)
  conn : getConn s' (hnKey s spec) = some { hnNew s spec with tracker := t }
  graveyard : s'.graveyard = aremove spec.clientId s.graveyard
  connectionMap : s'.connectionMap = ainsert spec.clientId (hnKey s spec) s.connectionMap
  datalog : s'.datalog = s.datalog
  shared : s'.shared =
    rejoinGroups s.config.strategy spec.clientId (hnTracker spec (hnRestored s spec)).requests s.shared
  config : s'.config = s.config
  links : s'.links = s.links
  subscriptionMap : s'.subscriptionMap =
    (hnSubs (hnRestored s spec)).foldl (fun m f => subscriptionMapAdd m f (hnKey s spec)) s.subscriptionMap
  readyqueue : s'.readyqueue = (if woke then s.readyqueue ++ [hnKey s spec] else s.readyqueue)

theorem register_spec {s s' : RState} {spec : ConnectSpec}
    (hr : reschedule (hnPre s spec) (hnKey s spec) .init = .ok s') : ∃ t woke, Registered s spec t woke s' := by
  obtain ⟨c, t, woke, hc, ht, hs'⟩ := reschedule_upd hr
  have hget : getConn (hnPre s spec) (hnKey s spec) =
      if hnKey s spec < (s.conns.insert (hnConn spec (hnRestored s spec))).1.entries.length then some (hnNew s spec) else none :=
    Slab.get?_set_self _ _ _
  rw [hget] at hc
  split at hc
  · rename_i hlt
    cases hc
    have hlt' : hnKey s spec < (hnPre s spec).conns.entries.length := by
      show _ < (Slab.set _ _ _).entries.length
      simp only [Slab.set, List.length_set]; exact hlt
    subst hs'
    refine ⟨t, woke, ?_⟩
    cases woke <;> exact ⟨ht, getConn_setConn_same _ _ _ hlt', rfl, rfl, rfl, rfl, rfl, rfl, rfl, rfl⟩
  · cases hc

theorem register_fresh {s s' : RState} {spec : ConnectSpec} (hv : validClientId spec.clientId = true)
    (hnew : alookup spec.clientId s.connectionMap = none) (hroom : ¬ s.conns.len ≥ s.config.maxConnections)
    (h : handleNewConnection s spec = .ok s') :
    reschedule (hnPre (setLink s spec.link {}) spec) (hnKey (setLink s spec.link {}) spec) .init = .ok s' := by
  cases handleNewConnection_cases h with
  | invalid hv' => rw [hv] at hv'; cases hv'
  | full s1 _ ht hfull =>
    rcases hnTakeover_cases ht with ⟨_, rfl⟩ | ⟨old, hold, _⟩
    · exact absurd hfull hroom
    · rw [show alookup spec.clientId (setLink s spec.link {}).connectionMap = none from hnew] at hold; cases hold
  | registered s1 _ ht _ _ hr =>
    rcases hnTakeover_cases ht with ⟨_, rfl⟩ | ⟨old, hold, _⟩
    · exact hr
    · rw [show alookup spec.clientId (setLink s spec.link {}).connectionMap = none from hnew] at hold; cases hold

theorem register_takeover {s s' : RState} {spec : ConnectSpec} {old : Nat}
    (hv : validClientId spec.clientId = true)
    (hold : alookup spec.clientId s.connectionMap = some old) (h : handleNewConnection s spec = .ok s') :
    ∃ s1, handleDisconnection (setLink s spec.link {}) old none = .ok s1 ∧
      (¬ s1.conns.len ≥ s1.config.maxConnections → reschedule (hnPre s1 spec) (hnKey s1 spec) .init = .ok s') := by
  have hold' : alookup spec.clientId (setLink s spec.link {}).connectionMap = some old := hold
  cases handleNewConnection_cases h with
  | invalid hv' => rw [hv] at hv'; cases hv'
  | full s1 _ ht hfull =>
    rcases hnTakeover_cases ht with ⟨hn, _⟩ | ⟨o, ho, hd⟩
    · rw [hold'] at hn; cases hn
    · rw [hold'] at ho; cases ho; exact ⟨s1, hd, fun hr => absurd hfull hr⟩
  | registered s1 _ ht _ _ hr =>
    rcases hnTakeover_cases ht with ⟨hn, _⟩ | ⟨o, ho, hd⟩
    · rw [hold'] at hn; cases hn
    · rw [hold'] at ho; cases ho; exact ⟨s1, hd, fun _ => hr⟩

end Rp3
end Router
