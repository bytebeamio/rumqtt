/-
The request loop of `consume` threads THE request of `(a, f)` through its sweeps — what the
loop forwards through `f` (`loopFwd`) is a `ReqRun` of that request. `Thread` is the invariant handed to
`consumeLoop_trace`: the request, the run it has made so far, and where it is (held by the loop, or `a`'s outside it: `Own`).
-/
import Proofs.Lemmas.Router.Rp7_Fwd
namespace Router
open Router.Rp3

/-- the request of `(a, f)` while the loop runs: the run it has made since `(s0, r0)`; it is among the requests the loop
    holds, or `a` owns it outside the loop (`Own`) and no request the loop holds has its filter -/
structure Thread (a : Nat) (f : String) (s0 : RState) (r0 : DataRequest) (t : RState) (l : List DataRequest)
    (acc : List Nat) : Prop where
  nodup : (l.map (·.filter)).Nodup
  thread : ∃ r1, r1.filter = f ∧ r1.group = none ∧ r1.filterIdx = r0.filterIdx ∧ ReqRun r0.filterIdx s0 r0 acc t r1 ∧
    (r1 ∈ l ∨ (Own t a r1 ∧ ∀ x ∈ l, x.filter ≠ f))

namespace Thread
variable {a : Nat} {f : String} {s0 : RState} {r0 : DataRequest}

theorem quiet {t t' : RState} {l : List DataRequest} {acc : List Nat} {add : Nat → List DataRequest}
    (h : Thread a f s0 r0 t l acc) (e : dkey t' = dkey t) (m : Held t t' add noRq) : Thread a f s0 r0 t' l acc := by
  obtain ⟨nd, r1, hf, hg, hi, run, hw⟩ := h
  exact ⟨nd, r1, hf, hg, hi, run.idle e, hw.imp_right fun ⟨o, hno⟩ => ⟨(m.oadd.own a r1).mpr (.inl o), hno⟩⟩

theorem sweep {t t1 : RState} {req req1 : DataRequest} {st : ConsumeStatus} {l : List DataRequest} {acc : List Nat}
    (h1 : forwardDeviceData t a req = .ok (t1, req1, st)) (h : Thread a f s0 r0 t (req :: l) acc) :
    Thread a f s0 r0 (noteTurn t t1 req1) (req1 :: l) (acc ++ if req.filter = f then sweepDelta t t1 a else []) := by
  obtain ⟨c, hcn⟩ := forwardDeviceData_conn h1
  have ef : req1.filter = req.filter := congrArg Prod.fst (forwardDeviceData_sig h1)
  have hk : dkey (noteTurn t t1 req1) = dkey t := (dkeyFrame.noteTurn t t1 req1).trans (dkeyFrame.forwardDeviceData h1)
  have m := (Held.sweepClosed.forwardDeviceData h1).nn (Held.connClosed.noteTurn t t1 req1)
  obtain ⟨nd, r1, hf, hg, hi, run, hw⟩ := h
  have nd' : req.filter ∉ l.map (·.filter) ∧ (l.map (·.filter)).Nodup := by simpa using nd
  have nd1 : ((req1 :: l).map (·.filter)).Nodup := by simpa [ef] using nd
  -- a sweep of another request
  have other : req.filter ≠ f → (r1 ∈ l ∨ (Own t a r1 ∧ ∀ x ∈ req :: l, x.filter ≠ f)) →
      Thread a f s0 r0 (noteTurn t t1 req1) (req1 :: l) (acc ++ if req.filter = f then sweepDelta t t1 a else []) :=
    fun hne hw' => by
      rw [if_neg hne, List.append_nil]
      refine ⟨nd1, r1, hf, hg, hi, run.idle hk, hw'.imp (List.mem_cons_of_mem _) fun ⟨o, hno⟩ =>
        ⟨(m.oadd.own a r1).mpr (.inl o), fun x hx => ?_⟩⟩
      rcases List.mem_cons.mp hx with rfl | hx
      · rw [ef]; exact hne
      · exact hno x (List.mem_cons_of_mem _ hx)
  rcases hw with hmem | hpk
  · rcases List.mem_cons.mp hmem with rfl | hmem
    · -- the sweep of the threaded request
      rw [if_pos hf]
      have hS := sweep_offsets hcn h1
      have one : ReqRun r0.filterIdx t r1 (sweepDelta t t1 a) (noteTurn t t1 req1) req1 := by
        simpa using ReqRun.sweep hcn hg hi h1 (sweepDelta_spec hcn h1) (reqRun_idle req1 (dkeyFrame.noteTurn t t1 req1))
      exact ⟨nd1, req1, ef.trans hf, hS.group.trans hg, hS.filterIdx.trans hi, run.trans one, .inl List.mem_cons_self⟩
    · exact other (fun e => nd'.1 (by rw [e, ← hf]; exact List.mem_map_of_mem hmem)) (.inl hmem)
  · exact other (hpk.2 req List.mem_cons_self) (.inr hpk)

theorem park {t t' : RState} {req1 : DataRequest} {l : List DataRequest} {acc : List Nat}
    (h3 : Router.park t a req1 = .ok t') (h : Thread a f s0 r0 t (req1 :: l) acc) : Thread a f s0 r0 t' l acc := by
  obtain ⟨nd, r1, hf, hg, hi, run, hw⟩ := h
  have nd' : req1.filter ∉ l.map (·.filter) ∧ (l.map (·.filter)).Nodup := by simpa using nd
  have own := (park_add h3).1.own a r1
  refine ⟨nd'.2, r1, hf, hg, hi, run.idle (dkeyFrame.park h3), ?_⟩
  rcases hw with hmem | ⟨o, hno⟩
  · rcases List.mem_cons.mp hmem with rfl | hmem
    · exact .inr ⟨own.mpr (.inr ⟨rfl, rfl⟩), fun x hx e => nd'.1 (by rw [hf, ← e]; exact List.mem_map_of_mem hx)⟩
    · exact .inl hmem
  · exact .inr ⟨own.mpr (.inl o), fun x hx => hno x (List.mem_cons_of_mem _ hx)⟩

end Thread

/-- wherever the request is when the loop starts: among the loop's requests, or parked / notified while no request of the
    loop has its filter (then nothing is forwarded and it stays where it is) -/
theorem consumeLoop_thread {a : Nat} {f : String} (fuel : Nat) {s s' : RState}
    {requests skipped : List DataRequest} {r : DataRequest}
    (hc : consumeLoop s a fuel requests skipped = .ok s')
    (hnd : ((requests ++ skipped).map (·.filter)).Nodup)
    (hr : r ∈ requests ++ skipped ∨ (Own s a r ∧ ∀ x ∈ requests ++ skipped, x.filter ≠ f))
    (hf : r.filter = f) (hg : r.group = none) :
    ∃ r', Own s' a r' ∧ r'.filter = f ∧ r'.group = none ∧ r'.filterIdx = r.filterIdx ∧
      ReqRun r.filterIdx s r (loopFwd f a fuel s requests skipped) s' r' := by
  obtain ⟨t, l, ⟨_, r1, hf1, hg1, hi1, run, hw⟩, ht⟩ := consumeLoop_trace f (P := Thread a f s r)
    (fun hp h => ⟨(hp.map _).nodup_iff.mpr h.nodup, h.thread.imp fun r1 h1 =>
      ⟨h1.1, h1.2.1, h1.2.2.1, h1.2.2.2.1, h1.2.2.2.2.imp hp.mem_iff.mpr fun k => ⟨k.1, fun x hx => k.2 x (hp.mem_iff.mp hx)⟩⟩⟩)
    (fun hp h => h.quiet (dkeyFrame.pause hp) (Held.connClosed.pause hp))
    (fun h1 _ h3 h => (Thread.sweep h1 h).quiet (dkeyFrame.pause h3) (Held.connClosed.pause h3))
    Thread.sweep (fun h1 h3 h => (Thread.sweep h1 h).park h3)
    fuel (acc := []) hc ⟨hnd, r, hf, hg, rfl, ReqRun.done s r, hr⟩
  refine ⟨r1, ((trackv_add ht).1.own a r1).mpr (hw.elim (fun h => .inr ⟨rfl, h⟩) fun h => .inl h.1), hf1, hg1, hi1, ?_⟩
  simpa using run.idle (dkeyFrame.trackv ht)

end Router
