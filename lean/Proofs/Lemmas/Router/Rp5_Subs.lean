/-
`CS` through SUBSCRIBE and UNSUBSCRIBE.
-/
import Proofs.Lemmas.Router.Rp4_HeldEffect
import Proofs.Lemmas.Router.Rp3_ReqRun
import Proofs.Lemmas.Router.Rp5_Step
namespace Router
namespace Rp3
open CommitLog (SegMono)


theorem LogMono.of_dkey {s s' : RState} (e : dkey s' = dkey s) : LogMono s.datalog s'.datalog := by
  simp only [dkey, Prod.mk.injEq] at e
  exact LogMono.of_eq e.2.1 e.2.2.1

theorem nextNativeOffset_mono (s : RState) (filter : String) : LogMono s.datalog (nextNativeOffset s filter).1.datalog := by
  rcases nextNativeOffset_upd s filter with e | ⟨fd0, pf, _, e⟩
  · rw [e]; exact LogMono.refl _
  · rw [e]
    refine ⟨fun i fd h0 => ⟨fd, ?_, SegMono.refl _, Nat.le_refl _⟩, fun f i h0 => ?_⟩
    · have hlt : i < s.datalog.native.length := (List.getElem?_eq_some_iff.mp h0).1
      show (s.datalog.native ++ [fd0])[i]? = some fd
      rw [List.getElem?_append_left hlt]; exact h0
    · unfold DataLog.filterIdx? at h0 ⊢
      show alookup f (s.datalog.filterIndexes ++ [_]) = some i
      rw [alookup_append, h0]; rfl

theorem nextNativeOffset_cs {s : RState} (hi : DLInv s) (h : CS s) (filter : String) :
    CS (nextNativeOffset s filter).1 ∧
    (nextNativeOffset s filter).1.datalog.filterIdx? filter = some (nextNativeOffset s filter).2.1 ∧
    IssuedAt (nextNativeOffset s filter).1.datalog (nextNativeOffset s filter).2.1 (nextNativeOffset s filter).2.2 := by
  obtain ⟨fd, hist, hfd, _, _, hiss, _, _⟩ := nextNativeOffset_tail (filter := filter) hi
  refine ⟨?_, ?_, ⟨fd, hfd, hiss⟩⟩
  · have hm := nextNativeOffset_mono s filter
    rcases nextNativeOffset_upd s filter with e | ⟨fd0, pf, hw0, e⟩
    · rw [e]; exact h
    · have hh : ∀ j, held (nextNativeOffset s filter).1 j = held s j := fun j => by
        rw [e]; refine held_of_new_log (s := s) hw0 ?_ ?_ ?_ j <;> rfl
      refine h.step0 ⟨hm, fun r hr => .inl ?_, ?_, ?_, ?_⟩
      · obtain ⟨j, hj⟩ := (allReqs_iff _ r).mp hr
        exact (allReqs_iff s r).mpr ⟨j, hh j ▸ hj⟩
      all_goals rw [e]
      · exact fun _ _ hw => hw
      · exact fun _ hp => hp
      · exact fun p hp => ⟨p, hp, rfl, rfl⟩
  · exact nextNativeOffset_filterIdx s filter

theorem sfGroup_gpath {path g : String} (h : sfGroup path = some g) : sfFilter path = gpath g := by
  obtain ⟨p, he⟩ := sfGroup_extract h
  unfold sfFilter
  rw [he]
  exact extractGroup_gpath he

/-- the new request, and a new group, start at the cursor `next_native_offset` handed out -/
theorem prepareFilter_cs {s s' : RState} {id : Nat} {cursor : Cursor} {idx : Nat} {f : SubFilter} {subId : Option Nat}
    (h : CS s) (hidx : s.datalog.filterIdx? (sfFilter f.path) = some idx) (hiss : IssuedAt s.datalog idx cursor)
    (hp : prepareFilter s id cursor idx f (sfGroup f.path) subId = .ok s') : CS s' := by
  have ph := (prepareFilter_held hp).1
  obtain ⟨c, t, q, hc, _, rfl⟩ := prepareFilter_post hp
  refine h.transfer (LogMono.refl _) (fun r hr => ?_) (fun fi cur hw => .inl ?_)
    (fun p hp' ss hss r hr => .inl ⟨p, hp', ss, hss, hr⟩) (fun p hp' => ?_)
  · obtain ⟨j, hj⟩ := (allReqs_iff _ r).mp hr
    rcases List.mem_append.mp ((ph j).mem_iff.mp hj) with hj | hj
    · exact .inl ((allReqs_iff s r).mpr ⟨j, hj⟩)
    · split at hj
      · rw [List.eq_of_mem_singleton hj]
        exact .inr ⟨hiss, fun g hg => by rw [← sfGroup_gpath (show sfGroup f.path = some g from hg)]; exact hidx⟩
      · cases hj
  · rcases allWin_of_set (c' := pfNew c f.path subId (!c.subscriptions.contains f.path) t) hc (by rfl) hw with
      h | ⟨e, he, rest⟩
    · exact h
    · exact ⟨id, c, hc, e, by rw [← pfConn_out c f.path subId]; exact he, rest⟩
  · have hp'' : p ∈ pfShared s cursor c.clientId (sfGroup f.path) := hp'
    cases hg : sfGroup f.path with
    | none => rw [hg] at hp''; exact .inl ⟨p, hp'', rfl, rfl⟩
    | some g =>
      rw [hg] at hp''
      rcases mem_pfShared.mp hp'' with ⟨hm, _⟩ | ⟨grp, hl, rfl⟩ | ⟨_, rfl⟩
      · exact .inl ⟨p, hm, rfl, rfl⟩
      · exact .inl ⟨(g, grp), mem_of_alookup_eq_some hl, rfl, rfl⟩
      · exact .inr ⟨idx, by rw [← sfGroup_gpath hg]; exact hidx, hiss⟩

theorem subscribeFilters_cs {id : Nat} {subId : Option Nat} (fs : List SubFilter) {s s' : RState}
    {codes codes' : List Nat} {fl fl' : Flags} (hi : DLInv s) (h : CS s)
    (hs : subscribeFilters s id subId fs codes fl = .ok (s', codes', fl')) : CS s' :=
  (Walk.subscribeFilters_inv (I := fun t => DLInv t ∧ CS t) (fun {s _ f} a h1 => by
    obtain ⟨hn, hidx, hiss⟩ := nextNativeOffset_cs a.1 a.2 (sfFilter f.path)
    exact ⟨(nextNativeOffset_inv a.1).1.of_dkey (dkeyFrame.prepareFilter h1), prepareFilter_cs hn hidx hiss h1⟩)
    fs ⟨hi, h⟩ hs).2


theorem subscribeFilters_mono {id : Nat} {subId : Option Nat} (fs : List SubFilter) {s s' : RState}
    {codes codes' : List Nat} {fl fl' : Flags}
    (hs : subscribeFilters s id subId fs codes fl = .ok (s', codes', fl')) : LogMono s.datalog s'.datalog :=
  Walk.subscribeFilters_inv (I := fun t => LogMono s.datalog t.datalog)
    (fun a h1 => a.trans ((nextNativeOffset_mono _ _).trans (LogMono.of_dkey (dkeyFrame.prepareFilter h1))))
    fs (LogMono.refl _) hs


theorem ufShared_sub (s : RState) (f cid : String) :
    ∀ p ∈ ufShared s f cid, ∃ q ∈ s.shared, q.1 = p.1 ∧ q.2.cursor = p.2.cursor := fun p hp => by
  rcases mem_ufShared hp with ⟨hm, _⟩ | ⟨_, g, _, hl, _, e⟩
  · exact ⟨p, hm, rfl, rfl⟩
  · exact ⟨(p.1, g), mem_of_alookup_eq_some hl, rfl, by rw [e]; rfl⟩

theorem unsubOut_sub (d : DataLog) (subs : List String) (o : Outgoing) (f : String) :
    ∀ e ∈ (unsubOut d subs o f).inflight, ∀ cur, e.2.2 = some cur → ∃ e0 ∈ o.inflight, e0.2.1 = e.2.1 ∧ e0.2.2 = some cur := by
  intro e he cur hcur
  obtain ⟨k, hk⟩ := List.mem_iff_getElem?.mp he
  obtain ⟨e0, h0, _, h2, h3⟩ := (unsubOut_spec d subs o f).1.getElem? hk
  refine ⟨e0, List.mem_of_getElem? h0, h2.symm, ?_⟩
  rcases h3 with h3 | h3
  · rw [← h3]; exact hcur
  · rw [h3] at hcur; cases hcur

theorem ufState_cstep {s : RState} {id : Nat} {ids : List Nat} {c : Conn} {f : String}
    (hc : getConn s id = some c) : CStep s (ufState s id ids c f) noRq := by
  refine ⟨LogMono.of_eq (removeWaiterFor_same _ _ _).2.1 (removeWaiterFor_same _ _ _).2.2.1, fun r hr => ?_, ?_, fun p hp => hp,
    fun p hp => ufShared_sub s f c.clientId p hp⟩
  · obtain ⟨j, hj⟩ := (allReqs_iff _ r).mp hr
    obtain ⟨rem, p, _⟩ := ufState_held hc ids f j
    exact .inl ((allReqs_iff s r).mpr ⟨j, p.mem_iff.mpr (List.mem_append_left _ hj)⟩)
  · intro fi cur hw
    rcases allWin_of_set (c' := ufConn s.datalog c f) hc (by rfl) hw with h | ⟨e, he, h1, h2⟩
    · exact h
    · obtain ⟨e0, he0, a, b⟩ := unsubOut_sub _ _ _ _ e he cur h2
      exact ⟨id, c, hc, e0, he0, a.trans h1, b⟩

theorem unsubscribeFilters_cstep {id : Nat} (fs : List String) {s s' : RState} {rs rs' : List Bool}
    (h : unsubscribeFilters s id fs rs = .ok (s', rs')) : CStep s s' noRq :=
  Walk.unsubscribeFilters_inv (I := fun t => CStep s t noRq)
    (fun _ _ a => a.nn (CStep.connClosed.of_rest rfl rfl)) (fun _ a hc => a.nn (ufState_cstep hc))
    fs (CStep.refl _) h

end Rp3
end Router
