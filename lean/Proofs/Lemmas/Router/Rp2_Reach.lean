/-
`HistInv` in every reachable state. Two reachabilities: `run` / `Reachable` (`Base/Reach.lean`) is an error-free run and
is what every other property speaks of; `run2` / `Reachable2` stops at the first error (panic or inadmissible oracle
choice) and keeps the state before it, so it also reaches the states on the way to a failure. C15 / C16 speak of
`Reachable2`; `Reachable.to2` is the bridge.
-/
import Proofs.Lemmas.Router.Base.Reach
import Proofs.Lemmas.Router.Rp2_HistStep
namespace Router

def run2 (s : RState) : List (Op × List Choice) → RState
  | [] => s
  | (op, choices) :: rest =>
    match step { s with oracle := choices } op with
    | .error _ => s
    | .ok (s', _) => run2 s' rest

def Reachable2 (cfg : Config) (s : RState) : Prop := ∃ ops, run2 (init cfg) ops = s

theorem run2_of_run : ∀ (ops : List (Op × List Choice)) {s s' : RState}, run s ops = .ok s' → run2 s ops = s'
  | [], s, s', h => by simp only [run, Except.ok.injEq] at h; exact h
  | (op, ch) :: rest, s, s', h => by
    simp only [run] at h
    simp only [run2]
    split at h
    · simp at h
    · rename_i s1 out hs
      rw [hs]; exact run2_of_run rest h

theorem Reachable.to2 {cfg : Config} {s : RState} (h : Reachable cfg s) : Reachable2 cfg s := by
  obtain ⟨ops, hops⟩ := h
  exact ⟨ops, run2_of_run ops hops⟩

theorem run_hist : ∀ (ops : List (Op × List Choice)) (s : RState), Hist s (run2 s ops)
  | [], s => Hist.refl s
  | (op, choices) :: rest, s => by
    simp only [run2]
    split
    · exact Hist.refl s
    · rename_i s' o hs
      have h0 : Hist s { s with oracle := choices } := Hist.of_boring (Boring.of_eq rfl rfl rfl)
      exact (h0.trans (step_hist hs)).trans (run_hist rest s')

/-- `Hist` from the initial state: every copy ever appended is unflagged; per client, wills fired + will stored ≤
    wills registered; the retained message of every topic is what the accepted publishes so far dictate -/
structure HistInv (s : RState) : Prop where
  ret : RetOK s
  copies : ∀ e ∈ appendedEvents s.ghost, e.2.retain = false
  wills : ∀ cid, firedCount cid s.ghost + stored s.lastWills cid ≤ setCount cid s.ghost
  latest : ∀ t, alookup t s.datalog.retained = retainedSpec t none (acceptedEvents s.ghost)

theorem HistInv.init (cfg : Config) : HistInv (init cfg) :=
  ⟨⟨List.nodup_nil, fun _ h => absurd h (List.not_mem_nil)⟩,
   fun _ h => absurd h (List.not_mem_nil),
   fun cid => by simp [Router.init, firedCount, setCount, stored, alookup],
   fun t => by simp [Router.init, acceptedEvents, retainedSpec, alookup]⟩

theorem HistInv.step {s s' : RState} (hi : HistInv s) (h : Hist s s') : HistInv s' := by
  obtain ⟨evs, g, p, w, r⟩ := h.ghost
  refine ⟨h.ret hi.ret, ?_, ?_, ?_⟩
  · intro e he
    rw [g, appendedEvents_append] at he
    rcases List.mem_append.mp he with h1 | h1
    · exact hi.copies e h1
    · exact p e h1
  · intro cid
    have := hi.wills cid; have := w cid
    rw [g, firedCount_append, setCount_append]
    omega
  · intro t
    rw [r t, g, acceptedEvents_append, retainedSpec_append, ← hi.latest t]

theorem reachable_histInv {cfg : Config} {s : RState} (h : Reachable2 cfg s) : HistInv s := by
  obtain ⟨ops, rfl⟩ := h
  exact (HistInv.init cfg).step (run_hist ops _)

/-! kernel-executable form of `run2` (see the end of Base/Decomp.lean) for closed examples -/

def run2X (s : RState) : List (Op × List Choice) → RState
  | [] => s
  | (op, choices) :: rest =>
    match stepX { s with oracle := choices } op with
    | .error _ => s
    | .ok (s', _) => run2X s' rest

theorem run2_eq_run2X : ∀ (ops : List (Op × List Choice)) (s : RState), run2 s ops = run2X s ops
  | [], s => rfl
  | (op, ch) :: rest, s => by
    simp only [run2, run2X, step_eqX]
    split
    · rfl
    · exact run2_eq_run2X rest _

theorem Reachable2.ofX {cfg : Config} {s : RState} (ops : List (Op × List Choice))
    (h : run2X (init cfg) ops = s) : Reachable2 cfg s := ⟨ops, by rw [run2_eq_run2X]; exact h⟩

end Router
