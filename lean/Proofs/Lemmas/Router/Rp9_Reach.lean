/-
`GL` along `step`; `GL.reachable` (C17).
-/
import Proofs.Lemmas.Router.Rp6_Idle
import Proofs.Lemmas.Router.Rp9_Consume
import Proofs.Lemmas.Router.Rp9_Session
namespace Router
open Router.Rp3

theorem handleDevicePayload_gl {s s' : RState} {id : Nat} (hi : DLInv s) (hcs : CS s) (hg : GL s)
    (h : handleDevicePayload s id = .ok s') : GL s' :=
  Walk.handleDevicePayload_inv (I := fun t => GL t ∧ CS t) ⟨hg, hcs⟩ (fun g => g.1)
    (fun {c _ _} _ h1 =>
      have i0 : DLInv (setLink s c.link { getLink s c.link with ibuf := [] }) := hi.of_dkey rfl
      ⟨handlePackets_gl _ i0 (hg.step (LStep.of_conns rfl rfl rfl rfl rfl)) h1,
        handlePackets_cs _ i0 (hcs.step0 (CStep.connClosed.of_rest rfl rfl)) h1⟩)
    (fun g h2 => ⟨g.1.step (LStep.frame.reschedule h2), g.2.step0 (CStep.closed.reschedule h2)⟩)
    (fun g h3 => ⟨g.1.step (LStep.frame.drain_all h3), g.2.step0 (CStep.closed.drain h3)⟩)
    (fun g h4 => ⟨wakeTurnMoved_gl g.1 h4, g.2.step0 (CStep.closed.wakeTurnMoved h4)⟩)
    (fun g h5 => handleDisconnection_gl g.1 g.2 h5) h

theorem step_gl {s s' : RState} {op : Op} {out : Out} (h3 : Inv3 s) (hi : DLInv s) (hno : NoOverflow s) (hcs : CS s)
    (hpos : 0 < s.config.maxOutgoingPacketCount) (hq : QI s) (hg : GL s) (hs : step s op = .ok (s', out)) : GL s' :=
  Walk.step_inv hg (fun _ _ => hg.step (LStep.of_conns rfl rfl rfl rfl rfl))
    (handleNewConnection_gl h3.br h3.inv2.inv1.adm hq hcs hg) (handleDevicePayload_gl hi hcs hg)
    (fun he => hg.step (LStep.frame.reschedule he)) (fun he => handleDisconnection_gl hg hcs he)
    (fun he => hg.step (LStep.frame.handleLastWill he))
    (fun he => hg.step (LStep.frame.handleShadow he))
    (consume_gl hi hno hcs hpos hg) hs

theorem GL.init (cfg : Config) : GL (init cfg) :=
  ⟨by simp [Router.init], fun p hp => by simp [Router.init] at hp, fun p hp => by simp [Router.init] at hp,
   fun p hp => by simp [Router.init] at hp⟩

theorem GL.reachable {cfg : Config} (h1 : 1 ≤ cfg.maxSegmentSize) (h2 : 1 ≤ cfg.maxSegmentCount)
    (hpos : 0 < cfg.maxOutgoingPacketCount) {s : RState} (hr : Reachable cfg s) (hno : NoOverflow s) : GL s :=
  Rp3.reachable_below h1 h2 (GL.init cfg) (fun {s o _ _ _} hrs hi0 hno0 hg hstep =>
    step_gl ((Inv3.reachable hrs).oracle o) hi0 hno0 ((Rp3.CS.reachable h1 h2 hrs hno0).oracle o)
      (by show 0 < s.config.maxOutgoingPacketCount; rw [config_reachable hrs]; exact hpos)
      ((QI.reachable h1 h2 hpos hrs hno0).oracle o) (hg.step (LStep.of_conns rfl rfl rfl rfl rfl)) hstep) hr hno

end Router
