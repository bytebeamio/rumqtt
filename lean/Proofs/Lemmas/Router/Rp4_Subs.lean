/-
Request conservation through SUBSCRIBE (a request is created only for a filter that is new for
the connection, so `check_tracker_duplicates` finds nothing) and UNSUBSCRIBE (the one request of the
filter is removed wherever it is: tracker, waiter list of its log, notifications).
-/
import Proofs.Lemmas.Router.Base.Local
import Proofs.Lemmas.Router.Rp4_Steps
namespace Router

theorem RC.held_nodup {s : RState} (h : RC s) (j : Nat) : ((held s j).map (·.filter)).Nodup := by
  have := ((RC.iff s).mp h).1.nodup j
  rw [keysOf_eq, List.map_map] at this
  exact this

theorem RC.tracker_nodup {s : RState} (h : RC s) {id : Nat} {c : Conn} (hc : getConn s id = some c) :
    trackerNoDup c.tracker = true := by
  rw [trackerNoDup_iff]
  have h1 := h.held_nodup id
  unfold held tracked at h1
  rw [hc, List.map_append, List.map_append] at h1
  exact (List.nodup_append.mp (List.nodup_append.mp h1).1).1

theorem KeyOK.append {fi : List (String × Nat)} {k : RKey} (h : KeyOK fi k) (ext : List (String × Nat)) :
    KeyOK (fi ++ ext) k := by
  unfold KeyOK at h ⊢
  rw [alookup_append, h]; rfl

theorem nextNativeOffset_rc {s : RState} (h : RC s) (filter : String) : RC (nextNativeOffset s filter).1 := by
  rcases nextNativeOffset_upd s filter with e | ⟨fd0, pf, hw0, e⟩
  · rw [e]; exact h
  · rw [e]
    refine ⟨?_, fun i fd hfd w hw => ?_, fun p hp ss hss => ?_⟩
    · refine h.k.of_sub (fun id => ⟨[], ?_⟩) (fun id k _ hk => hk) (fun k hk => hk.append _)
      simp only [List.append_nil]
      unfold keysOf waiterKeys notifKeys trackerKeys
      simp [pickK_nil, hw0]
      rfl
    · rcases getElem?_append_one.1 hfd with h0 | ⟨_, rfl⟩
      · exact h.widx i fd h0 w hw
      · rw [hw0] at hw; cases hw
    · obtain ⟨a, b⟩ := h.grv p hp ss hss
      exact ⟨a, fun r hr => ⟨(b r hr).1, (b r hr).2.append _⟩⟩

/-- the filter was not subscribed before, so no request of `id` has it -/
theorem RC.subscribe {s s' : RState} {id : Nat} {r : DataRequest} (h : RC s)
    (hp : ∀ j, (held s' j).Perm (held s j ++ if j = id then [r] else []))
    (hsub : ∀ j, subsOf s' j = if j = id then subsOf s id ++ [r.filter] else subsOf s j)
    (hnew : r.filter ∉ subsOf s id) (hw : WIdx s → WIdx s') (hg : s'.graveyard = s.graveyard)
    (hfi : s'.datalog.filterIndexes = s.datalog.filterIndexes) (hk : KeyOK s.datalog.filterIndexes r.key) : RC s' := by
  obtain ⟨hK, hW, hG⟩ := (RC.iff s).mp h
  refine (RC.iff s').mpr ⟨?_, hw hW, by rw [hg, hfi]; exact hG⟩
  rw [hfi]
  have hp' : ∀ j, (keysOf s' j).Perm (keysOf s j ++ if j = id then [r.key] else []) := fun j => by
    have := (hp j).map (·.key)
    rw [keysOf_eq, keysOf_eq]
    by_cases hj : j = id
    · simpa only [hj, if_true, List.map_append, List.map_cons, List.map_nil] using this
    · simpa only [hj, if_false, List.append_nil] using this
  refine ⟨fun j => ?_, fun j x hx => ?_, fun j x hx => ?_⟩
  · rw [((hp' j).map (·.1)).nodup_iff, List.map_append]
    split
    · rename_i e; subst e
      refine List.nodup_append.mpr ⟨hK.nodup j, by simp, fun a ha b hb => ?_⟩
      simp only [List.map_cons, List.map_nil, List.mem_singleton] at hb
      subst hb; intro e; subst e
      obtain ⟨k', hk1, hk2⟩ := List.mem_map.mp ha
      have := hK.subs j k' hk1
      rw [hk2] at this; exact hnew this
    · simpa using hK.nodup j
  · rw [hsub]
    rcases List.mem_append.mp ((hp' j).mem_iff.mp hx) with hx | hx
    · split
      · rename_i e; subst e; exact List.mem_append_left _ (hK.subs j x hx)
      · exact hK.subs j x hx
    · split at hx
      · rename_i e
        rw [List.mem_singleton] at hx; subst hx
        rw [if_pos e]; exact List.mem_append_right _ (List.mem_singleton.mpr rfl)
      · cases hx
  · rcases List.mem_append.mp ((hp' j).mem_iff.mp hx) with hx | hx
    · exact hK.idx j x hx
    · split at hx
      · rw [List.mem_singleton] at hx; subst hx; exact hk
      · cases hx

theorem mem_waiterKeys {s : RState} {id : Nat} {k : RKey} :
    k ∈ waiterKeys s id ↔ ∃ fd ∈ s.datalog.native, ∃ w ∈ fd.waiters, w.1 = id ∧ w.2.key = k := by
  unfold waiterKeys
  simp only [List.mem_flatMap, mem_pickK]

theorem removeWaiterFor_fields (d : DataLog) (id : Nat) (f : String) :
    (removeWaiterFor d id f).filterIndexes = d.filterIndexes ∧
    (∀ (i : Nat) fd', (removeWaiterFor d id f).native[i]? = some fd' →
        ∃ fd, d.native[i]? = some fd ∧ ∀ w ∈ fd'.waiters, w ∈ fd.waiters) := by
  rcases removeWaiterFor_cases d id f with ⟨e, _⟩ | ⟨idx, fd, i, hi, hn, h1, h2, e⟩
  · rw [e]; exact ⟨rfl, fun i fd' h => ⟨fd', h, fun _ hw => hw⟩⟩
  · rw [e]
    refine ⟨rfl, fun k fd' hk => ?_⟩
    simp only [List.getElem?_set] at hk
    split at hk
    · rename_i ek; subst ek
      split at hk
      · simp only [Option.some.injEq] at hk; subst hk
        exact ⟨fd, hn, fun w hw => mem_of_mem_swapRemoveBack hi hw⟩
      · simp at hk
    · exact ⟨fd', hk, fun _ hw => hw⟩

theorem RC.no_waiter_after_remove {s : RState} (h : RC s) (id : Nat) (f : String) :
    ∀ r ∈ (removeWaiterFor s.datalog id f).native.flatMap (fun fd => pick id fd.waiters), r.filter ≠ f := by
  obtain ⟨hK, hW, _⟩ := (RC.iff s).mp h
  intro r hr hrf
  rcases removeWaiterFor_held s.datalog id f with ⟨e, hno⟩ | ⟨x, hx, hp⟩
  · -- nothing was removed: then `r` is parked in the log of `f`'s path, where `remove_waiters_for_id` looked
    rw [e] at hr
    obtain ⟨fd, hfd, hw⟩ := (mem_parked (s := s)).mp hr
    obtain ⟨i', hi'⟩ := List.mem_iff_getElem?.mp hfd
    have hidx : r.filterIdx = i' := hW i' fd hi' (id, r) hw
    have hok : alookup (logPath f) s.datalog.filterIndexes = some i' := by
      have : KeyOK s.datalog.filterIndexes r.key := hK.idx id r.key (by
        rw [keysOf_eq]; exact List.mem_map_of_mem (List.mem_append_left _ (List.mem_append_right _ hr)))
      rw [← hrf, ← hidx]; exact this
    rcases hno with h0 | ⟨idx, h0, h0'⟩ | ⟨idx, fd0, h0, h0', hall⟩
    · rw [h0] at hok; cases hok
    · rw [h0] at hok; cases hok; rw [hi'] at h0'; cases h0'
    · rw [h0] at hok; cases hok; rw [hi'] at h0'; cases h0'
      exact hall (id, r) hw ⟨rfl, hrf⟩
  · -- one entry of `(id, f)` was removed: a second one would be a duplicate
    have hnd : ((parked s id).map (·.filter)).Nodup := by
      have := h.held_nodup id
      unfold held at this
      rw [List.map_append, List.map_append] at this
      exact (List.nodup_append.mp (List.nodup_append.mp this).1).2.1
    have hp' := (hp id).map (·.filter)
    rw [if_pos rfl, List.map_append] at hp'
    exact (List.nodup_append.mp (hp'.nodup_iff.mp hnd)).2.2 r.filter (List.mem_map_of_mem hr) x.filter
      (List.mem_map_of_mem (List.mem_singleton.mpr rfl)) (hrf.trans hx.symm)

theorem ufState_rc {s : RState} {id : Nat} {ids : List Nat} {c : Conn} {f : String} (h : RC s)
    (hc : getConn s id = some c) : RC (ufState s id ids c f) := by
  obtain ⟨hK, hW, hG⟩ := (RC.iff s).mp h
  have hget := ufState_getConn hc ids f
  have hd : (ufState s id ids c f).datalog = removeWaiterFor s.datalog id f := rfl
  have hfi := (removeWaiterFor_fields s.datalog id f).1
  refine (RC.iff _).mpr ⟨?_, ?_, by rw [hd, hfi]; exact hG⟩
  · refine hK.of_sub (fun j => ?_) (fun j k hk hs => ?_) (fun k hk => by rw [hd, hfi]; exact hk)
    · obtain ⟨rem, p, _⟩ := ufState_held hc ids f j
      exact ⟨rem.map (·.key), by simpa only [keysOf_eq, List.map_append] using p.map (·.key)⟩
    · unfold subsOf at hs ⊢
      rw [hget]
      by_cases hj : j = id
      · subst hj
        rw [hc] at hs
        simp only [if_true, ufConn]
        refine List.mem_filter.mpr ⟨hs, ?_⟩
        simp only [decide_eq_true_eq]
        -- no key of filter `f` is left: tracked and notified by `ufState_held`, parked by conservation
        obtain ⟨_, _, _, hleft⟩ := ufState_held hc ids f j
        rw [keysOf_eq] at hk
        obtain ⟨r, hr, rfl⟩ := List.mem_map.mp hk
        unfold held at hr
        rcases List.mem_append.mp hr with hr | hr
        · rcases List.mem_append.mp hr with hr | hr
          · exact hleft r (List.mem_append_left _ hr) rfl
          · exact h.no_waiter_after_remove j f r hr
        · exact hleft r (List.mem_append_right _ hr) rfl
      · simp only [hj, if_false]; exact hs
  · intro i fd' hfd' w hw
    rw [hd] at hfd'
    obtain ⟨fd, hfd, hsub⟩ := (removeWaiterFor_fields s.datalog id f).2 i fd' hfd'
    exact hW i fd hfd w (hsub w hw)

theorem unsubscribeFilters_rc {id : Nat} (fs : List String) {s s' : RState} {rs rs' : List Bool}
    (h : unsubscribeFilters s id fs rs = .ok (s', rs')) (hr : RC s) : RC s' :=
  Walk.unsubscribeFilters_inv (I := RC) (fun _ _ r => RCX.view r (Moves.closed.of_rest rfl rfl))
    (fun _ r hc => ufState_rc r hc) fs hr h

end Router
