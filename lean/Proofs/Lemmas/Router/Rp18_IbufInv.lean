/-
C20: the links' INCOMING buffers, then the C20 invariants over runs. `IbufSub` is a `StoreFrame`; of what writes an
incoming buffer, `handle_new_connection` starts from an empty link, `handle_device_payload` takes the batch out, the
link-side push appends (`step_ibuf_cases`). The run theorem for `OpsOkD none` does not give the one for `OpsOk`:
`OpOkD none` also asks for the range of a CONNECT's will, which `OpOkC` does not.
-/
import Proofs.Lemmas.Router.Rp18_StoredInv
import Proofs.Lemmas.Router.Rp17_EmittableInv
namespace Router
open Encode Codec

def IbufSub (s s' : RState) : Prop := ∀ l, ∀ p ∈ (getLink s' l).ibuf, p ∈ (getLink s l).ibuf

theorem IbufSub.refl (s : RState) : IbufSub s s := fun _ _ h => h

theorem IbufSub.trans {a b c : RState} (h1 : IbufSub a b) (h2 : IbufSub b c) : IbufSub a c :=
  fun l p h => h1 l p (h2 l p h)

theorem IbufSub.of_links {s s' : RState} (h : s'.links = s.links) : IbufSub s s' := fun l p hp => by
  rw [getLink_congr h] at hp; exact hp

theorem IbufSub.setLink (s : RState) (l : Nat) (b : LinkBuf) (h : ∀ p ∈ b.ibuf, p ∈ (getLink s l).ibuf) :
    IbufSub s (setLink s l b) := by
  intro l' p hp
  by_cases hl : l' = l
  · subst hl; rw [getLink_setLink_same] at hp; exact h p hp
  · rw [getLink_setLink_ne _ _ _ _ hl] at hp; exact hp

theorem IbufOk.sub {s s' : RState} (h : IbufOk s) (hs : IbufSub s s') : IbufOk s' :=
  fun l p hp => h l p (hs l p hp)

theorem nextNativeOffset_ibufSub (s : RState) (filter : String) : IbufSub s (nextNativeOffset s filter).1 :=
  IbufSub.of_links (by rcases nextNativeOffset_upd s filter with e | ⟨_, _, _, e⟩ <;> rw [e])

theorem IbufSub.frame : StoreFrame IbufSub where
  refl := IbufSub.refl
  trans := IbufSub.trans
  of_conns _ hk _ _ _ := IbufSub.of_links hk
  of_set _ _ _ _ hk _ _ _ := IbufSub.of_links hk
  of_remove _ _ hk _ _ _ := IbufSub.of_links hk
  of_link s l b h := IbufSub.setLink s l b (fun p hp => by rw [← h]; exact hp)
  newFilter := nextNativeOffset_ibufSub

theorem track_ibufSub {s s' : RState} {id : Nat} {r : DataRequest} (h : track s id r = .ok s') : IbufSub s s' :=
  IbufSub.frame.track h

theorem appendToFilter_ibufSub {s s' : RState} {idx : Nat} {p : Pub} (h : appendToFilter s idx p = .ok s') :
    IbufSub s s' := IbufSub.of_links (appendToFilter_frame h).links

theorem appendToCommitlog_ibufSub {s s' : RState} {id : Nat} {p : Pub} {e : Option AppendErr}
    (h : appendToCommitlog s id p = .ok (s', e)) : IbufSub s s' := IbufSub.of_links (appendToCommitlog_frame h).links

theorem readRetained_ibufSub {s s' : RState} {filter : String} {ps : List Pub}
    (h : readRetained s filter = .ok (s', ps)) : IbufSub s s' := IbufSub.frame.readRetained h

theorem updateNextClient_ibufSub {s s' : RState} {g g' : SharedGroup} (h : updateNextClient s g = .ok (s', g')) :
    IbufSub s s' := IbufSub.frame.updateNextClient h

theorem commitAck_ibufSub {s s' : RState} {id : Nat} {a : Ack} (h : commitAck s id a = .ok s') : IbufSub s s' :=
  IbufSub.frame.commitAck h

theorem prepareFilter_ibufSub {s s' : RState} {id : Nat} {cursor : Cursor} {idx : Nat} {f : SubFilter}
    {group : Option String} {subId : Option Nat} (h : prepareFilter s id cursor idx f group subId = .ok s') :
    IbufSub s s' := IbufSub.frame.prepareFilter h

theorem subscribeFilters_ibufSub {id : Nat} {subId : Option Nat} {fs : List SubFilter} {s s' : RState}
    {codes codes' : List Nat} {fl fl' : Flags} (h : subscribeFilters s id subId fs codes fl = .ok (s', codes', fl')) :
    IbufSub s s' := IbufSub.frame.subscribeFilters fs h

theorem unsubscribeFilters_ibufSub {id : Nat} {fs : List String} {s s' : RState} {rs rs' : List Bool}
    (h : unsubscribeFilters s id fs rs = .ok (s', rs')) : IbufSub s s' :=
  IbufSub.frame.unsubscribeFilters fs h

theorem handlePacket_ibufSub {s s' : RState} {id : Nat} {cid : String} {pkt : Packet} {fl fl' : Flags}
    (h : handlePacket s id cid pkt fl = .ok (s', fl')) : IbufSub s s' := by
  obtain ⟨_, _, ⟨ha, _, _⟩, _⟩ := handlePacket_did h
  exact IbufSub.of_links ha.links

theorem handleDevicePayload_ibufSub {s s' : RState} {id : Nat} (h : handleDevicePayload s id = .ok s') :
    IbufSub s s' := by
  refine IbufSub.frame.handleDevicePayload (fun c s1 fl _ h1 => ?_) h
  obtain ⟨_, _, _, _, ⟨ha, _, _⟩, _⟩ := handlePackets_did id c.clientId _ h1
  exact (IbufSub.setLink _ _ _ (fun p hp => by cases hp)).trans (IbufSub.of_links ha.links)

theorem handleNewConnection_ibufSub {s s' : RState} {spec : ConnectSpec} (h : handleNewConnection s spec = .ok s') :
    IbufSub s s' :=
  IbufSub.frame.handleNewConnection (IbufSub.setLink _ _ _ (fun p hp => by cases hp))
    (fun s1 h1 => (IbufSub.of_links (s := s1) (s' := hnPre s1 spec) rfl).trans (IbufSub.frame.reschedule h1)) h

theorem handleLastWill_ibufSub {s s' : RState} {cid : String} (h : handleLastWill s cid = .ok s') : IbufSub s s' :=
  handleLastWill_rel IbufSub IbufSub.refl (fun _ _ _ => IbufSub.trans) (hfire := fun _ _ => IbufSub.of_links rfl)
    (hacc := fun _ _ _ _ => IbufSub.of_links (updateRetained_frame _ _ _).links)
    (hmatch := fun _ _ _ _ => IbufSub.frame.dlMatches) (happ := fun _ _ _ _ _ => appendToFilter_ibufSub)
    (hdrain := fun _ _ => IbufSub.frame.drainAll) h

theorem step_ibufSub {s s' : RState} {op : Op} {out : Out} (hnp : ∀ l p, op ≠ .push l p)
    (hs : step s op = .ok (s', out)) : IbufSub s s' :=
  IbufSub.frame.step (fun _ _ hc => handleNewConnection_ibufSub hc) (fun l p e => absurd e (hnp l p))
    (fun _ he => handleDevicePayload_ibufSub he) (fun _ he => handleLastWill_ibufSub he) hs

theorem step_ibuf_cases {s s' : RState} {op : Op} {out : Out} (hs : step s op = .ok (s', out)) :
    ∀ l, ∀ p ∈ (getLink s' l).ibuf, p ∈ (getLink s l).ibuf ∨ op = .push l p := by
  intro l p hp
  by_cases hop : ∃ l0 p0, op = .push l0 p0
  · obtain ⟨l0, p0, rfl⟩ := hop
    cases op_cases hs with
    | push _ _ e =>
      rcases e with rfl | rfl
      · exact .inl hp
      · by_cases hl : l = l0
        · subst hl
          rw [getLink_setLink_same] at hp
          exact (List.mem_append.mp hp).imp (fun h0 => h0) fun h0 => by rw [List.mem_singleton.mp h0]
        · rw [getLink_setLink_ne _ _ _ _ hl] at hp; exact .inl hp
  · exact .inl (step_ibufSub (fun l0 p0 e => hop ⟨l0, p0, e⟩) hs l p hp)

/-- in the form `run` uses: the op's oracle is installed first -/
theorem step_ibufOk_oracle {s s' : RState} {ch : List Choice} {op : Op} {out : Out} (hib : IbufOk s)
    (hop : OpOkC op = true) (hs : step { s with oracle := ch } op = .ok (s', out)) : IbufOk s' := by
  intro l p hp
  rcases step_ibuf_cases hs l p hp with h0 | rfl
  · exact hib l p h0
  · exact hop

theorem step_ibufOkD {n : Option Nat} {s s' : RState} {ch : List Choice} {op : Op} {out : Out} (hib : IbufOkD n s)
    (hop : OpOkD n op = true) (hs : step { s with oracle := ch } op = .ok (s', out)) : IbufOkD n s' := by
  intro l p hp
  rcases step_ibuf_cases hs l p hp with h0 | rfl
  · exact hib l p h0
  · simp only [OpOkD, Bool.and_eq_true] at hop; exact hop.2

def OpsOk (ops : List (Op × List Choice)) : Prop := ∀ o ∈ ops, OpOkC o.1 = true

theorem OpsOk.nil : OpsOk [] := fun _ h => by cases h

theorem OpsOk.append {a b : List (Op × List Choice)} (ha : OpsOk a) (hb : OpsOk b) : OpsOk (a ++ b) := fun o ho => by
  rcases List.mem_append.mp ho with h | h
  · exact ha o h
  · exact hb o h

instance (ops : List (Op × List Choice)) : Decidable (OpsOk ops) :=
  inferInstanceAs (Decidable (∀ o ∈ ops, OpOkC o.1 = true))

def OpsOkD (n : Option Nat) (ops : List (Op × List Choice)) : Prop := ∀ o ∈ ops, OpOkD n o.1 = true

theorem ConnsOk.init (cfg : Config) : ConnsOk (Router.init cfg) := ConnAll.init cfg

theorem IbufOkD.init (n : Option Nat) (cfg : Config) : IbufOkD n (init cfg) :=
  fun l p hp => by simp [getLink, Router.init] at hp

theorem IbufOk.init (cfg : Config) : IbufOk (Router.init cfg) := (IbufOkD.init none cfg).ibufOk

theorem reachableOk_ibufOk_connsOk {cfg : Config} {ops : List (Op × List Choice)} {s : RState}
    (h : run (init cfg) ops = .ok s) (hok : OpsOk ops) : IbufOk s ∧ ConnsOk s :=
  (run_invariant_of (Q := fun op => OpOkC op = true) (fun s => Reachable cfg s ∧ IbufOk s ∧ ConnsOk s)
    (fun _ _ _ _ _ hop hi h1 =>
      ⟨hi.1.step h1, step_ibufOk_oracle hi.2.1 hop h1, step_connsOk hi.1 hi.2.2 hi.2.1 hop h1⟩)
    ops hok ⟨reachable_init cfg, IbufOk.init cfg, ConnsOk.init cfg⟩ h).2

/-- `Reachable` with the condition on the ops inside; `C20.connection_hypotheses_reachableOk` is stated with it -/
def ReachableOk (cfg : Config) (s : RState) : Prop := ∃ ops, OpsOk ops ∧ run (init cfg) ops = .ok s

theorem ReachableOk.reachable {cfg : Config} {s : RState} (h : ReachableOk cfg s) : Reachable cfg s := by
  obtain ⟨ops, _, hr⟩ := h; exact ⟨ops, hr⟩

theorem reachableOk_init (cfg : Config) : ReachableOk cfg (init cfg) := ⟨[], OpsOk.nil, rfl⟩

theorem ReachableOk.step {cfg : Config} {s s' : RState} {ch : List Choice} {op : Op} {out : Out}
    (hr : ReachableOk cfg s) (hop : OpOkC op = true) (h : Router.step { s with oracle := ch } op = .ok (s', out)) :
    ReachableOk cfg s' := by
  obtain ⟨ops, hok, hops⟩ := hr
  refine ⟨ops ++ [(op, ch)], hok.append (fun o ho => ?_), ?_⟩
  · simp only [List.mem_singleton] at ho; subst ho; exact hop
  · rw [run_append ops _ _ _ hops]
    simp [run, h]

theorem ReachableOk.ibufOk {cfg : Config} {s : RState} (h : ReachableOk cfg s) : IbufOk s := by
  obtain ⟨ops, hok, hr⟩ := h; exact (reachableOk_ibufOk_connsOk hr hok).1

theorem ReachableOk.connsOk {cfg : Config} {s : RState} (h : ReachableOk cfg s) : ConnsOk s := by
  obtain ⟨ops, hok, hr⟩ := h; exact (reachableOk_ibufOk_connsOk hr hok).2

theorem OpsOkD.opsOk {n : Option Nat} {ops : List (Op × List Choice)} (h : OpsOkD n ops) : OpsOk ops :=
  fun o ho => OpOkD_opOkC (h o ho)

theorem logsOk_of_run {n : Option Nat} {cfg : Config} {ops : List (Op × List Choice)} {s : RState}
    (hok : OpsOkD n ops) (h : run (init cfg) ops = .ok s) : LogsOk n s ∧ IbufOkD n s :=
  run_invariant_of (Q := fun op => OpOkD n op = true) (fun s => LogsOk n s ∧ IbufOkD n s)
    (fun _ _ _ _ _ hop hi hs => ⟨step_logsOk hi.1 hi.2 hop hs, step_ibufOkD hi.2 hop hs⟩)
    ops hok ⟨LogsOk.init n cfg, IbufOkD.init n cfg⟩ h

theorem inv_of_run {n : Option Nat} {cfg : Config} {ops : List (Op × List Choice)} {s : RState}
    (hok : OpsOkD n ops) (h : run (init cfg) ops = .ok s) :
    Reachable cfg s ∧ LogsOk n s ∧ IbufOkD n s ∧ ConnsOk s :=
  ⟨⟨ops, h⟩, (logsOk_of_run hok h).1, (logsOk_of_run hok h).2, (reachableOk_ibufOk_connsOk h hok.opsOk).2⟩

end Router
