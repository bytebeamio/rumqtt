/-
The link side of C06: what a sweep may write (`SweepFrame`).
-/
import Proofs.Lemmas.Router.Base.Outgoing
import Proofs.Lemmas.Router.Rp2_Frame
namespace Router

def Notif.isAck : Notif → Bool
  | .ack _ => true
  | _ => false

/-- link `l` got notifications appended, none of them an ack; all other links are untouched -/
structure LinkExt (s s' : RState) (l : Nat) : Prop where
  others : ∀ l', l' ≠ l → getLink s' l' = getLink s l'
  own : ∃ ns, (getLink s' l).obuf = (getLink s l).obuf ++ ns ∧ ∀ n ∈ ns, n.isAck = false

theorem LinkExt.refl (s : RState) (l : Nat) : LinkExt s s l := ⟨fun _ _ => rfl, [], by simp, by simp⟩

theorem LinkExt.trans {a b c : RState} {l : Nat} (h1 : LinkExt a b l) (h2 : LinkExt b c l) : LinkExt a c l := by
  refine ⟨fun l' hl => (h2.others l' hl).trans (h1.others l' hl), ?_⟩
  obtain ⟨n1, e1, p1⟩ := h1.own
  obtain ⟨n2, e2, p2⟩ := h2.own
  refine ⟨n1 ++ n2, by rw [e2, e1, List.append_assoc], ?_⟩
  intro n hn
  rcases List.mem_append.mp hn with h | h
  · exact p1 n h
  · exact p2 n h

theorem LinkExt.of_links {s s' : RState} (h : s'.links = s.links) (l : Nat) : LinkExt s s' l := by
  have := getLink_congr h
  exact ⟨fun l' _ => this l', [], by rw [this]; simp, by simp⟩

structure SweepFrame (s s' : RState) (l : Nat) : Prop where
  conns : ConnFrame s s'
  link : LinkExt s s' l

theorem SweepFrame.refl (s : RState) (l : Nat) : SweepFrame s s l := ⟨ConnFrame.refl s, LinkExt.refl s l⟩

theorem SweepFrame.trans {a b c : RState} {l : Nat} (h1 : SweepFrame a b l) (h2 : SweepFrame b c l) :
    SweepFrame a c l := ⟨h1.conns.trans h2.conns, h1.link.trans h2.link⟩

theorem SweepFrame.of_frame {s s' : RState} (h : AckFrame s s') (l : Nat) : SweepFrame s s' l :=
  ⟨h.conns, LinkExt.of_links h.links l⟩

end Router
