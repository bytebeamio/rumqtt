/-
What a CONNECT appends to the ghost (C19): `registered` only for a valid client id with room left
(`connect_registered_only_if`), and after the `removed` of the session it takes over (`connect_takeover_first`).
-/
import Proofs.Lemmas.Router.Rp1_ShapeOf
import Proofs.Lemmas.Router.Base.Adm
namespace Router

theorem registration_conns {s1 s' : RState} {spec : ConnectSpec} (a1 : AdmInv s1)
    (hnone : alookup spec.clientId s1.connectionMap = none) (hroom : s1.conns.len < s1.config.maxConnections)
    (hr : reschedule (hnPre s1 spec) (hnKey s1 spec) .init = .ok s') :
    (∃ c, getConn s' (hnKey s1 spec) = some c ∧ c.clientId = spec.clientId ∧ c.link = spec.link) ∧
    ∀ j d, j ≠ hnKey s1 spec → getConn s' j = some d → getConn s1 j = some d := by
  have sl := hnPre_getConn a1 hnone hroom
  refine ⟨?_, fun j d hj hd => ?_⟩
  · obtain ⟨c', hc', r⟩ := (reschedule_shape hr).live sl.new
    exact ⟨c', hc', r.sameId.1, r.sameId.2.1⟩
  · rw [(reschedule_step hr).other hj, sl.old j hj] at hd
    exact hd

theorem hnTakeover_ghost {s s1 : RState} {spec : ConnectSpec} (ha : AdmInv s)
    (h : hnTakeover (setLink s spec.link {}) spec = .ok s1) :
    (alookup spec.clientId s.connectionMap = none ∧ s1.ghost = s.ghost ∧ s1.conns.len = s.conns.len) ∨
    ∃ old c, alookup spec.clientId s.connectionMap = some old ∧ getConn s old = some c ∧
      c.clientId = spec.clientId ∧ s1.ghost = s.ghost ++ [Ghost.removed old spec.clientId c.clean] ∧
      s1.conns.len + 1 = s.conns.len := by
  rcases hnTakeover_cases h with ⟨hnone, rfl⟩ | ⟨old, hold, hd⟩
  · exact .inl ⟨hnone, rfl, rfl⟩
  · obtain ⟨c, hc, e⟩ := ha.map.1 _ _ hold
    rcases handleDisconnection_cases hd with ⟨hn, _⟩ | ⟨c', hc', hw⟩
    · exact absurd (hc.symm.trans hn) (by simp)
    · cases hc.symm.trans hc'
      have hF := hdFinal_fields (setLink s spec.link {}) old c none
      refine .inr ⟨old, c, hold, hc, e, by rw [(wakeParked_wakeFrame hw).ghost, hF.ghost, e]; rfl, ?_⟩
      rw [(wakeParked_shape hw).len, hF.conns]; exact Slab.len_remove_live hc

theorem connect_registered_only_if {s s' : RState} {spec : ConnectSpec} (ha : AdmInv s)
    (h : handleNewConnection s spec = .ok s') {id link : Nat} {cid : String} {clean sp : Bool}
    (hm : Ghost.registered id link cid clean sp ∈ s'.ghost.drop s.ghost.length) :
    validClientId spec.clientId = true ∧
    s.conns.len - (if (alookup spec.clientId s.connectionMap).isSome then 1 else 0) < s.config.maxConnections ∧
    (cid = spec.clientId ∧ link = spec.link ∧ clean = spec.clean) ∧
    ∃ c, getConn s' id = some c ∧ c.clientId = spec.clientId ∧ c.link = spec.link := by
  have h0 : AdmInv (setLink s spec.link {}) := ha.congr rfl rfl rfl
  cases handleNewConnection_cases h with
  | invalid hv e =>
    have hg : s'.ghost = s.ghost ++ [Ghost.notRegistered spec.link] := by rw [e]; rfl
    rw [drop_ghost hg] at hm; simp at hm
  | full s1 hv ht hfull e =>
    have hg : s'.ghost = s1.ghost ++ [Ghost.notRegistered spec.link] := by rw [e]; rfl
    rcases hnTakeover_ghost ha ht with ⟨_, e4, _⟩ | ⟨old, c, _, _, _, e4, _⟩
    · rw [e4] at hg; rw [drop_ghost hg] at hm; simp at hm
    · have : s'.ghost = s.ghost ++ ([Ghost.removed old spec.clientId c.clean] ++ [Ghost.notRegistered spec.link]) := by
        rw [hg, e4]; simp
      rw [drop_ghost this] at hm; simp at hm
  | registered s1 hv ht hroom1 _ hr' =>
    obtain ⟨a1, hnone, hcfg1⟩ := hnTakeover_spec h0 ht
    have hroom : s1.conns.len < s.config.maxConnections := hcfg1 ▸ hroom1
    have hg : s'.ghost = s1.ghost ++ hnGhost s1 spec := by rw [(reschedule_wakeFrame hr').ghost]; rfl
    obtain ⟨⟨c, hc, e1, e2⟩, _⟩ := registration_conns a1 hnone hroom1 hr'
    rcases hnTakeover_ghost ha ht with ⟨hn, e4, elen⟩ | ⟨old, c0, hold, _, _, e4, elen⟩
    · rw [e4] at hg; rw [drop_ghost hg] at hm
      obtain ⟨rfl, rfl, rfl, rfl⟩ := mem_hnGhost_registered hm
      refine ⟨hv, ?_, ⟨rfl, rfl, rfl⟩, c, hc, e1, e2⟩
      simp only [hn, Option.isSome_none, Bool.false_eq_true, if_false]
      omega
    · have : s'.ghost = s.ghost ++ (Ghost.removed old spec.clientId c0.clean :: hnGhost s1 spec) := by
        rw [hg, e4]; simp
      rw [drop_ghost this] at hm
      simp only [List.mem_cons, reduceCtorEq, false_or] at hm
      obtain ⟨rfl, rfl, rfl, rfl⟩ := mem_hnGhost_registered hm
      refine ⟨hv, ?_, ⟨rfl, rfl, rfl⟩, c, hc, e1, e2⟩
      simp only [hold, Option.isSome_some, if_true]
      omega

theorem connect_takeover_first {s s' : RState} {spec : ConnectSpec} (ha : AdmInv s)
    (h : handleNewConnection s spec = .ok s') (hv : validClientId spec.clientId = true) {old : Nat}
    (hold : alookup spec.clientId s.connectionMap = some old) :
    ∃ c tail, getConn s old = some c ∧ c.clientId = spec.clientId ∧
      s'.ghost = s.ghost ++ Ghost.removed old spec.clientId c.clean :: tail ∧
      ∀ j d, getConn s' j = some d → d.clientId = spec.clientId →
        ∃ sp, Ghost.registered j spec.link spec.clientId spec.clean sp ∈ tail := by
  have h0 : AdmInv (setLink s spec.link {}) := ha.congr rfl rfl rfl
  have noold : ∀ (s1 : RState), AdmInv s1 → alookup spec.clientId s1.connectionMap = none →
      ∀ j d, getConn s1 j = some d → d.clientId ≠ spec.clientId := fun s1 a1 hnone j d hd e => by
    have := a1.map.2 j d hd
    rw [e, hnone] at this; simp at this
  cases handleNewConnection_cases h with
  | invalid hv' _ => rw [hv] at hv'; simp at hv'
  | full s1 _ ht hfull es =>
    obtain ⟨a1, hnone, _⟩ := hnTakeover_spec h0 ht
    rcases hnTakeover_ghost ha ht with ⟨hn, _⟩ | ⟨old', c, hold', hc', e, e4, _⟩
    · rw [hn] at hold; simp at hold
    · have : old' = old := by rw [hold] at hold'; simpa using hold'.symm
      subst this
      refine ⟨c, [Ghost.notRegistered spec.link], hc', e,
        by rw [es]; show s1.ghost ++ [_] = _; rw [e4]; simp, fun j d hd ed => ?_⟩
      exact absurd ed (noold s1 a1 hnone j d (by rw [es] at hd; exact hd))
  | registered s1 _ ht hroom1 _ hr' =>
    obtain ⟨a1, hnone, _⟩ := hnTakeover_spec h0 ht
    have hg : s'.ghost = s1.ghost ++ hnGhost s1 spec := by rw [(reschedule_wakeFrame hr').ghost]; rfl
    obtain ⟨_, hothers⟩ := registration_conns a1 hnone hroom1 hr'
    rcases hnTakeover_ghost ha ht with ⟨hn, _⟩ | ⟨old', c, hold', hc', e, e4, _⟩
    · rw [hn] at hold; simp at hold
    · have : old' = old := by rw [hold] at hold'; simpa using hold'.symm
      subst this
      refine ⟨c, hnGhost s1 spec, hc', e, by rw [hg, e4]; simp, fun j d hd ed => ?_⟩
      by_cases hj : j = hnKey s1 spec
      · subst hj; exact ⟨_, registered_mem_hnGhost s1 spec⟩
      · exact absurd ed (noold s1 a1 hnone j d (hothers j d hj hd))

end Router
