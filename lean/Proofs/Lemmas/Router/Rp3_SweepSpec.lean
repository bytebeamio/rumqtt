/-
The notifications of a sweep (`fdOut`) seen without packet ids (`Notif.noPkid`, `fwdOf`) and as log offsets
(`Notif.logOffset`).
-/
import Proofs.Lemmas.Router.Base.Sweep
import Proofs.Lemmas.Router.Rp3_Vocab
namespace Router
namespace Rp3

/-- a notification with its packet id blanked (packet ids are C09's subject) -/
def Notif.noPkid : Notif → Notif
  | .forward p c => .forward { p with pkid := 0 } c
  | n => n

/-- the forward the sweep builds for one publish, packet id blanked -/
def fwdOf (qos : Nat) (alias : Option Nat) (existed : Bool) (subId : Option Nat) (pc : Pub × Option Cursor) : Notif :=
  .forward { mkForward qos alias existed subId pc.1 with pkid := 0 } pc.2

theorem fdOut_noPkid (c : Conn) (req : DataRequest) (pubs : List (Pub × Option Cursor)) :
    (fdOut c req pubs).2.map Notif.noPkid =
      pubs.map (fwdOf req.qos (fdAliases c req.filter).2
        ((aliasesFor c req.filter).bind (fun b => alookup req.filter b.aliases)).isSome (alookup req.filter c.subscriptionIds)) := by
  rw [fdOut_map (g := fun pc => Notif.forward { pc.1 with pkid := 0 } pc.2) fun _ _ _ => rfl, fdFwds, List.map_map]
  rfl

theorem sweepNotifs_length (c : Conn) (req : DataRequest) (pubs : List (Pub × Option Cursor)) :
    (sweepNotifs c req pubs).2.length = pubs.length := by
  rw [sweepNotifs_eq]
  have := congrArg List.length (fdOut_noPkid c req pubs)
  simpa using this

theorem logOffset_noPkid (n : Notif) : Notif.logOffset (Notif.noPkid n) = Notif.logOffset n := by
  cases n with
  | forward p c => cases c <;> rfl
  | _ => rfl

theorem filterMap_logOffset_noPkid (l : List Notif) :
    (l.map Notif.noPkid).filterMap Notif.logOffset = l.filterMap Notif.logOffset := by
  induction l with
  | nil => rfl
  | cons n r ih => simp only [List.map_cons, List.filterMap_cons, logOffset_noPkid, ih]

theorem fdOut_offsets (c : Conn) (req : DataRequest) (rp : List (Pub × Option Cursor))
    (r : List (Pub × Cursor) × CLog.Pos) (hnone : ∀ pc ∈ rp, pc.2 = none) :
    (fdOut c req (fdPubs rp r)).2.filterMap Notif.logOffset = r.1.map (·.2.2) := by
  rw [← filterMap_logOffset_noPkid, fdOut_noPkid, List.filterMap_map]
  unfold fdPubs
  rw [List.filterMap_append]
  have h1 : rp.filterMap (Notif.logOffset ∘ fwdOf req.qos (fdAliases c req.filter).2
      ((aliasesFor c req.filter).bind (fun b => alookup req.filter b.aliases)).isSome (alookup req.filter c.subscriptionIds)) = [] := by
    rw [List.filterMap_eq_nil_iff]
    intro pc hpc
    have := hnone pc hpc
    obtain ⟨p, cur⟩ := pc
    simp only at this; subst this; rfl
  rw [h1, List.nil_append, List.filterMap_map]
  induction r.1 with
  | nil => rfl
  | cons e es ih => simp only [List.filterMap_cons, List.map_cons]; rw [ih]; rfl

theorem mkForward_fields (qos : Nat) (alias : Option Nat) (existed : Bool) (subId : Option Nat) (p : Pub) :
    (mkForward qos alias existed subId p).payload = p.payload ∧ (mkForward qos alias existed subId p).qos = qos ∧
    (mkForward qos alias existed subId p).retain = p.retain ∧ (mkForward qos alias existed subId p).dup = p.dup ∧
    (mkForward qos alias existed subId p).topic = (if existed then [] else p.topic) := by
  rw [mkForward_eq]; exact ⟨rfl, rfl, rfl, rfl, rfl⟩

end Rp3
end Router
