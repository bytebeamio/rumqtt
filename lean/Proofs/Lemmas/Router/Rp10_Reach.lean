/-
`MI` function by function and along `step`; `MI.reachable` (C17).
-/
import Proofs.Lemmas.Router.Rp10_Members
import Proofs.Lemmas.Router.Rp6_Idle
namespace Router
open Router.Rp3

theorem prepareFilter_mi {s s' : RState} {id : Nat} {cursor : Cursor} {idx : Nat} {f : SubFilter} {subId : Option Nat}
    (hm : MI s) (h : prepareFilter s id cursor idx f (sfGroup f.path) subId = .ok s') : MI s' := by
  obtain ⟨c, t, q, hc, _, rfl⟩ := prepareFilter_post h
  have hc1 : getConn (pfState s id cursor f.path (sfGroup f.path) c.clientId) id = some c := hc
  have hcid := pfNew_clientId c f.path subId (!c.subscriptions.contains f.path) t
  have m0 : MConn s (pfState s id cursor f.path (sfGroup f.path) c.clientId) := MConn.of_conns rfl
  refine hm.of_mconn (m0.trans (MConn.of_setc hc1 rfl hcid fun _ => mem_pfNew_of_mem _ _ _ _ _)) fun p' hp' cid hcid' => ?_
  have hp'' : p' ∈ pfShared s cursor c.clientId (sfGroup f.path) := hp'
  cases hgrp : sfGroup f.path with
  | none => rw [hgrp] at hp''; exact .inl ⟨p', hp'', rfl, hcid'⟩
  | some g =>
    rw [hgrp] at hp''
    obtain ⟨path, hx⟩ := sfGroup_extract hgrp
    rcases mem_pfShared.mp hp'' with ⟨h0, _⟩ | ⟨grp, hl, rfl⟩ | ⟨hl, rfl⟩
    · exact .inl ⟨p', h0, rfl, hcid'⟩
    · rcases List.mem_append.mp hcid' with hcid' | hcid'
      · exact .inl ⟨(g, grp), mem_of_alookup_eq_some hl, rfl, hcid'⟩
      · exact .inr ⟨id, _, (getConn_of_set hc1 rfl id).trans (if_pos rfl), hcid.trans (List.mem_singleton.mp hcid').symm, f.path,
          mem_pfNew_subscriptions c f.path subId t, path, hx⟩
    · exact .inr ⟨id, _, (getConn_of_set hc1 rfl id).trans (if_pos rfl), hcid.trans (List.mem_singleton.mp hcid').symm, f.path,
        mem_pfNew_subscriptions c f.path subId t, path, hx⟩

theorem subscribeFilters_mi {id : Nat} {subId : Option Nat} (fs : List SubFilter) {s s' : RState}
    {codes codes' : List Nat} {fl fl' : Flags} :
    MI s → subscribeFilters s id subId fs codes fl = .ok (s', codes', fl') → MI s' :=
  Walk.subscribeFilters_inv (fun hm h1 => prepareFilter_mi (hm.step (MStep.frame.nextNativeOffset _ _)) h1) fs

theorem ufState_mi {s : RState} {id : Nat} {ids : List Nat} {c : Conn} {f : String} (hm : MI s)
    (hc : getConn s id = some c) : MI (ufState s id ids c f) := by
  have hget := ufState_getConn hc ids f
  have hsh := ufState_shared s id ids c f
  -- a member stays one unless it is the client itself in the group of `f`
  have keep : ∀ p ∈ s.shared, ∀ cid ∈ p.2.clients, (∀ path, extractGroup f = some (p.1, path) → cid ≠ c.clientId) →
      ∃ id' c', getConn (ufState s id ids c f) id' = some c' ∧ c'.clientId = cid ∧
        ∃ f' ∈ c'.subscriptions, ∃ path, extractGroup f' = some (p.1, path) := by
    intro p hp cid hcid hne
    obtain ⟨id', c', hc', hci, f', hf', path, hx⟩ := hm p hp cid hcid
    by_cases hj : id' = id
    · subst hj
      rw [hc] at hc'
      have ec : c = c' := Option.some.inj hc'
      subst ec
      refine ⟨id', ufConn s.datalog c f, by rw [hget]; simp, hci, f', ?_, path, hx⟩
      show f' ∈ c.subscriptions.filter (· ≠ f)
      refine List.mem_filter.mpr ⟨hf', ?_⟩
      simp only [decide_eq_true_eq]
      intro e
      exact hne path (e ▸ hx) hci.symm
    · exact ⟨id', c', by rw [hget]; simp only [hj, if_false]; exact hc', hci, f', hf', path, hx⟩
  intro p' hp' cid hcid
  rw [hsh] at hp'
  rcases mem_ufShared hp' with ⟨hp0, hk⟩ | ⟨path, g, he, hl, _, e⟩
  · exact keep p' hp0 cid hcid fun path e => absurd e (hk path)
  · rw [e] at hcid
    have hcid' : cid ∈ g.clients ∧ cid ≠ c.clientId := by
      have : cid ∈ g.clients.filter (· ≠ c.clientId) := hcid
      simpa using this
    exact keep (p'.1, g) (mem_of_alookup_eq_some hl) cid hcid'.1 fun _ _ => hcid'.2

theorem unsubscribeFilters_mi {id : Nat} (fs : List String) {s s' : RState} {rs rs' : List Bool}
    (hm : MI s) (h : unsubscribeFilters s id fs rs = .ok (s', rs')) : MI s' :=
  Walk.unsubscribeFilters_inv (fun _ _ hm => hm.step ⟨MConn.of_conns rfl, rfl⟩) (fun _ hm hc => ufState_mi hm hc) fs hm h

theorem handlePacket_mi {s s' : RState} {id : Nat} {cid : String} {pkt : Packet} {fl fl' : Flags} (hm : MI s)
    (h : handlePacket s id cid pkt fl = .ok (s', fl')) : MI s' := by
  rcases Walk.handlePacket_cases MStep.frame h with ⟨_, _, filters, _, _, _, _, h1, h2⟩ | ⟨_, filters, _, _, _, h1, h2⟩ | m
  · exact (subscribeFilters_mi filters hm h1).step (MStep.frame.commitAck h2)
  · exact (unsubscribeFilters_mi filters hm h1).step (MStep.frame.commitAck h2)
  · exact hm.step m

theorem handlePackets_mi {id : Nat} {cid : String} (ps : List Packet) {s s' : RState} {fl fl' : Flags} :
    MI s → handlePackets s id cid ps fl = .ok (s', fl') → MI s' :=
  Walk.handlePackets_inv handlePacket_mi ps

theorem handleDisconnection_mi {s s' : RState} {id : Nat} {r : Option String} (hm : MI s)
    (hd : handleDisconnection s id r = .ok s') : MI s' := by
  rcases handleDisconnection_cases hd with ⟨_, rfl⟩ | ⟨c, hc, hd⟩
  · exact hm
  refine MI.step ?_ (MStep.frame.wakeParked hd)
  have hget := hdFinal_getConn s id c r
  have hrem : ∀ p' ∈ removeFromGroups s.shared c.clientId, ∀ cid ∈ p'.2.clients,
      ∃ id' c', getConn (hdFinal s id c r) id' = some c' ∧ c'.clientId = cid ∧
        ∃ f ∈ c'.subscriptions, ∃ path, extractGroup f = some (p'.1, path) := by
    intro p' hp' cid hcid
    obtain ⟨p, hp, rfl, _⟩ := mem_removeFromGroups_iff.mp hp'
    have hcid' : cid ∈ p.2.clients ∧ cid ≠ c.clientId := by
      have : cid ∈ p.2.clients.filter (· ≠ c.clientId) := hcid
      simpa using this
    obtain ⟨id', c', hc', hci, f, hf, path, hx⟩ := hm p hp cid hcid'.1
    have hj : id' ≠ id := fun e => by
      subst e; rw [hc] at hc'; cases hc'; exact hcid'.2 hci.symm
    exact ⟨id', c', by rw [hget]; simp only [hj, if_false]; exact hc', hci, f, hf, path, hx⟩
  have hsh := (hdFinal_fields s id c r).shared
  intro p' hp' cid hcid
  rw [hsh] at hp'
  split at hp'
  · obtain ⟨_, hent⟩ := mem_rewindRequests (retransmissionMap c.out.inflight [])
      ((c.tracker.requests ++ (datalogClean s.datalog id).2).map (atGroupCursor s.shared))
      (removeFromGroups s.shared c.clientId) []
    obtain ⟨p, hp, e1, e2, _⟩ := hent p' hp'
    rw [e1]
    exact hrem p hp cid (e2 ▸ hcid)
  · exact hrem p' hp' cid hcid

theorem hnRegister_mi {s s' : RState} {spec : ConnectSpec} (hm : MI s) (hrc : RC s) (ha : AdmInv s) (hq : QI s)
    (hnone : alookup spec.clientId s.connectionMap = none) (hroom : s.conns.len < s.config.maxConnections)
    (hre : reschedule (hnPre s spec) (hnKey s spec) .init = .ok s') : MI s' := by
  refine MI.step ?_ (MStep.frame.reschedule hre)
  obtain ⟨_, hgt⟩ := hnRestored_qi hq spec
  obtain ⟨_, hreq⟩ := hnRestored_ok hrc spec
  have sl := hnPre_getConn ha hnone hroom
  intro p' hp' x hx
  rw [hnPre_shared] at hp'
  -- the new connection holds the filters of its restored requests
  have own : x = spec.clientId → ∀ r ∈ (hnTracker spec (hnRestored s spec)).requests, r.group = some p'.1 →
      ∃ id c, getConn (hnPre s spec) id = some c ∧ c.clientId = x ∧
        ∃ f ∈ c.subscriptions, ∃ path, extractGroup f = some (p'.1, path) := fun ex r hr hrg => by
    obtain ⟨path, he⟩ := sfGroup_extract (hrg ▸ (hgt r hr).symm)
    exact ⟨hnKey s spec, _, sl.new, ex.symm, r.filter, (hreq r hr).1, path, he⟩
  obtain ⟨n, w, ⟨p, hp, e1, e2⟩ | ⟨hn, r, hr, hrg, e2⟩⟩ := rejoinGroups_spec _ _ _ _ p' hp'
  · rw [e2] at hx
    rcases List.mem_append.mp hx with hx | hx
    · obtain ⟨id', c', hc', hci, f, hf, path, hxg⟩ := hm p hp x hx
      have hj : id' ≠ hnKey s spec := fun e' => by rw [e', sl.vacant] at hc'; cases hc'
      exact ⟨id', c', by rw [sl.old id' hj]; exact hc', hci, f, hf, path, e1 ▸ hxg⟩
    · obtain ⟨hn, ex⟩ := List.mem_replicate.mp hx
      obtain ⟨r, hr, hrg⟩ := w hn
      exact own ex r hr hrg
  · rw [e2] at hx
    exact own (List.mem_replicate.mp hx).2 r hr hrg

theorem handleNewConnection_mi {s s' : RState} {spec : ConnectSpec} (hb : BR s) (ha : AdmInv s) (hq : QI s)
    (hm : MI s) (h : handleNewConnection s spec = .ok s') : MI s' :=
  have g0 : MI (setLink s spec.link {}) := hm.step ⟨MConn.of_conns rfl, rfl⟩
  handleNewConnection_inv (I := MI) ha g0 (fun _ => handleDisconnection_mi g0) (fun t => t.step ⟨MConn.of_conns rfl, rfl⟩)
    (fun t ht a1 hnone hroom hr =>
      hnRegister_mi t (hnTakeover_br hb ht).2 a1 (hnTakeover_qi hb.1.2 hq ht) hnone hroom hr) h

theorem handleDevicePayload_mi {s s' : RState} {id : Nat} (hm : MI s) (h : handleDevicePayload s id = .ok s') : MI s' :=
  Walk.handleDevicePayload_inv hm (fun x => x) (fun {c _ _} _ h1 => handlePackets_mi _
      (s := setLink s c.link { getLink s c.link with ibuf := [] }) (hm.step ⟨MConn.of_conns rfl, rfl⟩) h1)
    (fun g h2 => g.step (MStep.frame.reschedule h2))
    (fun g h3 => g.step (MStep.frame.drain_all h3))
    (fun g h4 => g.step (MStep.frame.wakeTurnMoved (fun _ => ⟨MConn.of_conns rfl, rfl⟩) h4))
    handleDisconnection_mi h

theorem step_mi {s s' : RState} {op : Op} {out : Out} (h3 : Inv3 s) (hq : QI s) (hm : MI s)
    (hs : step s op = .ok (s', out)) : MI s' :=
  Walk.step_inv hm (fun _ _ => hm.step ⟨MConn.of_conns rfl, rfl⟩)
    (handleNewConnection_mi h3.br h3.inv2.inv1.adm hq hm) (handleDevicePayload_mi hm)
    (fun he => hm.step (MStep.frame.reschedule he)) (handleDisconnection_mi hm)
    (fun he => hm.step (MStep.frame.handleLastWill he))
    (fun he => hm.step (MStep.frame.handleShadow he)) (consume_mi hm) hs

theorem MI.init (cfg : Config) : MI (init cfg) := fun p hp => by simp [Router.init] at hp

/-- the side conditions are those of `QI`, which supplies the group tags of saved requests -/
theorem MI.reachable {cfg : Config} (h1 : 1 ≤ cfg.maxSegmentSize) (h2 : 1 ≤ cfg.maxSegmentCount)
    (hpos : 0 < cfg.maxOutgoingPacketCount) {s : RState} (hr : Reachable cfg s) (hno : NoOverflow s) : MI s :=
  Rp3.reachable_below h1 h2 (MI.init cfg) (fun {s o _ _ _} hrs _ hno0 hm hstep =>
    step_mi ((Inv3.reachable hrs).oracle o) ((QI.reachable h1 h2 hpos hrs hno0).oracle o)
      (hm.step ⟨MConn.of_conns rfl, rfl⟩) hstep) hr hno

end Router
