/-
C20: every step from a reachable state whose op is in range (`OpOkC`) keeps `ConnsOk`, given `IbufOk`: the packets a
step handles are the ones earlier pushes left in the incoming buffers.
-/
import Proofs.Lemmas.Router.Rp17_Keep
import Proofs.Lemmas.Router.Rp4_NoPanic
namespace Router
open Encode Codec

def ConnsOk (s : RState) : Prop := ∀ j c, getConn s j = some c → ConnOk c

theorem ConnsOk.frame : StepFrame fun s s' => ConnsOk s → ConnsOk s' := ConnAll.frame KConn.pre

theorem ConnsOk.sweep : TurnFrame fun s s' => ConnsOk s → ConnsOk s' := ConnAll.sweep KConn.pre

theorem consume_connsOk {s s' : RState} {b : Bool} (h : ConnsOk s) (hc : consume s = .ok (s', b)) : ConnsOk s' :=
  ConnsOk.frame.consume ConnsOk.sweep hc h

theorem prepareFilter_connsOk {s s' : RState} {id : Nat} {cursor : Cursor} {idx : Nat} {f : SubFilter}
    {group : Option String} {subId : Option Nat} (hs : ∀ i, subId = some i → i ≤ remainingLimit) (h : ConnsOk s)
    (hp : prepareFilter s id cursor idx f group subId = .ok s') : ConnsOk s' := by
  obtain ⟨c, t, q, hc, _, rfl⟩ := prepareFilter_post hp
  exact ConnAll.set (s := pfState s id cursor f.path group c.clientId) h hc rfl
    (ConnOk.congr (c' := pfNew c f.path subId (!c.subscriptions.contains f.path) t) rfl rfl
      (pfConn_ok hs c.subscriptions (h id c hc)))

theorem handlePacket_connsOk {s s' : RState} {id : Nat} {cid : String} {pkt : Packet} {fl fl' : Flags}
    (hok : PacketOk pkt = true) (h : ConnsOk s) (hp : handlePacket s id cid pkt fl = .ok (s', fl')) : ConnsOk s' := by
  rcases Walk.handlePacket_cases ConnsOk.frame hp with ⟨_, subId, fs, _, _, _, rfl, h1, h2⟩ | ⟨_, fs, _, _, _, h1, h2⟩ | m
  · have hs : ∀ i, subId = some i → i ≤ remainingLimit := by
      intro i hi; subst hi
      simp only [PacketOk, Bool.and_eq_true, decide_eq_true_eq] at hok
      exact hok.2
    exact ConnsOk.frame.commitAck h2 (Walk.subscribeFilters_inv (I := ConnsOk)
      (fun a h1 => prepareFilter_connsOk hs (ConnsOk.frame.nextNativeOffset _ _ a) h1) fs h h1)
  · exact ConnsOk.frame.commitAck h2 (Walk.unsubscribeFilters_inv (I := ConnsOk) (fun _ _ a => a)
      (fun _ a hc => ConnAll.set a hc rfl (ufConn_ok (a _ _ hc))) fs h h1)
  · exact m h

theorem ConnsOk.congr {s s' : RState} (h : ConnsOk s) (e : s'.conns = s.conns) : ConnsOk s' :=
  fun j c hc => h j c (getConn_congr e j ▸ hc)

theorem handlePackets_connsOk {id : Nat} {cid : String} (ps : List Packet) {s s' : RState} {fl fl' : Flags}
    (hok : ∀ p ∈ ps, PacketOk p = true) (h : ConnsOk s) (hp : handlePackets s id cid ps fl = .ok (s', fl')) : ConnsOk s' :=
  Walk.handlePackets_mem_inv ps (fun hm a h1 => handlePacket_connsOk (hok _ hm) a h1) h hp

theorem handleDisconnection_connsOk {s s' : RState} {id : Nat} {r : Option String} (h : ConnsOk s)
    (hd : handleDisconnection s id r = .ok s') : ConnsOk s' := by
  obtain ⟨_, rfl⟩ | ⟨c, _, hd⟩ := handleDisconnection_cases hd
  · exact h
  · have h0 : ConnsOk (hdFinal s id c r) := ConnAll.hdFinal (P := fun _ c => ConnOk c) h id c r
    exact ConnsOk.frame.wakeParked hd h0

theorem handleDevicePayload_connsOk {s s' : RState} {id : Nat} (h : ConnsOk s)
    (hib : ∀ c, getConn s id = some c → ∀ p ∈ (getLink s c.link).ibuf, PacketOk p = true)
    (hp : handleDevicePayload s id = .ok s') : ConnsOk s' :=
  Walk.handleDevicePayload_inv h (fun x => x) (fun {c _ _} hc h1 => handlePackets_connsOk _
      (s := setLink s c.link { getLink s c.link with ibuf := [] }) (hib _ hc) (h.congr rfl) h1)
    (fun q h2 => ConnsOk.frame.reschedule h2 q) (fun q h3 => ConnsOk.frame.drain_all h3 q)
    (fun q h4 => ConnsOk.frame.wakeTurnMoved (fun _ q => q) h4 q)
    handleDisconnection_connsOk hp

theorem hnRegister_connsOk {s s' : RState} {spec : ConnectSpec} (hs : ConnsOk s) (ha : AdmInv s)
    (hmax : spec.aliasMax < 65536)
    (hnone : alookup spec.clientId s.connectionMap = none) (hroom : s.conns.len < s.config.maxConnections)
    (hre : reschedule (hnPre s spec) (hnKey s spec) .init = .ok s') : ConnsOk s' := by
  -- the new connection: aliases, if any, empty with `max = topic_alias_max`; no subscription identifiers
  refine ConnsOk.frame.reschedule hre (ConnAll.hnPre hs ha hnone hroom ⟨fun b hb => ?_, fun p hp => by cases hp⟩)
  have hb' : (if spec.aliasMax > 0 then some (BrokerAliases.new spec.aliasMax) else none) = some b := hb
  split at hb'
  · cases hb'; exact ⟨hmax, fun q hq => by cases hq⟩
  · cases hb'

theorem handleNewConnection_connsOk {s s' : RState} {spec : ConnectSpec} (ha : AdmInv s) (hs : ConnsOk s)
    (hmax : spec.aliasMax < 65536) (h : handleNewConnection s spec = .ok s') : ConnsOk s' :=
  handleNewConnection_inv (I := ConnsOk) ha (hs.congr rfl) (fun _ => handleDisconnection_connsOk (hs.congr rfl))
    (fun t => t.congr rfl) (fun t _ a1 hnone hroom hr => hnRegister_connsOk t a1 hmax hnone hroom hr) h

theorem step_connsOk {cfg : Config} {s s' : RState} {ch : List Choice} {op : Op} {out : Out} (hr : Reachable cfg s)
    (h : ConnsOk s) (hib : IbufOk s) (hop : OpOkC op = true)
    (hs : step { s with oracle := ch } op = .ok (s', out)) : ConnsOk s' := by
  have h' : ConnsOk { s with oracle := ch } := h.congr rfl
  cases op_cases hs with
  | connect spec hc =>
    simp only [OpOkC, decide_eq_true_eq] at hop
    exact handleNewConnection_connsOk ((Inv3.reachable hr).oracle ch).inv2.inv1.adm h' hop hc
  | push l p e =>
    rcases e with rfl | rfl
    · exact h'
    · exact h'.congr rfl
  | drain l e =>
    rcases e with rfl | rfl
    · exact h'
    · exact h'.congr rfl
  | consume b hc => exact consume_connsOk h' hc
  | event id ev hev =>
    cases event_cases hev with
    | payload he => exact handleDevicePayload_connsOk h' (fun c _ => hib c.link) he
    | ready he =>
      rcases he with he | e
      · exact ConnsOk.frame.reschedule he h'
      · exact e ▸ h'
    | disconnect he => exact handleDisconnection_connsOk h' he
    | will w he => exact ConnsOk.frame.handleLastWill he h'
    | shadow f he => exact ConnsOk.frame.handleShadow he h'
    | meters e => exact e ▸ h'
    | alerts e => exact e ▸ h'

end Router
