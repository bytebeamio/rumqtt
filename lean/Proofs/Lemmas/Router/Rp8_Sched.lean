/-
What the scheduler status of a connection tells, `SI`:
  * `Paused(Caughtup)`      → the tracker holds no request,
  * `Paused(InflightFull)`  → the outgoing window is full (the connection waits for its client's acks),
  * `Ready`                 → the connection is in the ready queue (`consume` will serve it).
`SI` is not kept function by function: `track` puts a request under a `Caughtup` tracker and an ack shortens a window
under `InflightFull`; the `reschedule` that the model calls next repairs this, because for exactly these reasons
(`FreshData`/`NewFilter`, resp. `IncomingAck`) `try_ready` leaves the status in question (`reschedule_fix`).
Everything else satisfies `SRel`, and `SI.rel` carries `SI` along.
-/
import Proofs.Lemmas.Router.Base.Conns
namespace Router

def CI (c : Conn) : Prop :=
  (c.tracker.status = .paused .caughtup → c.tracker.requests = []) ∧
  (c.tracker.status = .paused .inflightFull → MAX_INFLIGHT ≤ c.out.inflight.length)

structure SI (s : RState) : Prop where
  ci : ∀ id c, getConn s id = some c → CI c
  rq : ∀ id c, getConn s id = some c → c.tracker.status = .ready → id ∈ s.readyqueue

/-- the scheduler-relevant part of a connection is kept -/
def Keep (c c' : Conn) : Prop :=
  c'.tracker.status = c.tracker.status ∧ (c.tracker.requests = [] → c'.tracker.requests = []) ∧
  c.out.inflight.length ≤ c'.out.inflight.length

theorem Keep.refl (c : Conn) : Keep c c := ⟨rfl, fun h => h, Nat.le_refl _⟩
theorem Keep.trans {a b c : Conn} (h1 : Keep a b) (h2 : Keep b c) : Keep a c :=
  ⟨h2.1.trans h1.1, fun h => h2.2.1 (h1.2.1 h), Nat.le_trans h1.2.2 h2.2.2⟩

theorem CI.keep {c c' : Conn} (h : CI c) (k : Keep c c') : CI c' :=
  ⟨fun e => k.2.1 (h.1 (k.1 ▸ e)), fun e => Nat.le_trans (h.2 (k.1 ▸ e)) k.2.2⟩

/-- no connection appears, every connection keeps its scheduler-relevant part, the ready queue
    loses nobody -/
structure SRel (s s' : RState) : Prop where
  conn : ∀ j c', getConn s' j = some c' → ∃ c, getConn s j = some c ∧ Keep c c'
  rq : ∀ j ∈ s.readyqueue, j ∈ s'.readyqueue

theorem SRel.refl (s : RState) : SRel s s := ⟨fun _ c' h => ⟨c', h, Keep.refl _⟩, fun _ h => h⟩

theorem SRel.trans {a b c : RState} (h1 : SRel a b) (h2 : SRel b c) : SRel a c :=
  ⟨fun j c' h => by
    obtain ⟨cb, hb, kb⟩ := h2.conn j c' h
    obtain ⟨ca, ha, ka⟩ := h1.conn j cb hb
    exact ⟨ca, ha, ka.trans kb⟩, fun j h => h2.rq j (h1.rq j h)⟩

theorem SI.rel {s s' : RState} (h : SI s) (m : SRel s s') : SI s' :=
  ⟨fun id c' hc' => by
    obtain ⟨c, hc, k⟩ := m.conn id c' hc'
    exact (h.ci id c hc).keep k,
   fun id c' hc' hr => by
    obtain ⟨c, hc, k⟩ := m.conn id c' hc'
    exact m.rq id (h.rq id c hc (k.1 ▸ hr))⟩

theorem SRel.of_conns {s s' : RState} (hc : s'.conns = s.conns) (hq : s'.readyqueue = s.readyqueue) : SRel s s' :=
  ⟨fun j c' h => ⟨c', (getConn_congr hc j).symm.trans h, Keep.refl _⟩, fun j h => by rw [hq]; exact h⟩

theorem SRel.of_set {s s' : RState} {id : Nat} {c c' : Conn} (hc : getConn s id = some c)
    (hconns : s'.conns = s.conns.set id c') (hk : Keep c c') (hq : s'.readyqueue = s.readyqueue) : SRel s s' :=
  ⟨Walk.conns_of_set hc hconns ⟨c, hc, hk⟩ fun _ d _ hd => ⟨d, hd, Keep.refl _⟩, fun _ h => hq ▸ h⟩

def SOk (q : List Nat) (j : Nat) (c : Conn) : Prop := CI c ∧ (c.tracker.status = .ready → j ∈ q)

theorem SOk.mono {q q' : List Nat} {j : Nat} {c : Conn} (h : SOk q j c) (hq : ∀ i ∈ q, i ∈ q') : SOk q' j c :=
  ⟨h.1, fun e => hq j (h.2 e)⟩

theorem SI.all {s : RState} (h : SI s) : ConnAll (SOk s.readyqueue) s := fun j c hc => ⟨h.ci j c hc, h.rq j c hc⟩

theorem SI.of_all {s : RState} (h : ConnAll (SOk s.readyqueue) s) : SI s :=
  ⟨fun j c hc => (h j c hc).1, fun j c hc => (h j c hc).2⟩

theorem reschedule_fix {s s' : RState} {id : Nat} {rs : SchedReason} {c : Conn} (hc : getConn s id = some c)
    (hr : reschedule s id rs = .ok s')
    (hci : ∀ j d, getConn s j = some d → j ≠ id → CI d)
    (hrq : ∀ j d, getConn s j = some d → d.tracker.status = .ready → j ∈ s.readyqueue)
    (h1 : c.tracker.status = .paused .caughtup →
      (rs = .freshData ∨ rs = .newFilter ∨ rs = .incomingAck) ∨ c.tracker.requests = [])
    (h2 : c.tracker.status = .paused .inflightFull → rs = .incomingAck ∨ MAX_INFLIGHT ≤ c.out.inflight.length) : SI s' := by
  obtain ⟨c', hc', er, eo, est, hn1, hn2, hoth, hq, hready⟩ := reschedule_spec hc hr
  refine .of_all fun j d hd => ?_
  by_cases hj : j = id
  · subst hj; rw [hc'] at hd; cases hd
    -- a status that is still `Paused` is the old one, and `try_ready` would have left it for a repairing reason
    refine ⟨⟨fun e => ?_, fun e => ?_⟩, fun e => (hready e).elim (fun h => hq j (hrq j c hc h)) fun h => h⟩ <;>
      rcases est with e' | e' <;> try (rw [e'] at e; cases e)
    · exact (h1 (e' ▸ e)).elim (fun h => absurd e (hn1 h)) fun h => er ▸ h
    · exact (h2 (e' ▸ e)).elim (fun h => absurd e (hn2 h)) fun h => eo ▸ h
  · rw [hoth j hj] at hd; exact ⟨hci j d hd hj, fun e => hq j (hrq j d hd e)⟩

theorem reschedule_si {s s' : RState} {id : Nat} {r : SchedReason} (h : SI s) (hr : reschedule s id r = .ok s') : SI s' := by
  obtain ⟨c, _, _, hc, _⟩ := reschedule_upd hr
  exact reschedule_fix hc hr (fun j d hd _ => h.ci j d hd) h.rq (fun e => .inr ((h.ci id c hc).1 e))
    fun e => .inr ((h.ci id c hc).2 e)

theorem set_reschedule_si {s s1 s' : RState} {id : Nat} {c c' : Conn} {rs : SchedReason} (hs : SI s)
    (hc : getConn s id = some c) (hr : reschedule s1 id rs = .ok s') (hconns : s1.conns = s.conns.set id c')
    (hq : s1.readyqueue = s.readyqueue) (hst : c'.tracker.status = c.tracker.status)
    (h1 : c'.tracker.status = .paused .caughtup →
      (rs = .freshData ∨ rs = .newFilter ∨ rs = .incomingAck) ∨ c'.tracker.requests = [])
    (h2 : c'.tracker.status = .paused .inflightFull → rs = .incomingAck ∨ MAX_INFLIGHT ≤ c'.out.inflight.length) : SI s' := by
  have hget := getConn_of_set hc hconns
  refine reschedule_fix ((hget id).trans (if_pos rfl)) hr (fun j d hd hj => ?_) (fun j d hd hrd => ?_) h1 h2
  · rw [hget, if_neg hj] at hd; exact hs.ci j d hd
  · rw [hq]
    rw [hget] at hd
    split at hd
    · rename_i e; cases hd; exact e ▸ hs.rq id c hc (hst ▸ hrd)
    · exact hs.rq j d hd hrd

end Router
