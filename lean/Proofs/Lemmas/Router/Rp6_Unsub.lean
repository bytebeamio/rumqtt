/-
`QI` through UNSUBSCRIBE; every connection keeps the requests of the filters it does not unsubscribe (`Keeps`).
-/
import Proofs.Lemmas.Router.Rp6_Inv
namespace Router

def Keeps (K : Nat → DataRequest → Prop) (s s' : RState) : Prop := ∀ j r, Own s j r → K j r → Own s' j r

theorem Keeps.trans {a b c : RState} {K : Nat → DataRequest → Prop} (h1 : Keeps K a b) (h2 : Keeps K b c) : Keeps K a c :=
  fun j r h k => h2 j r (h1 j r h k) k

theorem Keeps.mono {s s' : RState} {K K' : Nat → DataRequest → Prop} (h : Keeps K s s') (hk : ∀ j r, K' j r → K j r) :
    Keeps K' s s' := fun j r ho k => h j r ho (hk j r k)

theorem OEq.keeps {s s' : RState} (m : OEq s s') (K : Nat → DataRequest → Prop) : Keeps K s s' :=
  fun j r h _ => (m.own j r).mpr h

theorem removeWaiterFor_parked (d : DataLog) (id : Nat) (f : String) :
    (∀ (i : Nat) fd', (removeWaiterFor d id f).native[i]? = some fd' →
        ∃ fd, d.native[i]? = some fd ∧ fd'.log = fd.log ∧ ∀ w ∈ fd'.waiters, w ∈ fd.waiters) ∧
    (∀ (i : Nat) fd, d.native[i]? = some fd → ∀ w ∈ fd.waiters, ¬ (w.1 = id ∧ w.2.filter = f) →
        ∃ fd', (removeWaiterFor d id f).native[i]? = some fd' ∧ w ∈ fd'.waiters) := by
  rcases removeWaiterFor_cases d id f with ⟨e, _⟩ | ⟨idx, fd, i, hi, hn, h1, h2, e⟩
  · rw [e]; exact ⟨fun i fd' h => ⟨fd', h, rfl, fun _ hw => hw⟩, fun i fd h w hw _ => ⟨fd, h, hw⟩⟩
  · rw [e]
    have hlt : idx < d.native.length := (List.getElem?_eq_some_iff.mp hn).1
    refine ⟨fun k fd' hk => ?_, fun k fdk hk w hw hnot => ?_⟩
    · simp only [List.getElem?_set] at hk
      split at hk
      · rename_i ek; subst ek
        have hk' : some ({ fd with waiters := swapRemoveBack fd.waiters i } : FilterData) = some fd' := by
          simpa [hlt] using hk
        cases hk'
        exact ⟨fd, hn, rfl, fun w hw => mem_of_mem_swapRemoveBack hi hw⟩
      · exact ⟨fd', hk, rfl, fun _ hw => hw⟩
    · simp only [List.getElem?_set]
      by_cases ek : idx = k
      · subst ek
        rw [hn] at hk; cases hk
        simp only [hlt, if_true]
        refine ⟨_, rfl, ?_⟩
        have hp := (swapRemoveBack_perm fd.waiters i hi).mem_iff.mp hw
        rcases List.mem_cons.mp hp with e' | h'
        · exact absurd ⟨e' ▸ h1, e' ▸ h2⟩ hnot
        · exact h'
      · simp only [ek, if_false]; exact ⟨fdk, hk, hw⟩

theorem ufState_qi {s : RState} {id : Nat} {ids : List Nat} {c : Conn} {f : String} (hq : QI s)
    (hc : getConn s id = some c) :
    QI (ufState s id ids c f) ∧ Keeps (fun j r => ¬ (j = id ∧ r.filter = f)) s (ufState s id ids c f) := by
  have bwd : ∀ j r, Own (ufState s id ids c f) j r → Own s j r := fun j r ho => by
    obtain ⟨rem, p, _⟩ := ufState_held hc ids f j
    exact (own_iff s j r).mpr (p.mem_iff.mpr (List.mem_append_left _ ((own_iff _ j r).mp ho)))
  have fwd : Keeps (fun j r => ¬ (j = id ∧ r.filter = f)) s (ufState s id ids c f) := fun j r ho hk => by
    obtain ⟨rem, p, hrem, _⟩ := ufState_held hc ids f j
    rcases List.mem_append.mp (p.mem_iff.mp ((own_iff s j r).mp ho)) with h | h
    · exact (own_iff _ j r).mpr h
    · exact absurd (hrem r h) hk
  have wsub : WSub s (ufState s id ids c f) := fun i fd' hfd' => by
    obtain ⟨fd, hfd, el, hs⟩ := (removeWaiterFor_parked s.datalog id f).1 i fd' hfd'
    exact .inr ⟨fd, hfd, el, hs⟩
  refine ⟨⟨fun j x hx => ?_, fun j r hr => hq.gt j r (bwd j r hr), hq.pe.wsub wsub, hq.grv⟩, fwd⟩
  have sb : subsOf (ufState s id ids c f) j = if j = id then (subsOf s id).filter (· ≠ f) else subsOf s j := by
    rw [subsOf_set (ufState_getConn hc ids f) j, subsOf_live hc]; rfl
  rw [sb] at hx
  by_cases hj : j = id
  · subst hj
    simp only [if_true, List.mem_filter, decide_eq_true_eq] at hx
    obtain ⟨r, hr, e⟩ := hq.cover j x hx.1
    exact ⟨r, fwd j r hr (fun h => hx.2 (e ▸ h.2)), e⟩
  · simp only [hj, if_false] at hx
    obtain ⟨r, hr, e⟩ := hq.cover j x hx
    exact ⟨r, fwd j r hr (fun h => hj h.1), e⟩

theorem unsubscribeFilters_qi {id : Nat} (fs : List String) {s s' : RState} {rs rs' : List Bool}
    (h : unsubscribeFilters s id fs rs = .ok (s', rs')) (hq : QI s) :
    QI s' ∧ Keeps (fun j r => ¬ (j = id ∧ r.filter ∈ fs)) s s' ∧ s'.config = s.config :=
  Walk.unsubscribeFilters_mem_inv
    (I := fun t => QI t ∧ Keeps (fun j r => ¬ (j = id ∧ r.filter ∈ fs)) s t ∧ t.config = s.config)
    (fun t m ht =>
      have m0 : OEq t { t with subscriptionMap := m } := OEq.connClosed.of_rest rfl rfl
      ⟨ht.1.oeq m0, ht.2.1.trans (m0.keeps _), ht.2.2⟩)
    fs (fun _ hf ht hc =>
      have ⟨q, k⟩ := ufState_qi ht.1 hc
      ⟨q, ht.2.1.trans (k.mono fun _ _ hk hh => hk ⟨hh.1, hh.2 ▸ hf⟩), ht.2.2⟩)
    ⟨hq, (OEq.refl _).keeps _, rfl⟩ h

end Router
