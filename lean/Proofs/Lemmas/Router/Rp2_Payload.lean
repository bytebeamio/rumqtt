/-
`handle_device_payload` as a whole (C06, batch form).
-/
import Proofs.Lemmas.Router.Rp1_ShapeOf
import Proofs.Lemmas.Router.Rp2_Acks
import Proofs.Lemmas.Router.Rp2_Wake
namespace Router

theorem handlePackets_append (id : Nat) (cid : String) : ∀ (pre : List Packet) (post : List Packet)
    {s s1 : RState} {fl fl1 : Flags},
    handlePackets s id cid pre fl = .ok (s1, fl1) → fl1.stop = false →
    handlePackets s id cid (pre ++ post) fl = handlePackets s1 id cid post fl1
  | [], post, s, s1, fl, fl1, h, _ => by
    simp only [handlePackets, Except.ok.injEq, Prod.mk.injEq] at h; obtain ⟨rfl, rfl⟩ := h; rfl
  | p :: rest, post, s, s1, fl, fl1, h, h1 => by
    simp only [handlePackets, List.cons_append] at h ⊢
    split at h
    · simp at h
    · rename_i s2 fl2 hp
      split at h
      · rename_i hstop
        simp only [Except.ok.injEq, Prod.mk.injEq] at h; obtain ⟨rfl, rfl⟩ := h
        simp [h1] at hstop
      · rename_i hstop
        simp only [hstop, Bool.false_eq_true, if_false]
        exact handlePackets_append id cid rest post h h1

theorem setLink_frame_conns (s : RState) (l : Nat) (b : LinkBuf) : ConnFrame s (setLink s l b) :=
  ConnFrame.of_conns rfl

theorem payloadTail_walk {R : RState → RState → Prop} (W : Bookkeeping R) {s1 s2 s3 s4 : RState} {id : Nat}
    {fl : Flags} (h2 : (if fl.forceAck then reschedule s1 id .freshData else .ok s1) = .ok s2)
    (h3 : (if fl.newData then drainNotifications { s2 with notifications := [] } s2.notifications else .ok s2) = .ok s3)
    (h4 : wakeTurnMoved s3 = .ok s4) : R s1 s4 := by
  have f2 : R s1 s2 := by
    split at h2
    · exact W.reschedule h2
    · simp only [Except.ok.injEq] at h2; subst h2; exact W.refl _
  have f3 : R s2 s3 := by
    split at h3
    · exact W.trans (W.of_eq (by rfl) (by rfl) (by rfl) (by rfl) (by rfl)) (W.drainNotifications _ h3)
    · simp only [Except.ok.injEq] at h3; subst h3; exact W.refl _
  exact W.trans (W.trans f2 f3) (W.wakeTurnMoved h4)

theorem handleDevicePayload_spec {s s' : RState} {id : Nat} {c : Conn} (hc : getConn s id = some c)
    (h : handleDevicePayload s id = .ok s') :
    ∃ as, (getConn s' id = none ∧ ∃ k, k ≤ (getLink s c.link).ibuf.length ∧ Replies ((getLink s c.link).ibuf.take k) as) ∨
      (Replies (getLink s c.link).ibuf as ∧
        (∃ c', getConn s' id = some c' ∧ c'.acks.committed = c.acks.committed ++ as ∧ c'.link = c.link ∧
            c'.clientId = c.clientId) ∧
        (∀ l, (getLink s' l).obuf = (getLink s l).obuf) ∧
        (getLink s' c.link).ibuf = [] ∧
        (∀ j, j ≠ id → (getConn s' j).map Conn.view = (getConn s j).map Conn.view) ∧
        ((∃ p ∈ (getLink s c.link).ibuf, p.forcesAck = true) →
            NotCaughtup s' id)) := by
  obtain ⟨s1, fl, s2, s3, s3', hpk, h2, h3, h4, h⟩ := handleDevicePayload_phases hc h
  have hc0 : getConn (setLink s c.link { getLink s c.link with ibuf := [] }) id = some c := hc
  obtain ⟨k, as, hk, hrep, hw, hstop, hfl⟩ := handlePackets_did id c.clientId _ hpk
  have happ := hw.acks
  have hso : fl.stopOk := hfl.stopOk (fun h0 => by simp at h0)
  refine ⟨as, ?_⟩
  have hnc4 : NotCaughtup s3 id → NotCaughtup s3' id := (wakeTurnMoved_awake h4).2 id
  have happ3 := happ.frame_right (payloadTail_walk AckFrame.bookkeeping h2 h3 h4)
  obtain ⟨c3, g3, a3, l3, k3⟩ := happ3.own c hc0
  by_cases hd : fl.disconnect = true
  · simp only [hd, if_true] at h
    exact .inl ⟨getConn_handleDisconnection h, k, hk, hrep⟩
  · simp only [hd, Bool.false_eq_true, if_false, Except.ok.injEq] at h
    subst h
    have hns : fl.stop = false := by
      cases hs : fl.stop with
      | false => rfl
      | true => exact absurd (hso hs) hd
    have hkall := hstop hns
    rw [hkall, List.take_length] at hrep
    refine .inr ⟨hrep, ⟨c3, g3, a3, l3, k3⟩, ?_, ?_, ?_, ?_⟩
    · intro l
      have : getLink s3' l = getLink (setLink s c.link { getLink s c.link with ibuf := [] }) l :=
        getLink_congr happ3.links l
      rw [this]
      by_cases hl : l = c.link
      · subst hl; rw [getLink_setLink_same]
      · rw [getLink_setLink_ne _ _ _ _ hl]
    · have : getLink s3' c.link = getLink (setLink s c.link { getLink s c.link with ibuf := [] }) c.link :=
        getLink_congr happ3.links c.link
      rw [this, getLink_setLink_same]
    · intro j hj
      exact happ3.others j hj
    · intro hex
      have hfa : fl.forceAck = true := hfl.force (by rw [hkall, List.take_length]; exact hex)
      simp only [hfa, if_true] at h2
      have hst := reschedule_freshData_status h2
      have hst3 : NotCaughtup s3 id := by
        split at h3
        · exact (drainNotifications_awake _ h3).2 id hst
        · simp only [Except.ok.injEq] at h3; subst h3; exact hst
      exact hnc4 hst3

end Router
