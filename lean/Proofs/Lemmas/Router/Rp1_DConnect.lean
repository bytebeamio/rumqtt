/-
A registration keeps `DInv` up to its final `reschedule` (`hnPre_dinv`). `Inv2` = `Inv1` ∧ `BInv`; that every reachable state
has it is `Inv2.reachable` in `Rp4_NoPanic`.
-/
import Proofs.Lemmas.Router.Rp1_DEvents
import Proofs.Lemmas.Router.Rp1_WindowInv
namespace Router

theorem rejoinGroups_nonempty (st : Strategy) (client : String) (rs : List DataRequest)
    (sh : List (String × SharedGroup)) (h : ∀ p ∈ sh, p.2.clients ≠ []) :
    ∀ p ∈ rejoinGroups st client rs sh, p.2.clients ≠ [] := by
  intro p' hp'
  obtain ⟨n, _, ⟨p, hp, _, e⟩ | ⟨hn, r, _, _, e⟩⟩ := rejoinGroups_spec st client rs sh p' hp'
  · rw [e]; exact fun e' => h p hp (List.append_eq_nil_iff.mp e').1
  · rw [e]; exact fun e' => hn (by simpa using congrArg List.length e')

theorem hnTracker_ok {s : RState} (h : DInv s) (spec : ConnectSpec) :
    ReqsOK (N s) (hnTracker spec (hnRestored s spec)).requests ∧
    (hnTracker spec (hnRestored s spec)).status = .paused .busy :=
  hnRestored_elim (P := fun o => ReqsOK (N s) (hnTracker spec o).requests ∧ (hnTracker spec o).status = .paused .busy)
    ⟨ReqsOK.nil _, rfl⟩ h.grv

theorem hnPre_dinv {s : RState} {spec : ConnectSpec} (h : BInv s) (ha : AdmInv s)
    (hnone : alookup spec.clientId s.connectionMap = none) (hroom : s.conns.len < s.config.maxConnections) :
    DInv (hnPre s spec) := by
  have sl := hnPre_getConn ha hnone hroom
  have hlive : ∀ j, Live s j → Live (hnPre s spec) j := fun j hj => by
    unfold Live at hj ⊢
    by_cases e : j = hnKey s spec
    · rw [e, sl.new]; rfl
    · rw [sl.old j e]; exact hj
  refine ⟨h.1.fidx, h.1.pf, fun j d hd => ?_,
    fun fd hfd w hw => ⟨(h.1.wt fd hfd w hw).1, hlive _ (h.1.wt fd hfd w hw).2⟩, ?_,
    fun p hp ss hss => h.1.grv p (mem_aremove_iff.mp hp).1 ss hss, rejoinGroups_nonempty _ _ _ _ h.1.grp⟩
  · rcases hnPre_getConn_cases hd with rfl | hd
    · exact (hnTracker_ok h.1 spec).1
    · exact h.1.trk j d hd
  · show ∀ n ∈ s.notifications, _
    rw [h.2]; intro n hn; cases hn

structure Inv2 (s : RState) : Prop where
  inv1 : Inv1 s
  binv : BInv s

theorem Inv2.init (cfg : Config) : Inv2 (init cfg) := ⟨⟨AdmInv.init cfg, AllOut.init cfg⟩, DInv.init cfg, rfl⟩

theorem Inv2.oracle {s : RState} (h : Inv2 s) (o : List Choice) : Inv2 { s with oracle := o } :=
  ⟨⟨h.inv1.adm.oracle o, h.inv1.out.congr rfl⟩, h.binv.1.of_reads rfl, h.binv.2⟩

end Router
