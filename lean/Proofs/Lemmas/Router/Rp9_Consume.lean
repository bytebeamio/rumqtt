/-
`GL` through `consume`: the loop keeps it alongside cursor soundness (`LoopCS`), the closing wake-up is `wakeParked_gl`.
-/
import Proofs.Lemmas.Router.Rp5_Consume
import Proofs.Lemmas.Router.Rp9_Sweep
namespace Router
open Router.Rp3

theorem wakeTurnMoved_gl {s s' : RState} (h : GL s) (hw : wakeTurnMoved s = .ok s') : GL s' :=
  wakeParked_gl (s := { s with turnMoved := [] }) hw h.nodup fun p hp => ⟨h.wf p hp, h.key p hp, h.lv p hp⟩

theorem pos_of_dkey {s s0 : RState} (e : dkey s = dkey s0) (h : 0 < s0.config.maxOutgoingPacketCount) :
    0 < s.config.maxOutgoingPacketCount := by
  have : s.config = s0.config := by simp only [dkey, Prod.mk.injEq] at e; exact e.2.2.2.2
  rw [this]; exact h

/-- the sweep needs cursor soundness, which the loop keeps alongside (`LoopCS`) -/
theorem consumeLoop_gl {id : Nat} (fuel : Nat) {s s' : RState} {requests skipped : List DataRequest}
    (hi : DLInv s) (hno : NoOverflow s) (hcs : CS s) (hpos : 0 < s.config.maxOutgoingPacketCount)
    (hl : ∀ r ∈ requests ++ skipped, ReqOK s.datalog r) (hg : GL s)
    (hc : consumeLoop s id fuel requests skipped = .ok s') : GL s' := by
  have sw : ∀ {t t1 : RState} {req req1 : DataRequest} {st : ConsumeStatus} {l : List DataRequest},
      forwardDeviceData t id req = .ok (t1, req1, st) → LoopCS t (req :: l) ∧ dkey t = dkey s ∧ GL t →
      GL (noteTurn t t1 req1) ∧ (st = .filterCaughtup → ∀ s3, park (noteTurn t t1 req1) id req1 = .ok s3 → GL s3) :=
    fun h1 p => sweep_gl p.2.2 p.1.1 p.1.2.1 p.1.2.2.1 (pos_of_dkey p.2.1 hpos) (p.1.2.2.2 _ (by simp)) h1
  have dk : ∀ {t t1 : RState} {req req1 : DataRequest} {st : ConsumeStatus},
      forwardDeviceData t id req = .ok (t1, req1, st) → dkey (noteTurn t t1 req1) = dkey t :=
    fun h1 => (dkeyFrame.noteTurn _ _ _).trans (dkeyFrame.forwardDeviceData h1)
  obtain ⟨s0, l, h0, ht⟩ := consumeLoop_inv (P := fun t l => LoopCS t l ∧ dkey t = dkey s ∧ GL t)
    (fun hp p => ⟨p.1.perm hp, p.2⟩)
    (fun hp p => ⟨p.1.pause hp, (dkeyFrame.pause hp).trans p.2.1, p.2.2.step (LStep.frame.pause hp)⟩)
    (fun h1 p => ⟨p.1.sweep h1, (dk h1).trans p.2.1, (sw h1 p).1⟩)
    (fun h1 h3 p => ⟨(p.1.sweep h1).park h3, ((dkeyFrame.park h3).trans (dk h1)).trans p.2.1, (sw h1 p).2 rfl _ h3⟩)
    fuel hc ⟨⟨hi, hno, hcs, hl⟩, rfl, hg⟩
  exact h0.2.2.step (LStep.frame.trackv ht)

theorem consume_gl {s s' : RState} {b : Bool} (hi : DLInv s) (hno : NoOverflow s) (hcs : CS s)
    (hpos : 0 < s.config.maxOutgoingPacketCount) (hg : GL s) (hc : consume s = .ok (s', b)) : GL s' := by
  rcases Walk.consume_cases hc with ⟨_, _, rfl⟩ | ⟨id, rq, c, s1, _, hcn, _, h1, h2⟩
  · exact hg.step (LStep.of_conns rfl rfl rfl rfl rfl)
  · obtain ⟨⟨i1, n1, c1, l1⟩, hk⟩ := consume_loopCS rq hi hno hcs hcn
    have la : LStep s (Walk.takeRequests s id c rq) :=
      LStep.of_setc (c' := { c with tracker := { c.tracker with requests := [] } }) hcn rfl rfl rfl rfl rfl rfl
    have lb := la.trans (LStep.frame.ackDeviceData _ id)
    exact wakeTurnMoved_gl (consumeLoop_gl _ i1 n1 c1 (pos_of_dkey hk hpos) (by simpa using l1) (hg.step lb) h1) h2

end Router
