/-
C06 `ack_order_and_owner`: one `consume()` flushes the ack log of the connection it serves (`ack_device_data`) before
its request loop forwards anything, so the replies stand ahead of the forwards on that connection's link.
-/
import Proofs.Lemmas.Router.Base.Cases
import Proofs.Lemmas.Router.Rp2_AckLog
import Proofs.Lemmas.Router.Rp2_Fwd
namespace Router

theorem consumeLoop_sweep (id l : Nat) (fuel : Nat) (reqs skipped : List DataRequest) {s s' : RState} {c : Conn}
    (hc : getConn s id = some c) (hl : c.link = l) (h : consumeLoop s id fuel reqs skipped = .ok s') :
    SweepFrame s s' l := by
  -- `SweepFrame … l` needs `id` live on link `l` at each sweep; the relation asks for it of its first state and
  -- `ConnFrame.get` hands it on
  refine consumeLoop_rel (id := id) (fun a b => ∀ c, getConn a id = some c → c.link = l → SweepFrame a b l)
    (fun _ _ _ _ => SweepFrame.refl _ l) ?_ ?_ (fun _ _ _ h _ _ _ => SweepFrame.of_frame (AckFrame.bookkeeping.park h) l)
    (fun _ _ h _ _ _ => SweepFrame.of_frame (AckFrame.bookkeeping.sched h) l) fuel h c hc hl
  · intro a b d h1 h2 c hc hl
    obtain ⟨c1, hc1, _, hl1, _⟩ := (h1 c hc hl).conns.get hc
    exact (h1 c hc hl).trans (h2 c1 hc1 (hl1.trans hl))
  · intro a a1 req req1 st hf c hc hl
    exact (hl ▸ (forwardDeviceData_spec hc hf).frame : SweepFrame a a1 l).trans
      (SweepFrame.of_frame (AckFrame.bookkeeping.noteTurn a a1 req1) l)

theorem ackDeviceData_spec (s : RState) (id : Nat) (c : Conn) (h : getConn s id = some c) :
    (getLink (ackDeviceData s id) c.link).obuf = (getLink s c.link).obuf ++ c.acks.committed.map Notif.ack ∧
    (∀ l, l ≠ c.link → getLink (ackDeviceData s id) l = getLink s l) ∧
    (∃ c', getConn (ackDeviceData s id) id = some c' ∧ c'.acks.committed = [] ∧ c'.link = c.link ∧
        c'.clientId = c.clientId ∧ c'.acks.recorded = c.acks.recorded) ∧
    (∀ j, j ≠ id → getConn (ackDeviceData s id) j = getConn s j) := by
  rcases ackDeviceData_cases s id with ⟨e, hn | ⟨c', hc', hcm⟩⟩ | ⟨c', hc', _, e⟩
  · rw [h] at hn; cases hn
  · rw [h] at hc'; cases hc'
    rw [e, hcm]
    exact ⟨by simp, fun _ _ => rfl, ⟨c, h, hcm, rfl, rfl, rfl⟩, fun _ _ => rfl⟩
  · rw [h] at hc'; cases hc'
    rw [e]
    refine ⟨?_, fun l hl => ?_, ⟨_, getConn_setConn_same _ _ _ ?_, rfl, rfl, rfl, rfl⟩, fun j hj => ?_⟩
    · rw [getLink_setConn, wakeLink_pushNotifs_cases, getLink_setLink_same, wake_obuf]
    · rw [getLink_setConn, wakeLink_pushNotifs_cases, getLink_setLink_ne _ _ _ _ hl]
    · exact Slab.lt_of_get? (s := (wakeLink (pushNotifs s c.link _) c.link).conns) h
    · rw [getConn_setConn_ne _ _ _ _ hj]; rfl

theorem consume_flushes_in_order {s s' : RState} {b : Bool} {id : Nat} {rq : List Nat} {c : Conn}
    (hq : s.readyqueue.dropWhile (fun id => (s.conns.get? id).isNone) = id :: rq)
    (hc : getConn s id = some c) (h : consume s = .ok (s', b)) :
    b = true ∧
    (∃ rest, (getLink s' c.link).obuf = (getLink s c.link).obuf ++ c.acks.committed.map Notif.ack ++ rest ∧
        ∀ n ∈ rest, n.isAck = false) ∧
    (∀ l, l ≠ c.link → getLink s' l = getLink s l) ∧
    acksOf s' id = some [] ∧
    (∀ j, j ≠ id → (getConn s' j).map Conn.view = (getConn s j).map Conn.view) := by
  rcases Walk.consume_cases h with ⟨_, hq', _⟩ | ⟨id', rq', c', s2, hq', hc', rfl, hloop, hwake⟩
  · rw [hq] at hq'; cases hq'
  · rw [hq] at hq'; cases hq'; rw [hc] at hc'; cases hc'
    have fw := AckFrame.bookkeeping.wakeTurnMoved hwake
    have fr0 : AckFrame s (Walk.takeRequests s id c rq) :=
      ((AckFrame.of_eq (by rfl) (by rfl)).trans (AckFrame.setConn (s := { s with readyqueue := rq }) hc
        (c' := { c with tracker := { c.tracker with requests := [] } }) rfl)).trans (AckFrame.of_eq (by rfl) (by rfl))
    obtain ⟨c0, hc0', ha0, hl0, hk0⟩ := fr0.conns.get hc
    obtain ⟨e1, e2, ⟨c1, g1, a1, l1, k1, _⟩, e4⟩ := ackDeviceData_spec (Walk.takeRequests s id c rq) id c0 hc0'
    have sw := (consumeLoop_sweep id c.link _ _ _ g1 (l1.trans hl0) hloop).trans (SweepFrame.of_frame fw c.link)
    obtain ⟨rest, hrest, hno⟩ := sw.link.own
    refine ⟨rfl, ⟨rest, ?_, hno⟩, ?_, ?_, ?_⟩
    · rw [hrest, ← hl0, e1, fr0.getLink, ha0]
    · intro l hl
      rw [sw.link.others l hl, e2 l (by rw [hl0]; exact hl), fr0.getLink]
    · obtain ⟨c2, g2, a2, _⟩ := sw.conns.get g1
      simp [acksOf, g2, a2, a1]
    · intro j hj
      rw [sw.conns j, e4 j hj]
      exact fr0.conns j

end Router
