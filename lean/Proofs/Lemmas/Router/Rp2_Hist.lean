/-
The history of C15 / C16: `Hist s s'` holds over any stretch of a run. All but a handful of moves are `Boring`
(nothing `Hist` reads happens); the others: an accepted publish, an append, a will set, fired or cleared.
-/
import Proofs.Lemmas.Router.Base.Session
import Proofs.Lemmas.Router.Rp2_Append
import Proofs.Lemmas.Router.Rp2_Retained
namespace Router

/-- the ghost events the C15 / C16 history invariants look at -/
def Ghost.loud : Ghost → Bool
  | .appended .. => true
  | .accepted .. => true
  | .willSet _ => true
  | .willFired _ => true
  | _ => false

def Quiet (evs : List Ghost) : Prop := ∀ e ∈ evs, e.loud = false

theorem Quiet.nil : Quiet [] := fun _ h => absurd h (List.not_mem_nil)

theorem Quiet.append {a b : List Ghost} (ha : Quiet a) (hb : Quiet b) : Quiet (a ++ b) := by
  intro e he
  rcases List.mem_append.mp he with h | h
  · exact ha e h
  · exact hb e h

theorem Quiet.single {e : Ghost} (h : e.loud = false) : Quiet [e] := by
  intro x hx; simp at hx; subst hx; exact h

def firedCount (cid : String) (evs : List Ghost) : Nat :=
  evs.countP (fun e => match e with | .willFired c => c == cid | _ => false)

def setCount (cid : String) (evs : List Ghost) : Nat :=
  evs.countP (fun e => match e with | .willSet c => c == cid | _ => false)

@[simp] theorem firedCount_append (cid : String) (a b : List Ghost) :
    firedCount cid (a ++ b) = firedCount cid a + firedCount cid b := by simp [firedCount]

@[simp] theorem setCount_append (cid : String) (a b : List Ghost) :
    setCount cid (a ++ b) = setCount cid a + setCount cid b := by simp [setCount]

theorem loud_filter (evs : List Ghost) :
    appendedEvents evs = appendedEvents (evs.filter Ghost.loud) ∧ acceptedEvents evs = acceptedEvents (evs.filter Ghost.loud) ∧
    ∀ c, firedCount c evs = firedCount c (evs.filter Ghost.loud) ∧ setCount c evs = setCount c (evs.filter Ghost.loud) :=
  ⟨filterMap_filter_of _ _ (fun e h => by cases e <;> first | rfl | cases h) evs,
   filterMap_filter_of _ _ (fun e h => by cases e <;> first | rfl | cases h) evs,
   fun _ => ⟨countP_filter_of _ _ (fun e h => by cases e <;> first | rfl | cases h) evs,
     countP_filter_of _ _ (fun e h => by cases e <;> first | rfl | cases h) evs⟩⟩

theorem Quiet.counts {evs : List Ghost} (h : Quiet evs) (cid : String) :
    appendedEvents evs = [] ∧ firedCount cid evs = 0 ∧ setCount cid evs = 0 ∧ acceptedEvents evs = [] := by
  have e : evs.filter Ghost.loud = [] := List.filter_eq_nil_iff.mpr fun x hx => by rw [h x hx]; exact Bool.false_ne_true
  obtain ⟨la, lb, lc⟩ := loud_filter evs
  rw [e] at la lb lc
  exact ⟨la, (lc cid).1, (lc cid).2, lb⟩

def stored (lw : List (String × Will)) (cid : String) : Nat := if (alookup cid lw).isSome then 1 else 0

/-- nothing the history invariants read happens: retained map and wills are the same, the events added are quiet -/
structure Boring (s s' : RState) : Prop where
  retained : s'.datalog.retained = s.datalog.retained
  lastWills : s'.lastWills = s.lastWills
  ghost : ∃ evs, s'.ghost = s.ghost ++ evs ∧ Quiet evs

theorem Boring.refl (s : RState) : Boring s s := ⟨rfl, rfl, [], by simp, Quiet.nil⟩

theorem Boring.trans {a b c : RState} (h1 : Boring a b) (h2 : Boring b c) : Boring a c := by
  obtain ⟨e1, g1, q1⟩ := h1.ghost
  obtain ⟨e2, g2, q2⟩ := h2.ghost
  exact ⟨h2.retained.trans h1.retained, h2.lastWills.trans h1.lastWills, e1 ++ e2,
    by rw [g2, g1, List.append_assoc], q1.append q2⟩

theorem Boring.of_eq {s s' : RState} (h1 : s'.datalog.retained = s.datalog.retained)
    (h2 : s'.lastWills = s.lastWills) (h3 : s'.ghost = s.ghost) : Boring s s' :=
  ⟨h1, h2, [], by simp [h3], Quiet.nil⟩

theorem Boring.g {s s' : RState} (h : Boring s s') {e : Ghost} (he : e.loud = false) : Boring s (s'.g e) := by
  obtain ⟨e1, g1, q1⟩ := h.ghost
  exact ⟨h.retained, h.lastWills, e1 ++ [e], by simp [RState.g, g1], q1.append (Quiet.single he)⟩

theorem Boring.bookkeeping : Bookkeeping Boring where
  refl := Boring.refl
  trans := Boring.trans
  of_eq := fun _ _ h1 h2 h3 => Boring.of_eq h1 h2 h3
  setConn := fun _ _ => Boring.of_eq rfl rfl rfl
  subscribed := fun s _ _ _ _ _ _ _ => (Boring.refl s).g rfl
  unsubscribed := fun s _ _ => (Boring.refl s).g rfl

theorem setLink_boring (s : RState) (l : Nat) (b : LinkBuf) : Boring s (setLink s l b) := Boring.of_eq rfl rfl rfl
theorem pushNotifs_boring (s : RState) (l : Nat) (ns : List Notif) : Boring s (pushNotifs s l ns) :=
  Boring.of_eq rfl rfl rfl
theorem wakeLink_boring (s : RState) (l : Nat) : Boring s (wakeLink s l) := Boring.of_eq rfl rfl rfl
theorem setConn_boring (s : RState) (id : Nat) (c : Conn) : Boring s (setConn s id c) := Boring.of_eq rfl rfl rfl

theorem handleDisconnection_removed {s s' : RState} {id : Nat} {r : Option String}
    (h : handleDisconnection s id r = .ok s') :
    s'.datalog.retained = s.datalog.retained ∧ s'.lastWills = s.lastWills ∧
    (s'.ghost = s.ghost ∨ ∃ c, getConn s id = some c ∧ s'.ghost = s.ghost ++ [.removed id c.clientId c.clean]) := by
  rcases handleDisconnection_cases h with ⟨_, rfl⟩ | ⟨c, hc, hw⟩
  · exact ⟨rfl, rfl, .inl rfl⟩
  · have w := wakeParked_wakeFrame hw
    have hF := hdFinal_fields s id c r
    exact ⟨by rw [w.retained, hF.datalog, datalogClean_map], w.wills.trans hF.lastWills, .inr ⟨c, hc, w.ghost.trans hF.ghost⟩⟩

theorem handleDisconnection_boring {s s' : RState} {id : Nat} {r : Option String}
    (h : handleDisconnection s id r = .ok s') : Boring s s' := by
  obtain ⟨h1, h2, h3 | ⟨c, _, h3⟩⟩ := handleDisconnection_removed h
  · exact Boring.of_eq h1 h2 h3
  · exact ⟨h1, h2, _, h3, Quiet.single rfl⟩

def RetOK (s : RState) : Prop := RetainedKeysUnique s ∧ RetainedFlagged s

/-- the rule of C15: what one accepted publish does to the retained message of topic `t` -/
def retainedStep (t : String) (cur : Option Pub) (e : Option Nat × Pub × String) : Option Pub :=
  if e.2.2 = t then (if e.2.1.retain then (if e.2.1.payload.isEmpty then none else some e.2.1) else cur) else cur

def retainedSpec (t : String) (cur : Option Pub) (acc : List (Option Nat × Pub × String)) : Option Pub :=
  acc.foldl (retainedStep t) cur

theorem retainedSpec_append (t : String) (cur : Option Pub) (a b : List (Option Nat × Pub × String)) :
    retainedSpec t cur (a ++ b) = retainedSpec t (retainedSpec t cur a) b := by
  simp [retainedSpec, List.foldl_append]

/-- a stretch of history: the retained map stays well formed and follows the accepted publishes;
    the new ghost events' `appended` copies are unflagged; and per client, (wills fired) + (will
    stored after) ≤ (wills set) + (will stored before) -/
structure Hist (s s' : RState) : Prop where
  ret : RetOK s → RetOK s'
  ghost : ∃ evs, s'.ghost = s.ghost ++ evs ∧ (∀ e ∈ appendedEvents evs, e.2.retain = false) ∧
    (∀ cid, firedCount cid evs + stored s'.lastWills cid ≤ setCount cid evs + stored s.lastWills cid) ∧
    (∀ t, alookup t s'.datalog.retained = retainedSpec t (alookup t s.datalog.retained) (acceptedEvents evs))

theorem Hist.refl (s : RState) : Hist s s :=
  ⟨id, [], (List.append_nil _).symm, nofun, fun _ => Nat.le_refl _, fun _ => rfl⟩

theorem Hist.trans {a b c : RState} (h1 : Hist a b) (h2 : Hist b c) : Hist a c := by
  obtain ⟨e1, g1, p1, w1, r1⟩ := h1.ghost
  obtain ⟨e2, g2, p2, w2, r2⟩ := h2.ghost
  refine ⟨fun h => h2.ret (h1.ret h), e1 ++ e2, by rw [g2, g1, List.append_assoc], ?_, ?_, ?_⟩
  · intro e he
    rw [appendedEvents_append] at he
    rcases List.mem_append.mp he with h | h
    · exact p1 e h
    · exact p2 e h
  · intro cid
    have := w1 cid; have := w2 cid
    simp only [firedCount_append, setCount_append]
    omega
  · intro t
    rw [acceptedEvents_append, retainedSpec_append, ← r1 t, r2 t]

theorem Hist.of_wills {s s' : RState} (evs : List Ghost) (h1 : s'.datalog.retained = s.datalog.retained)
    (hg : s'.ghost = s.ghost ++ evs) (hp : ∀ e ∈ appendedEvents evs, e.2.retain = false)
    (hc : acceptedEvents evs = [])
    (hw : ∀ cid, firedCount cid evs + stored s'.lastWills cid ≤ setCount cid evs + stored s.lastWills cid) :
    Hist s s' := by
  refine ⟨fun hr => ?_, evs, hg, hp, hw, fun t => by rw [hc, h1]; rfl⟩
  unfold RetOK RetainedKeysUnique RetainedFlagged at *
  rw [h1]; exact hr

theorem Hist.of_boring {s s' : RState} (h : Boring s s') : Hist s s' := by
  obtain ⟨evs, g, q⟩ := h.ghost
  refine Hist.of_wills evs h.retained g (fun e he => ?_) (q.counts "").2.2.2 fun cid => ?_
  · rw [(q.counts "").1] at he; cases he
  · rw [(q.counts cid).2.1, (q.counts cid).2.2.1, h.lastWills]; exact Nat.le_refl _

theorem appendToFilter_hist {s s' : RState} {i : Nat} {p : Pub} (hp : p.retain = false)
    (h : appendToFilter s i p = .ok s') : Hist s s' := by
  obtain ⟨fd, evs, _, hev, rfl⟩ := appendToFilter_upd h
  -- the events are `appended i _ p`, after an `evicted` if the head segment was dropped
  refine Hist.of_wills evs rfl rfl (fun e he => ?_) (by rcases hev with rfl | rfl <;> rfl)
    (fun cid => by rcases hev with rfl | rfl <;> exact Nat.le_refl _)
  rcases hev with rfl | rfl <;> (simp [appendedEvents] at he; subst he; exact hp)

theorem accept_hist (s : RState) (topic : String) (p : Pub) (who : Option Nat) :
    Hist s ((updateRetained s topic p).g (.accepted who p topic)) := by
  have u := updateRetained_same s topic p
  refine ⟨fun hr => ⟨updateRetained_keysUnique s topic p hr.1, updateRetained_flagged s topic p hr.2⟩,
    [.accepted who p topic], by simp [RState.g, u.1], by simp [appendedEvents], ?_, ?_⟩
  · intro cid
    show _ + stored (updateRetained s topic p).lastWills cid ≤ _
    rw [u.2.2]
    simp [firedCount, setCount]
  · intro t
    show alookup t (updateRetained s topic p).datalog.retained = _
    simp only [acceptedEvents, List.filterMap_cons, List.filterMap_nil, retainedSpec, List.foldl_cons,
      List.foldl_nil, retainedStep]
    by_cases ht : topic = t
    · subst ht
      rw [updateRetained_lookup_same]; simp
    · rw [updateRetained_lookup_other _ _ _ _ (fun e => ht e.symm)]; simp [ht]

theorem Hist.bookkeeping : Bookkeeping Hist where
  refl := Hist.refl
  trans := Hist.trans
  of_eq := fun hc hl h1 h2 h3 => Hist.of_boring (Boring.bookkeeping.of_eq hc hl h1 h2 h3)
  setConn := fun hc hv => Hist.of_boring (Boring.bookkeeping.setConn hc hv)
  subscribed := fun s _ _ _ _ _ _ _ => Hist.of_boring (Boring.bookkeeping.subscribed s ..)
  unsubscribed := fun s _ _ => Hist.of_boring (Boring.bookkeeping.unsubscribed s ..)

theorem stored_aremove_le (lw : List (String × Will)) (cid c' : String) :
    stored (aremove cid lw) c' ≤ stored lw c' := by
  unfold stored
  by_cases h : c' = cid
  · subst h; rw [alookup_aremove_same]; simp
  · rw [alookup_aremove_ne _ _ h]; exact Nat.le_refl _

end Router
