/-
`QI` through the packets: a batch costs its connection only the requests of the filters it unsubscribes (`pktUnsubs`, as
a `Keeps`).
-/
import Proofs.Lemmas.Router.Rp6_Unsub
namespace Router

def pktUnsubs : Packet → List String
  | .unsubscribe _ fs => fs
  | _ => []

theorem handlePacket_qi {s s' : RState} {id : Nat} {cid : String} {pkt : Packet} {fl fl' : Flags} (hq : QI s)
    (h : handlePacket s id cid pkt fl = .ok (s', fl')) :
    QI s' ∧ Keeps (fun j r => ¬ (j = id ∧ r.filter ∈ pktUnsubs pkt)) s s' ∧ s'.config = s.config := by
  rcases OEq.closed.handlePacket_cases h with ⟨_, _, filters, s1, _, _, rfl, h1, h2⟩ | ⟨_, filters, s1, _, rfl, h1, h2⟩ | m
  · obtain ⟨q1, o1, c1⟩ := subscribeFilters_qi filters hq h1
    have m2 := OEq.connClosed.commitAck h2
    exact ⟨q1.oeq m2, fun j r ho _ => (m2.own j r).mpr (o1 j r ho), by rw [m2.cfg, c1]⟩
  · obtain ⟨q1, k1, c1⟩ := unsubscribeFilters_qi filters h1 hq
    have m2 := OEq.connClosed.commitAck h2
    exact ⟨q1.oeq m2, k1.trans (m2.keeps _), by rw [m2.cfg, c1]⟩
  · exact ⟨hq.oeq m, m.keeps _, m.cfg⟩

theorem handlePackets_qi {id : Nat} {cid : String} (ps : List Packet) {s s' : RState} {fl fl' : Flags} (hq : QI s)
    (h : handlePackets s id cid ps fl = .ok (s', fl')) :
    QI s' ∧ Keeps (fun j r => ¬ (j = id ∧ ∃ p ∈ ps, r.filter ∈ pktUnsubs p)) s s' ∧ s'.config = s.config :=
  Walk.handlePackets_mem_inv
    (I := fun t _ => QI t ∧ Keeps (fun j r => ¬ (j = id ∧ ∃ p ∈ ps, r.filter ∈ pktUnsubs p)) s t ∧ t.config = s.config) ps
    (fun {_ _ p _ _} hp ht h1 => by
      obtain ⟨q1, k1, c1⟩ := handlePacket_qi ht.1 h1
      exact ⟨q1, ht.2.1.trans (k1.mono fun j r hk hh => hk ⟨hh.1, p, hp, hh.2⟩), c1.trans ht.2.2⟩)
    ⟨hq, fun _ _ h _ => h, rfl⟩ h

end Router
