/-
`GL` through disconnection (a group whose turn passes on, or whose cursor the rewind sets back, has its log woken) and
CONNECT (a group the session rejoins keeps cursor and turn, one it re-creates has nothing parked).
-/
import Proofs.Lemmas.Router.Rp5_Step
import Proofs.Lemmas.Router.Rp4_NoPanic
import Proofs.Lemmas.Router.Rp6_Session
import Proofs.Lemmas.Router.Rp9_Packets
namespace Router
open Router.Rp3

theorem handleDisconnection_gl {s s' : RState} {id : Nat} {r : Option String} (hg : GL s) (hcs : CS s)
    (hd : handleDisconnection s id r = .ok s') : GL s' := by
  rcases handleDisconnection_cases hd with ⟨_, rfl⟩ | ⟨c, hc, hd⟩
  · exact hg
  have hF := hdFinal_fields s id c r
  have hget := hdFinal_getConn s id c r
  have eD : (datalogClean s.datalog id).1 = { s.datalog with native := s.datalog.native.map (dropWaiters id) } :=
    congrArg Prod.fst (datalogClean_map s.datalog id)
  have hnat : (hdFinal s id c r).datalog.native = s.datalog.native.map (dropWaiters id) := by rw [hF.datalog, eD]
  have hfi : (hdFinal s id c r).datalog.filterIndexes = s.datalog.filterIndexes := by rw [hF.datalog, eD]
  have hfi' : (datalogClean s.datalog id).1.filterIndexes = s.datalog.filterIndexes := by rw [eD]
  have mF : LMono s (hdFinal s id c r) := by
    refine ⟨fun j d hdj => ?_, fun i j x hp => ?_, fun i h => by rw [hF.turnMoved]; exact h,
      fun f i h => .inl (filterIdx?_congr hfi f ▸ h), fun i fd h => ?_⟩
    · rw [hget] at hdj
      split at hdj
      · cases hdj
      · exact .inl ⟨d, hdj, rfl⟩
    · obtain ⟨fd', hfd', hm⟩ := hp
      rw [hnat] at hfd'
      simp only [List.getElem?_map, Option.map_eq_some_iff] at hfd'
      obtain ⟨fd, hfd, rfl⟩ := hfd'
      exact ⟨fd, hfd, dropWaiters_sub id _ _ hm⟩
    · exact ⟨dropWaiters id fd, by rw [hnat]; simp [h], .inl rfl⟩
  have hrem : ∀ p' ∈ removeFromGroups s.shared c.clientId,
      GOkW (hdFinal s id c r)
        ((hdFinal s id c r).turnMoved ++ turnMovedLogs (datalogClean s.datalog id).1 s.shared c.clientId) p' := by
    intro p' hp'
    obtain ⟨p, hp, rfl, hne⟩ := mem_removeFromGroups_iff.mp hp'
    refine ⟨removeClient_wf p.2 c.clientId hne, hg.key p hp, fun i hi => ?_⟩
    by_cases hcur : (p.2.removeClient c.clientId).current = p.2.current
    · exact (LVeIn.more (((hg.lv p hp).mono mF).congr (grp' := p.2.removeClient c.clientId) rfl hcur)
        fun _ => List.mem_append_left _) i hi
    · exact .inr (.inl (List.mem_append_right _ (mem_turnMovedLogs_of hp (hg.key p hp) hne hcur
        ((filterIdx?_congr hfi' _).trans (filterIdx?_congr hfi _ ▸ hi)))))
  have hsh := hF.shared
  have hlogs := hdMoved_eq s id c r
  by_cases hclean : c.clean = true
  · simp only [hclean, Bool.not_true, Bool.false_eq_true, if_false] at hsh hlogs
    rw [hlogs] at hd
    exact wakeParked_gl hd (by rw [hsh]; exact removeFromGroups_nodup _ hg.nodup) fun p hp => hrem p (hsh ▸ hp)
  · have hclean' : c.clean = false := by simpa using hclean
    simp only [hclean', Bool.not_false, if_true] at hsh hlogs
    rw [hlogs] at hd
    obtain ⟨ekeys, hent⟩ := mem_rewindRequests (retransmissionMap c.out.inflight [])
      ((c.tracker.requests ++ (datalogClean s.datalog id).2).map (atGroupCursor s.shared))
      (removeFromGroups s.shared c.clientId) []
    refine wakeParked_gl hd (by rw [hsh, ekeys]; exact removeFromGroups_nodup _ hg.nodup) fun p' hp' => ?_
    rw [hsh] at hp'
    obtain ⟨p, hp, e1, e2, e3, e4⟩ := hent p' hp'
    obtain ⟨hw, hk, hlv⟩ := hrem p hp
    have hcur' : p'.2.current = p.2.current := by unfold SharedGroup.current; rw [e2, e3]
    refine ⟨by rw [e2, e3]; exact hw, by rw [e1]; exact hk, fun i hi => ?_⟩
    rw [e1] at hi
    rcases e4 with e4 | ⟨x, hx, hxg, hxr⟩
    · -- cursor unchanged by the rewind
      rcases hlv i hi with ⟨fd, a, b⟩ | h1 | h1
      · exact .inl ⟨fd, a, by rw [e4]; exact b⟩
      · exact .inr (.inl ((List.mem_append.mp h1).elim (List.mem_append_left _) fun h =>
          List.mem_append_right _ (List.mem_append_left _ h)))
      · exact .inr (.inr fun id' c' r' hc' hh hgr => h1 id' c' r' hc' (hcur' ▸ hh) (e1 ▸ hgr))
    · -- the group was set back: its log is woken
      refine .inr (.inl (List.mem_append_right _ (List.mem_append_right _ ?_)))
      have hidx : x.filterIdx = i := by
        -- the request belongs to the closed connection: its index is the index of the group's path
        obtain ⟨x0, hx0, rfl⟩ := List.mem_map.mp hx
        obtain ⟨_, f2, _, f4, _⟩ := atGroupCursor_fields s.shared x0
        have hall : allReqs s x0 := by
          rcases List.mem_append.mp hx0 with h0 | h0
          · exact .inl ⟨id, c, hc, h0⟩
          · rw [congrArg Prod.snd (datalogClean_map s.datalog id)] at h0
            obtain ⟨fd, hfd, hm⟩ := List.mem_flatMap.mp h0
            exact .inr (.inl ⟨fd, hfd, (id, x0), mem_of_mem_parkedOf hm, rfl⟩)
        have := (hcs.req x0 hall).2 p.1 (by rw [← f4]; exact hxg)
        rw [filterIdx?_congr hfi] at hi
        rw [hi] at this
        rw [f2]; exact (Option.some.inj this).symm
      rw [← hidx]
      exact mem_rewoundLogs hx hp hxg (by rw [hxr]; rfl)

theorem hnRegister_gl {s s' : RState} {spec : ConnectSpec} (hg : GL s) (hdi : DInv s) (ha : AdmInv s) (hq : QI s)
    (hnone : alookup spec.clientId s.connectionMap = none) (hroom : s.conns.len < s.config.maxConnections)
    (hre : reschedule (hnPre s spec) (hnKey s spec) .init = .ok s') : GL s' := by
  refine GL.step ?_ (LStep.frame.reschedule hre)
  obtain ⟨_, hgt⟩ := hnRestored_qi hq spec
  have f1 : (hnPre s spec).datalog = s.datalog := rfl
  have sl := hnPre_getConn ha hnone hroom
  have hnopark : ∀ i r, ¬ ParkedAt (hnPre s spec) i (hnKey s spec) r := by
    intro i r hp
    obtain ⟨fd, hfd, hm⟩ := hp
    rw [f1] at hfd
    have := (hdi.wt fd (List.mem_of_getElem? hfd) (hnKey s spec, r) hm).2
    unfold Live at this
    rw [sl.vacant] at this; cases this
  have m : LMono s (hnPre s spec) := by
    refine ⟨fun j d hdj => ?_, fun i j r => (parkedAt_of_native rfl i j r).mp,
      fun i hi => hi, fun f i hf => .inl (by rw [f1] at hf; exact hf),
      fun i fd hfd => ⟨fd, by rw [f1]; exact hfd, .inl rfl⟩⟩
    by_cases hj : j = hnKey s spec
    · subst hj; exact .inr hnopark
    · rw [sl.old j hj] at hdj; exact .inl ⟨d, hdj, rfl⟩
  refine hg.of_entries m (by rw [hnPre_shared]; exact rejoinGroups_nodup _ _ _ _ hg.nodup) fun p' hp' => ?_
  rw [hnPre_shared] at hp'
  obtain ⟨n, _, ⟨p, hp, e1, e2⟩ | ⟨hn, r, hr, e3, e2⟩⟩ := rejoinGroups_spec _ _ _ _ p' hp'
  · -- a group the session rejoins keeps cursor and turn
    have hw := hg.wf p hp
    have hcur : p'.2.current = p.2.current := by
      rw [e2]; unfold SharedGroup.current; exact List.getElem?_append_left hw
    refine .inr ⟨by rw [e2]; simp only [List.length_append]; omega, e1 ▸ hg.key p hp, ?_⟩
    rw [← e1]
    exact ((hg.lv p hp).mono m).congr (by rw [e2]) hcur
  · -- a group it re-creates: the new connection holds the turn, and nothing of it is parked
    obtain ⟨k, rfl⟩ := Nat.exists_eq_succ_of_ne_zero hn
    refine .inr ⟨by rw [e2]; simp, ?_, fun i _ => .inr (.inr fun id' c' r' hc' hcur _ hpk => ?_)⟩
    · obtain ⟨path, he⟩ := sfGroup_extract (e3 ▸ (hgt r hr).symm)
      exact extractGroup_key_wf he
    · have hcid : c'.clientId = spec.clientId := by
        rw [replicate_current k spec.clientId p'.2 (by rw [e2]) (by rw [e2])] at hcur
        exact (Option.some.inj hcur).symm
      by_cases hj : id' = hnKey s spec
      · subst hj; exact hnopark i r' hpk
      · rw [sl.old id' hj] at hc'
        have := ha.map.2 id' c' hc'
        rw [hcid, hnone] at this; cases this

theorem handleNewConnection_gl {s s' : RState} {spec : ConnectSpec} (hb : BR s) (ha : AdmInv s) (hq : QI s) (hcs : CS s)
    (hg : GL s) (h : handleNewConnection s spec = .ok s') : GL s' :=
  have c0 : CS (setLink s spec.link {}) := hcs.step0 (CStep.connClosed.of_rest rfl rfl)
  have g0 : GL (setLink s spec.link {}) := hg.step (LStep.of_conns rfl rfl rfl rfl rfl)
  handleNewConnection_inv (I := GL) ha g0 (fun _ => handleDisconnection_gl g0 c0)
    (fun t => t.step (LStep.of_conns rfl rfl rfl rfl rfl))
    (fun t ht a1 hnone hroom hr =>
      hnRegister_gl t (hnTakeover_br hb ht).1.1 a1 (hnTakeover_qi hb.1.2 hq ht) hnone hroom hr) h

end Router
