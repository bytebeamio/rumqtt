/-
What an accepted publish, a client's or a will, adds to the history, the filter logs and the retained map.
`f_wrote`: the events `f` recorded and, per filter index, how many copies its log gained.
-/
import Proofs.Lemmas.Router.Base.Local
namespace Router

/-- the `appended` events of a piece of ghost history: (filter index, stored publish) -/
def appendedEvents (g : List Ghost) : List (Nat × Pub) :=
  g.filterMap (fun e => match e with | .appended i _ p => some (i, p) | _ => none)

/-- the `accepted` events of a piece of ghost history: (publisher, if a client; stored publish; topic) -/
def acceptedEvents (g : List Ghost) : List (Option Nat × Pub × String) :=
  g.filterMap (fun e => match e with | .accepted i p t => some (i, p, t) | _ => none)

@[simp] theorem appendedEvents_append (a b : List Ghost) :
    appendedEvents (a ++ b) = appendedEvents a ++ appendedEvents b := by
  simp [appendedEvents]

@[simp] theorem acceptedEvents_append (a b : List Ghost) :
    acceptedEvents (a ++ b) = acceptedEvents a ++ acceptedEvents b := by
  simp [acceptedEvents]

def logAt (s : RState) (i : Nat) : Option (CLog.Log Pub) := (s.datalog.native[i]?).map (·.log)

def appendN (p : Pub) : Nat → CLog.Log Pub → CLog.Log Pub
  | 0, l => l
  | n + 1, l => appendN p n (l.append p (pubSize p)).1

structure AppendFrame (s s' : RState) : Prop where
  retained : s'.datalog.retained = s.datalog.retained
  filterIndexes : s'.datalog.filterIndexes = s.datalog.filterIndexes
  publishFilters : s'.datalog.publishFilters = s.datalog.publishFilters
  nativeLen : s'.datalog.native.length = s.datalog.native.length
  lastWills : s'.lastWills = s.lastWills
  conns : s'.conns = s.conns
  links : s'.links = s.links
  oracle : s'.oracle = s.oracle

theorem AppendFrame.refl (s : RState) : AppendFrame s s := ⟨rfl, rfl, rfl, rfl, rfl, rfl, rfl, rfl⟩

theorem AppendFrame.trans {a b c : RState} (h1 : AppendFrame a b) (h2 : AppendFrame b c) : AppendFrame a c :=
  ⟨h2.retained.trans h1.retained, h2.filterIndexes.trans h1.filterIndexes,
   h2.publishFilters.trans h1.publishFilters, h2.nativeLen.trans h1.nativeLen,
   h2.lastWills.trans h1.lastWills, h2.conns.trans h1.conns, h2.links.trans h1.links,
   h2.oracle.trans h1.oracle⟩

theorem appendToFilter_wrote {s s' : RState} {i : Nat} {p : Pub} (h : appendToFilter s i p = .ok s') :
    (∃ evs, s'.ghost = s.ghost ++ evs ∧ appendedEvents evs = [(i, p)] ∧ acceptedEvents evs = []) ∧
    (∀ j, logAt s' j = if j = i then (logAt s j).map (fun l => (l.append p (pubSize p)).1) else logAt s j) ∧
    AppendFrame s s' := by
  obtain ⟨fd, evs, hfd, hev, rfl⟩ := appendToFilter_upd h
  have hi : i < s.datalog.native.length := (List.getElem?_eq_some_iff.mp hfd).1
  refine ⟨⟨evs, rfl, ?_⟩, fun j => ?_, ⟨rfl, rfl, rfl, by simp, rfl, rfl, rfl, rfl⟩⟩
  · rcases hev with rfl | rfl <;> exact ⟨by simp [appendedEvents], by simp [acceptedEvents]⟩
  · unfold logAt
    by_cases hj : j = i
    · subst hj
      obtain ⟨_, hget⟩ := List.getElem?_eq_some_iff.mp hfd
      simp [hi, hget]
    · simp [hj, List.getElem?_set_ne (Ne.symm hj)]

theorem appendToFilters_wrote : ∀ (idxs : List Nat) {s s' : RState} {p : Pub},
    appendToFilters s idxs p = .ok s' →
    (∃ evs, s'.ghost = s.ghost ++ evs ∧ appendedEvents evs = idxs.map (fun i => (i, p)) ∧ acceptedEvents evs = []) ∧
    (∀ j, logAt s' j = (logAt s j).map (appendN p (idxs.count j))) ∧
    AppendFrame s s'
  | [], s, s', p, h => by
    simp only [appendToFilters, Except.ok.injEq] at h; subst h
    refine ⟨⟨[], by simp, by simp [appendedEvents], by simp [acceptedEvents]⟩, ?_, AppendFrame.refl _⟩
    intro j; cases logAt s j <;> simp [appendN]
  | i :: is, s, s', p, h => by
    simp only [appendToFilters] at h
    split at h
    · simp at h
    · rename_i s1 h1
      obtain ⟨⟨e1, g1, a1, c1⟩, l1, f1⟩ := appendToFilter_wrote h1
      obtain ⟨⟨e2, g2, a2, c2⟩, l2, f2⟩ := appendToFilters_wrote is h
      refine ⟨⟨e1 ++ e2, by rw [g2, g1, List.append_assoc], by simp [a1, a2], by simp [c1, c2]⟩, ?_, f1.trans f2⟩
      intro j
      rw [l2 j, l1 j]
      by_cases hj : j = i
      · subst hj
        cases logAt s j <;> simp [appendN]
      · have : i ≠ j := fun e => hj e.symm
        simp [hj, this]

/-- field by field: a rewrite with `updateRetained_upd` would put the whole record into the goal -/
theorem updateRetained_same (s : RState) (topic : String) (p : Pub) :
    (updateRetained s topic p).ghost = s.ghost ∧ (updateRetained s topic p).datalog.native = s.datalog.native ∧
    (updateRetained s topic p).lastWills = s.lastWills := by
  obtain ⟨r, e⟩ := updateRetained_upd s topic p
  rw [e]; exact ⟨rfl, rfl, rfl⟩

theorem updateRetained_retained_congr {a b : RState} {t : String} {p : Pub}
    (h : a.datalog.retained = b.datalog.retained) :
    (updateRetained a t p).datalog.retained = (updateRetained b t p).datalog.retained := by
  have key : ∀ s : RState, (updateRetained s t p).datalog.retained =
      if p.retain then (if p.payload.isEmpty then aremove t s.datalog.retained else ainsert t p s.datalog.retained)
      else s.datalog.retained := fun s => by
    rcases updateRetained_cases s t p with ⟨h1, h2, e⟩ | ⟨h1, h2, e⟩ | ⟨h1, e⟩ <;> rw [e]
    · simp [h1, h2]
    · simp [h1, h2]
    · simp [h1]
  rw [key a, key b, h]

theorem dlMatches_same {s s' : RState} {topic : String} {v : List Nat} (h : dlMatches s topic = .ok (s', v)) :
    s'.ghost = s.ghost ∧ s'.datalog.native = s.datalog.native ∧ s'.datalog.retained = s.datalog.retained ∧
    s'.lastWills = s.lastWills := by
  obtain ⟨pf, o, rfl⟩ := dlMatches_upd h
  exact ⟨rfl, rfl, rfl, rfl⟩

/-- the publish `append_to_commitlog` stores: alias dropped, topic possibly resolved from the
    alias table; everything else as sent -/
structure SamePublish (p q : Pub) : Prop where
  qos : q.qos = p.qos
  pkid : q.pkid = p.pkid
  retain : q.retain = p.retain
  dup : q.dup = p.dup
  payload : q.payload = p.payload
  topic : p.topic ≠ [] → q.topic = p.topic

theorem appended_copies {evs : List Ghost} {idxs : List Nat} {p : Pub}
    (h : appendedEvents evs = idxs.map (fun i => (i, p))) : ∀ e ∈ appendedEvents evs, e.2 = p := by
  intro e he
  rw [h] at he
  obtain ⟨i, _, rfl⟩ := List.mem_map.mp he
  rfl

theorem AcceptedFrom.samePublish {c : Conn} {p q : Pub} (h : AcceptedFrom c p q) : SamePublish p q := by
  rcases h.2 with rfl | ⟨a, t, he, _, rfl⟩
  · exact ⟨rfl, rfl, rfl, rfl, rfl, fun _ => rfl⟩
  · exact ⟨rfl, rfl, rfl, rfl, rfl, fun hne => absurd he hne⟩

theorem deliver_wrote {s s' : RState} {topic : String} {p : Pub} (h : Rp3.deliver s topic p = .ok s') :
    ∃ (s1 : RState) (idxs : List Nat) (evs : List Ghost), dlMatches s topic = .ok (s1, idxs) ∧
      s'.ghost = s.ghost ++ evs ∧ appendedEvents evs = idxs.map (fun i => (i, p)) ∧ acceptedEvents evs = [] ∧
      s'.datalog.retained = s.datalog.retained ∧ s'.lastWills = s.lastWills ∧
      (∀ j, logAt s' j = (logAt s j).map (appendN p (idxs.count j))) := by
  unfold Rp3.deliver at h
  split at h
  · cases h
  · rename_i s1 idxs h1
    obtain ⟨⟨evs, g2, a2, c2⟩, l2, f2⟩ := appendToFilters_wrote idxs h
    have d1 := dlMatches_same h1
    refine ⟨s1, idxs, evs, h1, by rw [g2, d1.1], a2, c2, by rw [f2.retained, d1.2.2.1],
      by rw [f2.lastWills, d1.2.2.2], fun j => ?_⟩
    rw [l2 j]; unfold logAt; rw [d1.2.1]

/-- what accepting `q` on `topic` wrote after the `accepted` event: `matches` ran on the filter tables of `s` and gave
    `idxs`, each listed log gained an unflagged copy; `evs` is the history of that -/
structure Accepted (s s' : RState) (q : Pub) (topic : String) (idxs : List Nat) (evs : List Ghost) : Prop where
  matched : ∃ sM s1, dlMatches sM topic = .ok (s1, idxs) ∧ sM.datalog.filterIndexes = s.datalog.filterIndexes ∧
    sM.datalog.publishFilters = s.datalog.publishFilters
  appended : appendedEvents evs = idxs.map (fun i => (i, { q with retain := false }))
  accepted : acceptedEvents evs = []
  logs : ∀ j, logAt s' j = (logAt s j).map (appendN { q with retain := false } (idxs.count j))

theorem Accepted.exactly_matching {s s' : RState} {q : Pub} {topic : String} {idxs : List Nat} {evs : List Ghost}
    (h : Accepted s s' q topic idxs evs) (hc : alookup topic s.datalog.publishFilters = none) :
    idxs.Perm ((s.datalog.filterIndexes.filter (fun p => topicMatches topic p.1)).map (·.2)) := by
  obtain ⟨sM, s1, hm, hfi, hpf⟩ := h.matched
  exact hfi ▸ dlMatches_fresh (hpf ▸ hc) hm

/-- the common tail of `append_to_commitlog` and `handle_last_will`, entered in a state `s0` with the data log of `s` -/
theorem accept_wrote {s s0 s' : RState} {src : Option Nat} {q : Pub} {topic : String}
    (h : Rp3.deliver ((updateRetained s0 topic q).g (.accepted src q topic)) topic { q with retain := false } = .ok s')
    (hd : s0.datalog = s.datalog) :
    ∃ (idxs : List Nat) (evs : List Ghost), s'.ghost = s0.ghost ++ [.accepted src q topic] ++ evs ∧
      s'.datalog.retained = (updateRetained s topic q).datalog.retained ∧ s'.lastWills = s0.lastWills ∧
      Accepted s s' q topic idxs evs := by
  obtain ⟨s1, idxs, evs, hm, g, a, c, r, lw, l⟩ := deliver_wrote h
  obtain ⟨ur, e⟩ := updateRetained_upd s0 topic q
  have u := updateRetained_same s0 topic q
  refine ⟨idxs, evs, ?_, ?_, lw.trans u.2.2, ⟨_, s1, hm, ?_, ?_⟩, a, c, fun j => ?_⟩
  · rw [g]; simp [RState.g, u.1]
  · rw [r]; exact updateRetained_retained_congr (congrArg DataLog.retained hd)
  · rw [e, ← hd]; rfl
  · rw [e, ← hd]; rfl
  · rw [l j]
    show ((logAt (updateRetained s0 topic q) j).map _) = _
    unfold logAt; rw [u.2.1, hd]

theorem appendToCommitlog_ok {s s' : RState} {id : Nat} {p : Pub}
    (h : appendToCommitlog s id p = .ok (s', none)) :
    ∃ (q : Pub) (topic : String) (idxs : List Nat) (evs : List Ghost),
      SamePublish p q ∧ utf8? q.topic = some topic ∧
      s'.ghost = s.ghost ++ [.accepted (some id) q topic] ++ evs ∧
      s'.datalog.retained = (updateRetained s topic q).datalog.retained ∧
      Accepted s s' q topic idxs evs := by
  obtain ⟨_, s0, q, topic, _, hsub, hr, ht, hdl⟩ := Rp3.appendToCommitlog_accepted h
  obtain ⟨hs0, hacc⟩ := Rp3.resolveAlias_accepted hsub hr
  have hf : s0.datalog = s.datalog ∧ s0.ghost = s.ghost := by
    rcases hs0 with rfl | ⟨_, _, _, rfl⟩ <;> exact ⟨rfl, rfl⟩
  obtain ⟨idxs, evs, g, r, _, a⟩ := accept_wrote hdl hf.1
  exact ⟨q, topic, idxs, evs, hacc.samePublish, ht, hf.2 ▸ g, r, a⟩

end Router
