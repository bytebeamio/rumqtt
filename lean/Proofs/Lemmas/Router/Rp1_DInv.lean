/-
`DInv`: the indices and ids the router holds are valid, so that no lookup panics (`BInv`: and no notification is pending);
an update that keeps `DInv.reads` keeps it (`DInv.of_reads`, `.set`).
`Good Q r`: `r` is no panic, and `Q a` if it is `ok a` (a bad oracle choice is allowed): one `_good` lemma per function
(in `Rp1_DLeaves`, `Rp1_DPacket`, `Rp1_DConsume`, `Rp1_DEvents`; `_total`, `Total`, where the function consults no oracle,
`_dinv` for preservation alone) gives preservation and panic-freedom at once. They unfold the model function, since the
case and update lemmas of the base invert `= .ok` only. The functions on a path to a
`debug_assert!(check_tracker_duplicates)` need request conservation besides and are walked in `Rp4_NoPanic`.
-/
import Model.Router.Step
import Proofs.Lemmas.Router.Base.Basic
namespace Router

def Good {α : Type} (Q : α → Prop) : M α → Prop
  | .ok a => Q a
  | .error (.panic _) => False
  | .error (.badChoice _) => True

theorem Good.error_of {α β : Type} {P : α → Prop} {Q : β → Prop} {m : M α} {e : Fail} (he : m = .error e)
    (hm : Good P m) : Good Q (.error e : M β) := by
  subst he; cases e <;> exact hm

theorem Good.ok_of {α : Type} {P : α → Prop} {m : M α} {a : α} (he : m = .ok a) (hm : Good P m) : P a := by
  subst he; exact hm

theorem Good.with_ok {α β : Type} {P : α → Prop} {Q : β → Prop} {m : M α} {a : α} {k : M β} (he : m = .ok a)
    (hm : Good P m) (c : P a → Good Q k) : Good Q k := c (Good.ok_of he hm)

theorem Good.mono {α : Type} {P Q : α → Prop} {m : M α} (hm : Good P m) (h : ∀ a, P a → Q a) : Good Q m := by
  cases m with
  | ok a => exact h a hm
  | error e => cases e <;> exact hm

theorem Good.and_ok {α : Type} {P Q : α → Prop} {m : M α} (hm : Good P m) (hq : ∀ a, m = .ok a → Q a) :
    Good (fun a => P a ∧ Q a) m := by
  cases m with
  | ok a => exact ⟨hm, hq a rfl⟩
  | error e => cases e <;> exact hm

theorem Good.badChoice {α : Type} {Q : α → Prop} (msg : String) : Good Q (.error (.badChoice msg) : M α) := trivial

theorem Good.not_panic {α : Type} {Q : α → Prop} {m : M α} (hm : Good Q m) (msg : String) : m ≠ .error (.panic msg) := by
  intro h; subst h; exact hm

/-- the call returns, with `Q`: for the path of `handle_disconnection`, which consults no oracle and of which C03 says
    that it returns -/
def Total {α : Type} (Q : α → Prop) (m : M α) : Prop := ∃ a, m = .ok a ∧ Q a

theorem Total.good {α : Type} {Q : α → Prop} {m : M α} (h : Total Q m) : Good Q m := by
  obtain ⟨a, rfl, q⟩ := h; exact q

theorem Total.mono {α : Type} {P Q : α → Prop} {m : M α} (hm : Total P m) (h : ∀ a, P a → Q a) : Total Q m :=
  let ⟨a, e, p⟩ := hm; ⟨a, e, h a p⟩

def N (s : RState) : Nat := s.datalog.native.length
def ReqsOK (n : Nat) (rs : List DataRequest) : Prop := ∀ r ∈ rs, r.filterIdx < n
def Live (s : RState) (id : Nat) : Prop := (getConn s id).isSome = true

theorem ReqsOK.mono {n m : Nat} {rs : List DataRequest} (h : ReqsOK n rs) (hnm : n ≤ m) : ReqsOK m rs :=
  fun r hr => Nat.lt_of_lt_of_le (h r hr) hnm
theorem ReqsOK.append {n : Nat} {a b : List DataRequest} (ha : ReqsOK n a) (hb : ReqsOK n b) : ReqsOK n (a ++ b) :=
  fun r hr => by
    rcases List.mem_append.mp hr with h | h
    · exact ha r h
    · exact hb r h
theorem ReqsOK.nil (n : Nat) : ReqsOK n [] := fun _ h => by simp at h
theorem ReqsOK.cons {n : Nat} {r : DataRequest} {rs : List DataRequest} (hr : r.filterIdx < n) (h : ReqsOK n rs) :
    ReqsOK n (r :: rs) := fun x hx => by
  rcases List.mem_cons.mp hx with rfl | h'
  · exact hr
  · exact h x h'
theorem ReqsOK.of_cons {n : Nat} {r : DataRequest} {rs : List DataRequest} (h : ReqsOK n (r :: rs)) :
    r.filterIdx < n ∧ ReqsOK n rs := ⟨h r (by simp), fun x hx => h x (by simp [hx])⟩
theorem ReqsOK.filter {n : Nat} {rs : List DataRequest} (h : ReqsOK n rs) (p : DataRequest → Bool) :
    ReqsOK n (rs.filter p) := fun r hr => h r (List.mem_filter.mp hr).1

/-- Every filter index the router holds is a valid index of `datalog.native` (`native.get(idx).unwrap()`, `native[idx]`),
    the ids in waiter lists and notifications are live (`scheduler.track(id)` / `reschedule(id)` find their tracker),
    saved trackers are `Paused(Busy)` (`try_ready(Init)`'s debug assertion), shared groups are not empty (`% len`,
    `gen_range(0..len)`). -/
structure DInv (s : RState) : Prop where
  fidx : ∀ p ∈ s.datalog.filterIndexes, p.2 < N s
  pf : ∀ p ∈ s.datalog.publishFilters, ∀ i ∈ p.2, i < N s
  trk : ∀ id c, getConn s id = some c → ReqsOK (N s) c.tracker.requests
  wt : ∀ fd ∈ s.datalog.native, ∀ w ∈ fd.waiters, w.2.filterIdx < N s ∧ Live s w.1
  ntf : ∀ n ∈ s.notifications, n.2.filterIdx < N s ∧ Live s n.1
  grv : ∀ p ∈ s.graveyard, ∀ ss, p.2 = some ss →
    ReqsOK (N s) ss.tracker.requests ∧ ss.tracker.status = .paused .busy
  grp : ∀ p ∈ s.shared, p.2.clients ≠ []

/-- `DInv` between two steps: every notification has been handed back to its tracker -/
def BInv (s : RState) : Prop := DInv s ∧ s.notifications = []

theorem DInv.init (cfg : Config) : DInv (init cfg) where
  fidx := fun p h => by simp [Router.init] at h
  pf := fun p h => by simp [Router.init] at h
  trk := fun id c h => by simp [getConn_init] at h
  wt := fun fd h => by simp [Router.init] at h
  ntf := fun n h => by simp [Router.init] at h
  grv := fun p h => by simp [Router.init] at h
  grp := fun p h => by simp [Router.init] at h

def DInv.reads (s : RState) :=
  (s.conns, s.datalog.native, s.datalog.filterIndexes, s.datalog.publishFilters, s.notifications, s.graveyard, s.shared)

theorem DInv.of_reads {s s' : RState} (h : DInv s) (e : DInv.reads s' = DInv.reads s) : DInv s' := by
  simp only [DInv.reads, Prod.mk.injEq] at e
  obtain ⟨hc, hn, hf, hp, hnt, hg, hs⟩ := e
  have hN : N s' = N s := by unfold N; rw [hn]
  have hl : ∀ j, getConn s' j = getConn s j := getConn_congr hc
  have hlive : ∀ j, Live s' j ↔ Live s j := fun j => by unfold Live; rw [hl]
  refine ⟨?_, ?_, ?_, ?_, ?_, ?_, ?_⟩
  · rw [hf, hN]; exact h.fidx
  · rw [hp, hN]; exact h.pf
  · intro id c hcc; rw [hl] at hcc; rw [hN]; exact h.trk id c hcc
  · rw [hn, hN]; intro fd hfd w hw; rw [hlive]; exact h.wt fd hfd w hw
  · rw [hnt, hN]; intro n hn'; rw [hlive]; exact h.ntf n hn'
  · rw [hg, hN]; exact h.grv
  · rw [hs]; exact h.grp

theorem DInv.set {s s' : RState} {id : Nat} {c c' : Conn} (h : DInv s) (hc : getConn s id = some c)
    (e : DInv.reads s' = DInv.reads (setConn s id c')) (hr : ReqsOK (N s) c'.tracker.requests) : DInv s' := by
  simp only [DInv.reads, Prod.mk.injEq] at e
  obtain ⟨hconns, hn, hf, hp, hnt, hg, hs⟩ := e
  have hN : N s' = N s := by unfold N; rw [hn]; rfl
  have hl : ∀ j, getConn s' j = if j = id then some c' else getConn s j := fun j => by
    unfold getConn; rw [hconns]; exact Slab.get?_set_live hc j c'
  have hlive : ∀ j, Live s j → Live s' j := fun j hj => by
    unfold Live at hj ⊢; rw [hl]; split
    · rfl
    · exact hj
  refine ⟨?_, ?_, ?_, ?_, ?_, ?_, ?_⟩
  · rw [hf, hN]; exact h.fidx
  · rw [hp, hN]; exact h.pf
  · intro j d hd
    rw [hl] at hd; rw [hN]
    split at hd
    · simp only [Option.some.injEq] at hd; subst hd; exact hr
    · exact h.trk j d hd
  · rw [hn, hN]; intro fd hfd w hw; exact ⟨(h.wt fd hfd w hw).1, hlive _ (h.wt fd hfd w hw).2⟩
  · rw [hnt, hN]; intro n hn'; exact ⟨(h.ntf n hn').1, hlive _ (h.ntf n hn').2⟩
  · rw [hg, hN]; exact h.grv
  · rw [hs]; exact h.grp

theorem DInv.with_shared {s : RState} (h : DInv s) (sh : List (String × SharedGroup))
    (hs : ∀ p ∈ sh, p.2.clients ≠ []) : DInv { s with shared := sh } :=
  ⟨h.fidx, h.pf, h.trk, h.wt, h.ntf, h.grv, hs⟩

theorem DInv.with_notifications {s : RState} (h : DInv s) (ns : List (Nat × DataRequest))
    (hn : ∀ n ∈ ns, n.2.filterIdx < N s ∧ Live s n.1) : DInv { s with notifications := ns } :=
  ⟨h.fidx, h.pf, h.trk, h.wt, hn, h.grv, h.grp⟩

end Router
