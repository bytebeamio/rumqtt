/-
`clog_readv` / `clog_readv_add` of the bridge with the continuation of a read written `posNext`; the offsets a read
returns (`readOffsets`).
-/
import Proofs.Lemmas.CommitLogBridge
import Proofs.Lemmas.Router.Rp3_Vocab
namespace Router
namespace Rp3
open CommitLog

theorem posNext_posC (p : CLog.Pos) : (posNext p).1 = (posC p).end_ ∧ (posNext p).2 = (posC p).isDone := by
  cases p <;> exact ⟨rfl, rfl⟩

theorem clog_readv_spec (l : CLog.Log Pub) (hist : List Pub) (h : Rep (logC l) hist) (c : Cursor) (n : Nat)
    (hi : Issued (logC l) c) (hU : hist.length + n < U64) :
    (l.readv c n).1 = expectedRead (logC l) c n ∧
    (posNext (l.readv c n).2).1.2 = cursorAbs (logC l) c + (expectedRead (logC l) c n).length ∧
    Issued (logC l) (posNext (l.readv c n).2).1 ∧ (logC l).head ≤ (posNext (l.readv c n).2).1.1 ∧
    ((posNext (l.readv c n).2).2 = true ↔
      cursorAbs (logC l) c + (expectedRead (logC l) c n).length = hist.length) := by
  obtain ⟨p1, p2⟩ := posNext_posC (l.readv c n).2
  rw [p1, p2]
  exact clog_readv l hist h c n hi hU

theorem clog_readv_entries (l : CLog.Log Pub) (hist : List Pub) (h : Rep (logC l) hist) (c : Cursor) (n : Nat)
    (hi : Issued (logC l) c) (hU : hist.length + n < U64) :
    (l.readv c n).1.map (·.1) = (hist.drop (cursorAbs (logC l) c)).take n ∧
    (l.readv c n).1.map (·.2.2) = List.range' (cursorAbs (logC l) c) (l.readv c n).1.length ∧
    cursorAbs (logC l) c ≤ hist.length := by
  obtain ⟨e1, _⟩ := clog_readv_spec l hist h c n hi hU
  have hb := hi.abs_bounds h.wf
  have hna := h.nextAbs_eq
  rw [e1]
  exact ⟨expectedRead_values _ hist h c n hi, expectedRead_offsets _ h.wf c n hi, by omega⟩

theorem clog_readv_empty_done (l : CLog.Log Pub) (hist : List Pub) (h : Rep (logC l) hist) (c : Cursor) (n : Nat)
    (hi : Issued (logC l) c) (hU : hist.length + n < U64) (hn : 0 < n) (he : (l.readv c n).1 = []) :
    (posNext (l.readv c n).2).2 = true := by
  obtain ⟨e1, _, _, _, hd⟩ := clog_readv_spec l hist h c n hi hU
  rw [hd]
  have hlen := expectedRead_length (logC l) h.wf c n hi
  have hb := hi.abs_bounds h.wf
  have hna := h.nextAbs_eq
  rw [← e1, he] at hlen
  rw [← e1, he]
  simp only [List.length_nil] at hlen ⊢
  omega

theorem clog_readv_issued (l : CLog.Log Pub) (hist : List Pub) (h : Rep (logC l) hist) (c : Cursor) (n : Nat)
    (hi : Issued (logC l) c) (hU : hist.length + n < U64) :
    (∀ e ∈ (l.readv c n).1, Issued (logC l) e.2) ∧ Issued (logC l) (posNext (l.readv c n).2).1 := by
  obtain ⟨e1, _, e3, _, _⟩ := clog_readv_spec l hist h c n hi hU
  refine ⟨fun e he => ?_, e3⟩
  rw [e1] at he
  exact CommitLog.issued_of_holds h.wf (CommitLog.expectedRead_tags (logC l) hist h c n e he).1

theorem clog_readv_compose (l : CLog.Log Pub) (hist : List Pub) (h : Rep (logC l) hist) (c : Cursor) (n m : Nat)
    (hi : Issued (logC l) c) (hnm : hist.length + (n + m) < U64) :
    (l.readv c n).1 ++ (l.readv (posNext (l.readv c n).2).1 m).1 = (l.readv c (n + m)).1 := by
  rw [(posNext_posC _).1]
  exact clog_readv_add l hist h c n m hi hnm

def readOffsets (fd : FilterData) (cur : Cursor) (n : Nat) : List Nat := (fd.log.readv cur n).1.map (·.2.2)

theorem readOffsets_spec (fd : FilterData) (hist : List Pub) (hrep : Rep (logC fd.log) hist) (cur : Cursor) (n : Nat)
    (hi : Issued (logC fd.log) cur) (hU : hist.length + n < U64) :
    readOffsets fd cur n = List.range' (cursorAbs (logC fd.log) cur) (readOffsets fd cur n).length ∧
    Issued (logC fd.log) (posNext (fd.log.readv cur n).2).1 ∧
    (logC fd.log).head ≤ (posNext (fd.log.readv cur n).2).1.1 ∧
    (posNext (fd.log.readv cur n).2).1.2 = cursorAbs (logC fd.log) cur + (readOffsets fd cur n).length := by
  obtain ⟨e1, e2, e3, e4, _⟩ := clog_readv_spec fd.log hist hrep cur n hi hU
  obtain ⟨_, v2, _⟩ := clog_readv_entries fd.log hist hrep cur n hi hU
  refine ⟨by unfold readOffsets; rw [List.length_map]; exact v2, e3, e4, ?_⟩
  rw [e2, ← e1]; unfold readOffsets; rw [List.length_map]

theorem consecutive_reads_disjoint (fd : FilterData) (hist : List Pub) (hrep : Rep (logC fd.log) hist)
    (cur : Cursor) (n m : Nat) (hi : Issued (logC fd.log) cur) (hn : hist.length + n < U64) (hm : hist.length + m < U64) :
    ∀ o1 ∈ readOffsets fd cur n, ∀ o2 ∈ readOffsets fd (posNext (fd.log.readv cur n).2).1 m, o1 < o2 := by
  obtain ⟨a1, a2, a3, a4⟩ := readOffsets_spec fd hist hrep cur n hi hn
  obtain ⟨b1, _⟩ := readOffsets_spec fd hist hrep _ m a2 hm
  intro o1 h1 o2 h2
  rw [a1] at h1
  rw [b1, cursorAbs_of_le a3, a4] at h2
  simp only [List.mem_range'_1] at h1 h2
  omega

end Rp3
end Router
