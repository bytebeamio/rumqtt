/-
For a relation `R` that says "no request appeared or vanished" the call tree of a step is walked once, from closure
facts under the primitive updates. `ConnClosed`: fields the request invariants do not read, and a connection replaced
by one with the same requests; `ReqClosed` adds the two ways parked requests return to the trackers, `PubClosed` an
append to a filter log, `SweepClosed` what a sweep does. Unlike in Base/Walk, a waiter list is never emptied and a
request never tracked on its own: each of these loses or invents a request.
-/
import Proofs.Lemmas.Router.Base.Cases
import Proofs.Lemmas.Router.Base.Sweep
import Proofs.Lemmas.Router.Base.Packet
namespace Router

/-- what a relation closed in the sense below may read of the state, the connections aside: the fields the request
    invariants read, and `shared` (the group invariants) -/
def reqKey (s : RState) :=
  (s.datalog.native, s.datalog.filterIndexes, s.notifications, s.graveyard, s.shared, s.config)

theorem reqKey_native {s s' : RState} (h : reqKey s' = reqKey s) : s'.datalog.native = s.datalog.native :=
  congrArg Prod.fst h

structure ConnClosed (R : RState → RState → Prop) : Prop where
  refl : ∀ s, R s s
  trans : ∀ {a b c}, R a b → R b c → R a c
  of_rest : ∀ {s s' : RState}, s'.conns = s.conns → reqKey s' = reqKey s → R s s'
  of_set : ∀ {s s' : RState} {id : Nat} {c c' : Conn}, getConn s id = some c → s'.conns = s.conns.set id c' →
    c'.tracker.requests = c.tracker.requests → c'.subscriptions = c.subscriptions →
    (∀ e ∈ c'.out.inflight, e ∈ c.out.inflight) → reqKey s' = reqKey s → R s s'

structure ReqClosed (R : RState → RState → Prop) : Prop extends ConnClosed R where
  wake : ∀ {s s' : RState} {i : Nat} {fd : FilterData}, s.datalog.native[i]? = some fd →
    drainNotifications (clearWaiters s i fd) fd.waiters = .ok s' → R s s'
  drain : ∀ {s s' : RState}, drainNotifications { s with notifications := [] } s.notifications = .ok s' → R s s'

structure PubClosed (R : RState → RState → Prop) : Prop extends ReqClosed R where
  append : ∀ {s s' : RState} {idx : Nat} {p : Pub}, appendToFilter s idx p = .ok s' → R s s'

structure SweepClosed (R : RState → RState → Prop) : Prop extends ConnClosed R where
  of_out : ∀ {s s' : RState} {id : Nat} {c : Conn} (o : Outgoing) (ba : Option BrokerAliases), getConn s id = some c →
    s'.conns = s.conns.set id { c with out := o, brokerAliases := ba } → reqKey s' = reqKey s → R s s'
  of_shared : ∀ (s : RState) (sh : List (String × SharedGroup)), R s { s with shared := sh }

theorem ReqClosed.and {R Q : RState → RState → Prop} (F : ReqClosed R) (G : ReqClosed Q) :
    ReqClosed (fun s s' => R s s' ∧ Q s s') where
  refl s := ⟨F.refl s, G.refl s⟩
  trans h1 h2 := ⟨F.trans h1.1 h2.1, G.trans h1.2 h2.2⟩
  of_rest hc hk := ⟨F.of_rest hc hk, G.of_rest hc hk⟩
  of_set hc hconns hr hsub hw hk := ⟨F.of_set hc hconns hr hsub hw hk, G.of_set hc hconns hr hsub hw hk⟩
  wake hfd h := ⟨F.wake hfd h, G.wake hfd h⟩
  drain h := ⟨F.drain h, G.drain h⟩

theorem PubClosed.and {R Q : RState → RState → Prop} (F : PubClosed R) (G : PubClosed Q) :
    PubClosed (fun s s' => R s s' ∧ Q s s') where
  toReqClosed := F.toReqClosed.and G.toReqClosed
  append h := ⟨F.append h, G.append h⟩

theorem SweepClosed.and {R Q : RState → RState → Prop} (F : SweepClosed R) (G : SweepClosed Q) :
    SweepClosed (fun s s' => R s s' ∧ Q s s') where
  refl s := ⟨F.refl s, G.refl s⟩
  trans h1 h2 := ⟨F.trans h1.1 h2.1, G.trans h1.2 h2.2⟩
  of_rest hc hk := ⟨F.of_rest hc hk, G.of_rest hc hk⟩
  of_set hc hconns hr hsub hw hk := ⟨F.of_set hc hconns hr hsub hw hk, G.of_set hc hconns hr hsub hw hk⟩
  of_out o ba hc hconns hk := ⟨F.of_out o ba hc hconns hk, G.of_out o ba hc hconns hk⟩
  of_shared s sh := ⟨F.of_shared s sh, G.of_shared s sh⟩

theorem ReqClosed.mono {R Q : RState → RState → Prop} (F : ReqClosed R) (refl : ∀ s, Q s s)
    (trans : ∀ {a b c}, Q a b → Q b c → Q a c) (le : ∀ {s s'}, R s s' → Q s s') : ReqClosed Q where
  refl := refl
  trans := trans
  of_rest hc hk := le (F.of_rest hc hk)
  of_set hc hconns hr hsub hw hk := le (F.of_set hc hconns hr hsub hw hk)
  wake hfd h := le (F.wake hfd h)
  drain h := le (F.drain h)

theorem PubClosed.mono {R Q : RState → RState → Prop} (F : PubClosed R) (refl : ∀ s, Q s s)
    (trans : ∀ {a b c}, Q a b → Q b c → Q a c) (le : ∀ {s s'}, R s s' → Q s s') : PubClosed Q where
  toReqClosed := F.toReqClosed.mono refl trans le
  append h := le (F.append h)

theorem SweepClosed.mono {R Q : RState → RState → Prop} (F : SweepClosed R) (refl : ∀ s, Q s s)
    (trans : ∀ {a b c}, Q a b → Q b c → Q a c) (le : ∀ {s s'}, R s s' → Q s s') : SweepClosed Q where
  refl := refl
  trans := trans
  of_rest hc hk := le (F.of_rest hc hk)
  of_set hc hconns hr hsub hw hk := le (F.of_set hc hconns hr hsub hw hk)
  of_out o ba hc hconns hk := le (F.of_out o ba hc hconns hk)
  of_shared s sh := le (F.of_shared s sh)

variable {R : RState → RState → Prop}

theorem ConnClosed.reschedule (F : ConnClosed R) {s s' : RState} {id : Nat} {r : SchedReason}
    (h : reschedule s id r = .ok s') : R s s' := by
  obtain ⟨c, t, woke, hc, ht, rfl⟩ := reschedule_upd h
  split <;> exact F.of_set (c' := { c with tracker := t }) hc rfl (tryReady_some ht) rfl (fun _ h => h) rfl

theorem ConnClosed.commitAck (F : ConnClosed R) {s s' : RState} {id : Nat} {a : Ack} (h : commitAck s id a = .ok s') :
    R s s' := by
  obtain ⟨c, hc, rfl⟩ := commitAck_upd h
  exact F.of_set (c' := { c with acks := _ }) hc rfl rfl rfl (fun _ h => h) rfl

theorem ConnClosed.pause (F : ConnClosed R) {s s' : RState} {id : Nat} {r : PauseReason} (h : pause s id r = .ok s') :
    R s s' := by
  obtain ⟨_, c, hc, rfl⟩ := pause_upd h
  exact F.of_set hc (c' := { c with tracker := { c.tracker with status := .paused r } }) rfl rfl rfl
    (fun _ h => h) rfl

theorem ConnClosed.ackDeviceData (F : ConnClosed R) (s : RState) (id : Nat) : R s (ackDeviceData s id) := by
  rcases ackDeviceData_upd s id with e | ⟨c, ls, hc, e⟩ <;> rw [e]
  · exact F.refl s
  · exact F.of_set (c' := { c with acks := _ }) hc rfl rfl rfl (fun _ h => h) rfl

theorem ConnClosed.updateRetained (F : ConnClosed R) (s : RState) (topic : String) (p : Pub) :
    R s (updateRetained s topic p) := by
  obtain ⟨r, e⟩ := updateRetained_upd s topic p
  rw [e]; exact F.of_rest rfl rfl

theorem ConnClosed.dlMatches (F : ConnClosed R) {s s' : RState} {topic : String} {v : List Nat}
    (h : dlMatches s topic = .ok (s', v)) : R s s' := by
  obtain ⟨pf, o, rfl⟩ := dlMatches_upd h
  exact F.of_rest rfl rfl

theorem ConnClosed.noteTurn (F : ConnClosed R) (s0 s1 : RState) (req : DataRequest) : R s1 (noteTurn s0 s1 req) := by
  obtain ⟨tm, e⟩ := noteTurn_upd s0 s1 req
  rw [e]; exact F.of_rest rfl rfl

theorem ReqClosed.wakeParkedSorted (F : ReqClosed R) : ∀ (logs : List Nat) {s s' : RState},
    wakeParkedSorted s logs = .ok s' → R s s'
  | [], s, s', h => by cases h; exact F.refl _
  | i :: rest, s, s', h => by
    rw [wakeParkedSorted_cons] at h
    split at h
    · exact F.wakeParkedSorted rest h
    · rename_i fd hfd
      split at h
      · cases h
      · rename_i s2 h2
        exact F.trans (F.wake hfd h2) (F.wakeParkedSorted rest h)

theorem ReqClosed.wakeParked (F : ReqClosed R) {s s' : RState} {logs : List Nat} (h : wakeParked s logs = .ok s') :
    R s s' := F.wakeParkedSorted _ h

theorem ReqClosed.wakeTurnMoved (F : ReqClosed R) {s s' : RState} (h : wakeTurnMoved s = .ok s') : R s s' :=
  F.trans (F.of_rest (s' := { s with turnMoved := [] }) rfl rfl) (F.wakeParked h)

theorem PubClosed.appendToCommitlog (F : PubClosed R) {s s' : RState} {id : Nat} {p : Pub} {e : Option AppendErr}
    (h : appendToCommitlog s id p = .ok (s', e)) : R s s' :=
  appendToCommitlog_rel R F.refl (fun _ _ _ => F.trans)
    (fun c _ _ hc _ => F.of_set (c' := { c with topicAliases := _ }) hc rfl rfl rfl (fun _ h => h) rfl)
    (fun _ s topic p _ _ => F.trans (F.updateRetained s topic p) (F.of_rest rfl rfl))
    (fun _ _ _ _ => F.dlMatches) (fun _ _ _ _ _ _ _ => F.append) h

theorem PubClosed.handlePacket (F : PubClosed R) {s s' : RState} {id : Nat} {cid : String} {pkt : Packet} {fl fl' : Flags}
    (hns : ∀ a b c, pkt ≠ .subscribe a b c) (hnu : ∀ a b, pkt ≠ .unsubscribe a b)
    (h : handlePacket s id cid pkt fl = .ok (s', fl')) : R s s' :=
  handlePacket_rel R F.refl (fun _ _ _ => F.trans) (fun _ _ _ => F.commitAck)
    (fun _ _ _ _ => F.appendToCommitlog) (fun _ _ => F.reschedule)
    (fun _ c o a _ hc ⟨_, hsub, _⟩ => F.of_set (c' := { c with out := o, acks := a }) hc rfl rfl rfl
      (fun _ he => List.mem_of_mem_drop (hsub ▸ he)) rfl)
    (fun _ => F.of_rest rfl rfl) hns hnu h

theorem PubClosed.handlePacket_cases (F : PubClosed R) {s s' : RState} {id : Nat} {cid : String} {pkt : Packet}
    {fl fl' : Flags} (h : Router.handlePacket s id cid pkt fl = .ok (s', fl')) : SubsOr s s' id pkt fl (R s s') :=
  (handlePacket_subs_cases h).imp fun ⟨a, b⟩ => F.handlePacket a b h

theorem PubClosed.handleLastWill (F : PubClosed R) {s s' : RState} {cid : String} (h : handleLastWill s cid = .ok s') :
    R s s' :=
  handleLastWill_rel R F.refl (fun _ _ _ => F.trans) (fun _ _ => F.of_rest rfl rfl)
    (fun _ s topic _ => F.trans (F.updateRetained s topic _) (F.of_rest rfl rfl))
    (fun _ _ _ _ => F.dlMatches) (fun _ _ _ _ _ => F.append) (fun _ _ => F.drain) h

/-- cut after the batch and before the final disconnection -/
theorem handleDevicePayload_cases {s s' : RState} {id : Nat} (h : handleDevicePayload s id = .ok s') :
    (getConn s id = none ∧ s' = s) ∨
    ∃ c s1 fl s4, getConn s id = some c ∧
      handlePackets (setLink s c.link { getLink s c.link with ibuf := [] }) id c.clientId (getLink s c.link).ibuf {} =
        .ok (s1, fl) ∧
      (∀ R, ReqClosed R → R s1 s4) ∧ ((fl.newData = false → s1.notifications = []) → s4.notifications = []) ∧
      (if fl.disconnect then handleDisconnection s4 id fl.reason = .ok s' else s' = s4) := by
  cases hc : getConn s id with
  | none => rw [handleDevicePayload_none hc] at h; cases h; exact .inl ⟨rfl, rfl⟩
  | some c =>
    obtain ⟨s1, fl, s2, s3, s4, h1, h2, h3, h4, h5⟩ := handleDevicePayload_phases hc h
    refine .inr ⟨c, s1, fl, s4, rfl, h1, fun R F => ?_, fun hn => ?_, ?_⟩
    · have m2 : R s1 s2 := by
        split at h2
        · exact F.reschedule h2
        · cases h2; exact F.refl _
      have m3 : R s2 s3 := by
        split at h3
        · exact F.drain h3
        · cases h3; exact F.refl _
      exact F.trans (F.trans m2 m3) (F.wakeTurnMoved h4)
    · rw [(wakeTurnMoved_wakeFrame h4).ntf]
      split at h3
      · exact (drainNotifications_wakeFrame _ h3).ntf
      · rename_i hnd
        cases h3
        split at h2
        · rw [(reschedule_wakeFrame h2).ntf]; exact hn (by simpa using hnd)
        · cases h2; exact hn (by simpa using hnd)
    · split at h5
      · rename_i hd; rw [if_pos hd]; exact h5
      · rename_i hd; rw [if_neg hd]; cases h5; rfl

theorem ConnClosed.handleShadow (F : ConnClosed R) {s s' : RState} {id : Nat} {f : String} (h : handleShadow s id f = .ok s') :
    R s s' := by
  obtain ⟨ls, e⟩ := handleShadow_upd s id f
  obtain rfl := Except.ok.inj (e.symm.trans h)
  exact F.of_rest rfl rfl

theorem PubClosed.step (F : PubClosed R) {s s' : RState} {op : Op} {out : Out}
    (hop : (∀ spec, op ≠ .connect spec) ∧ (∀ id, op ≠ .event id .deviceData) ∧ (∀ id, op ≠ .event id .disconnect) ∧
      op ≠ .consume)
    (h : step s op = .ok (s', out)) : R s s' := by
  cases op_cases h with
  | connect spec _ => exact absurd rfl (hop.1 spec)
  | consume _ _ => exact absurd rfl hop.2.2.2
  | push l p e => exact e.elim (· ▸ F.refl s) (· ▸ F.of_rest rfl rfl)
  | drain l e => exact e.elim (· ▸ F.refl s) (· ▸ F.of_rest rfl rfl)
  | event id ev he =>
    cases event_cases he with
    | payload _ => exact absurd rfl (hop.2.1 id)
    | disconnect _ => exact absurd rfl (hop.2.2.1 id)
    | ready h1 => exact h1.elim F.reschedule (· ▸ F.refl s)
    | will c h1 => exact F.handleLastWill h1
    | shadow f h1 => exact F.handleShadow h1
    | meters e => exact e ▸ F.refl s
    | alerts e => exact e ▸ F.refl s

theorem SweepClosed.forwardDeviceData (F : SweepClosed R) {s s' : RState} {id : Nat} {req req' : DataRequest}
    {st : ConsumeStatus} (h : forwardDeviceData s id req = .ok (s', req', st)) : R s s' := by
  obtain ⟨c, hc, ⟨o, rfl⟩ | ⟨r, pubs, ls, sh, o, rfl⟩⟩ := forwardDeviceData_upd h
  · exact F.of_rest rfl rfl
  · exact F.trans (F.trans (F.of_out (s' := setConn s id (fdConn c r pubs)) _ _ hc rfl rfl) (F.of_shared _ sh))
      (F.of_rest rfl rfl)

end Router
