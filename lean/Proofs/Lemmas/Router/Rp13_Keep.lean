/-
`EConn`: every connection stays, with its client id and exactly its subscriptions; `own_step` needs it for the `consume`
that serves another connection. `EStep` adds that the group table is kept.
-/
import Proofs.Lemmas.Router.Base.Walk
namespace Router

def EConn (s s' : RState) : Prop :=
  ∀ id c, getConn s id = some c → ∃ c', getConn s' id = some c' ∧ c'.clientId = c.clientId ∧
    c'.subscriptions = c.subscriptions

theorem EConn.pre : ConnPre fun c c' => c'.clientId = c.clientId ∧ c'.subscriptions = c.subscriptions where
  refl := fun _ => ⟨rfl, rfl⟩
  trans := fun h1 h2 => ⟨h2.1.trans h1.1, h2.2.trans h1.2⟩
  same := fun e1 e2 _ _ => ⟨e1, e2⟩
  push := fun _ _ _ => ⟨rfl, rfl⟩

theorem EConn.frame : StepFrame EConn := ConnsKeep.frame EConn.pre
theorem EConn.sweep : TurnFrame EConn := ConnsKeep.sweep EConn.pre

structure EStep (s s' : RState) : Prop where
  conn : EConn s s'
  shared : s'.shared = s.shared

theorem EStep.frame : StepFrame EStep := EConn.frame.with_shared EStep.mk EStep.conn EStep.shared

theorem nextNativeOffset_estep (s : RState) (filter : String) : EStep s (nextNativeOffset s filter).1 :=
  EStep.frame.nextNativeOffset s filter

theorem handlePacket_estep {s s' : RState} {id : Nat} {cid : String} {pkt : Packet} {fl fl' : Flags}
    (hns : ∀ a b c, pkt ≠ .subscribe a b c) (hnu : ∀ a b, pkt ≠ .unsubscribe a b)
    (h : handlePacket s id cid pkt fl = .ok (s', fl')) : EStep s s' :=
  EStep.frame.handlePacket hns hnu h

theorem handleLastWill_estep {s s' : RState} {cid : String} (h : handleLastWill s cid = .ok s') : EStep s s' :=
  EStep.frame.handleLastWill h

theorem handleShadow_estep {s s' : RState} {id : Nat} {f : String} (h : handleShadow s id f = .ok s') : EStep s s' :=
  EStep.frame.handleShadow h

end Router
