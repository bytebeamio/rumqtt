/-
`append_to_commitlog` accepting a publish is `deliver` of the publish with its alias resolved and its retain flag cleared.
-/
import Proofs.Lemmas.Router.Rp3_DLWalk
namespace Router
namespace Rp3

theorem resolveAlias_spec {s s1 : RState} {id : Nat} {c : Conn} {a : Option Nat} {p p1 : Pub}
    (h : resolveAlias s id c a p = .ok (s1, p1)) :
    s1.datalog = s.datalog ∧ s1.notifications = s.notifications ∧ s1.config = s.config ∧
    p1.payload = p.payload ∧ p1.qos = p.qos ∧ p1.retain = p.retain ∧ p1.alias = p.alias ∧
    (a = none ∨ p.topic.isEmpty = false → p1.topic = p.topic) := by
  obtain ⟨hs, hp⟩ := resolveAlias_cases h
  have e : s1.datalog = s.datalog ∧ s1.notifications = s.notifications ∧ s1.config = s.config := by
    rcases hs with rfl | ⟨ta, rfl⟩ <;> exact ⟨rfl, rfl, rfl⟩
  rcases hp with rfl | ⟨ha, he, t, rfl⟩
  · exact ⟨e.1, e.2.1, e.2.2, rfl, rfl, rfl, rfl, fun _ => rfl⟩
  · exact ⟨e.1, e.2.1, e.2.2, rfl, rfl, rfl, rfl, fun hh => by rcases hh with hh | hh; exact absurd hh ha; rw [he] at hh; cases hh⟩

/-- the state `deliver` starts from in `appendToCommitlog_accepted`: after the alias is resolved and `update_retained` -/
theorem accepted_start {s s1 : RState} {id : Nat} {c : Conn} {a : Option Nat} {p p1 : Pub} (hi : DLInv s)
    (hr : resolveAlias s id c a p = .ok (s1, p1)) (topic : String) (src : Option Nat) :
    DLInv ((updateRetained s1 topic p1).g (.accepted src p1 topic)) ∧
    ((updateRetained s1 topic p1).g (.accepted src p1 topic)).datalog.native = s.datalog.native ∧
    ((updateRetained s1 topic p1).g (.accepted src p1 topic)).notifications = s.notifications := by
  obtain ⟨e1, e2, _⟩ := resolveAlias_spec hr
  obtain ⟨r, er⟩ := updateRetained_upd s1 topic p1
  refine ⟨dlinvFrame.accepted s1 topic p1 _ (hi.of_dkey (resolveAlias_dkey hr)), ?_, ?_⟩
  · rw [er]; exact (congrArg DataLog.native e1 :)
  · rw [er]; exact e2

theorem appendToCommitlog_accept_plain {s s' : RState} {id : Nat} {p : Pub} {t : String} (hi : DLInv s)
    (halias : p.alias = none) (ht : utf8? p.topic = some t) (h : appendToCommitlog s id p = .ok (s', none)) :
    ∃ s0, DLInv s0 ∧ s0.datalog.native = s.datalog.native ∧ s0.notifications = s.notifications ∧
      deliver s0 t { p with alias := none, retain := false } = .ok s' := by
  obtain ⟨c, s1, p1, topic, _, _, hres, htop, hdel⟩ := appendToCommitlog_accepted h
  obtain ⟨hi0, hn, hno⟩ := accepted_start hi hres topic (some id)
  rw [halias] at hres
  cases hres
  rw [ht] at htop; cases htop
  exact ⟨_, hi0, hn, hno, hdel⟩

theorem appendToFilter_wakes {s s' : RState} {idx : Nat} {p : Pub} (h : appendToFilter s idx p = .ok s') :
    ∃ fd, s.datalog.native[idx]? = some fd ∧ s'.notifications = s.notifications ++ fd.waiters ∧
      s'.datalog.native[idx]? = some (FilterData.appended fd p) := by
  obtain ⟨fd, _, hfd, _, rfl⟩ := Router.appendToFilter_upd h
  exact ⟨fd, hfd, rfl, by simp [(List.getElem?_eq_some_iff.mp hfd).1, FilterData.appended]⟩

end Rp3
end Router
