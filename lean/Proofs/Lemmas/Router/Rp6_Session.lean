/-
`QI` through `handle_disconnection`, `handle_new_connection` and `handle_device_payload`.
-/
import Proofs.Lemmas.Router.Rp1_ShapeOf
import Proofs.Lemmas.Router.Rp6_Packets
namespace Router

/-- `hn`: a request still on its way in `notifications` would not be saved -/
theorem handleDisconnection_qi {s s' : RState} {id : Nat} {r : Option String} (hq : QI s)
    (hn : s.notifications = []) (hd : handleDisconnection s id r = .ok s') :
    QI s' ∧ Keeps (fun j _ => j ≠ id) s s' ∧ s'.config = s.config := by
  rcases handleDisconnection_cases hd with ⟨_, rfl⟩ | ⟨c, hc, hd⟩
  · exact ⟨hq, fun _ _ h _ => h, rfl⟩
  · have mw := OEq.closed.wakeParked hd
    have hF := hdFinal_fields s id c r
    have hget := hdFinal_getConn s id c r
    have hnat : (hdFinal s id c r).datalog.native = s.datalog.native.map (dropWaiters id) := by
      rw [hF.datalog, datalogClean_map]
    obtain ⟨hp1, hp2⟩ := hdFinal_held hc r
    have bwd : ∀ j x, Own (hdFinal s id c r) j x → Own s j x := by
      intro j x ho
      have := (hp1 j).mem_iff.mp ((own_iff _ j x).mp ho)
      by_cases hj : j = id
      · simp only [hj, if_true, hn, pick_nil] at this; cases this
      · simp only [hj, if_false] at this; exact (own_iff s j x).mpr this
    have fwd : ∀ j x, Own s j x → j ≠ id → Own (hdFinal s id c r) j x := by
      intro j x ho hj
      refine (own_iff _ j x).mpr ((hp1 j).mem_iff.mpr ?_)
      simp only [hj, if_false]; exact (own_iff s j x).mp ho
    have saved : ((hdSavedOf s id c).2.map (·.sig)).Perm ((held s id).map (·.sig)) := by
      unfold held; rw [hn, pick_nil, List.append_nil]; exact hdSavedOf_sigs hc
    have wsub : WSub s (hdFinal s id c r) := by
      intro i fd' hfd'
      rw [hnat] at hfd'
      simp only [List.getElem?_map, Option.map_eq_some_iff] at hfd'
      obtain ⟨fd, hfd, rfl⟩ := hfd'
      exact .inr ⟨fd, hfd, rfl, dropWaiters_sub id fd⟩
    have qF : QI (hdFinal s id c r) := by
      refine ⟨fun j f hf => ?_, fun j x hx => hq.gt j x (bwd j x hx), hq.pe.wsub wsub, ?_⟩
      · by_cases hj : j = id
        · rw [subsOf_none ((hget j).trans (if_pos hj))] at hf; cases hf
        · rw [subsOf_congr ((hget j).trans (if_neg hj))] at hf
          obtain ⟨x, hx, e⟩ := hq.cover j f hf
          exact ⟨x, fwd j x hx hj, e⟩
      · rw [hF.graveyard]
        refine forall_saved s id c hq.grv fun _ => ?_
        refine ⟨fun f hf => ?_, fun q hq' => ?_⟩
        · -- every subscription of the closed connection has a saved request
          obtain ⟨x, hx, e⟩ := hq.cover id f (subsOf_live hc ▸ hf)
          obtain ⟨q, hq1, hq2⟩ := List.mem_map.mp
            (saved.mem_iff.mpr (List.mem_map_of_mem (f := (·.sig)) ((own_iff s id x).mp hx)))
          exact ⟨q, hq1, (congrArg (·.1) hq2).trans e⟩
        · obtain ⟨r0, h0, e0⟩ := List.mem_map.mp (saved.mem_iff.mp (List.mem_map_of_mem (f := (·.sig)) hq'))
          have := hq.gt id r0 ((own_iff s id r0).mpr h0)
          unfold GT at this ⊢
          rw [← show r0.filter = q.filter from congrArg (·.1) e0, ← show r0.group = q.group from congrArg (·.2.2) e0]
          exact this
    exact ⟨qF.oeq mw, fun j x ho hj => (mw.own j x).mpr (fwd j x ho hj), mw.cfg.trans hF.config⟩

theorem hnRestored_qi {s : RState} (hq : QI s) (spec : ConnectSpec) :
    (∀ f ∈ hnSubs (hnRestored s spec), ∃ r ∈ (hnTracker spec (hnRestored s spec)).requests, r.filter = f) ∧
    ∀ r ∈ (hnTracker spec (hnRestored s spec)).requests, GT r :=
  hnRestored_elim (P := fun o => (∀ f ∈ hnSubs o, ∃ r ∈ (hnTracker spec o).requests, r.filter = f) ∧
      ∀ r ∈ (hnTracker spec o).requests, GT r)
    ⟨fun f hf => by simp [hnSubs] at hf, fun r hr => by simp [hnTracker] at hr⟩ hq.grv

theorem hnRegister_qi {s s' : RState} {spec : ConnectSpec} (hq : QI s) (ha : AdmInv s)
    (hnone : alookup spec.clientId s.connectionMap = none) (hroom : s.conns.len < s.config.maxConnections)
    (hre : reschedule (hnPre s spec) (hnKey s spec) .init = .ok s') :
    QI s' ∧ Keeps (fun _ _ => True) s s' ∧ s'.config = s.config := by
  have mr := OEq.closed.reschedule hre
  obtain ⟨hcov, hgt⟩ := hnRestored_qi hq spec
  have sl := hnPre_getConn ha hnone hroom
  have hnat : (hnPre s spec).datalog.native = s.datalog.native := rfl
  have e3 : (hnPre s spec).config = s.config := rfl
  have hh := hnPre_held (spec := spec) ha hnone hroom
  have fwd : ∀ j x, Own s j x → Own (hnPre s spec) j x := fun j x ho => by
    rw [own_iff, hh]; exact List.mem_append_right _ ((own_iff s j x).mp ho)
  have bwd : ∀ j x, Own (hnPre s spec) j x →
      Own s j x ∨ (j = hnKey s spec ∧ x ∈ (hnTracker spec (hnRestored s spec)).requests) := fun j x ho => by
    rw [own_iff, hh] at ho
    rcases List.mem_append.mp ho with h | h
    · split at h
      · rename_i hj; exact .inr ⟨hj, h⟩
      · cases h
    · exact .inl ((own_iff s j x).mpr h)
  have qP : QI (hnPre s spec) := by
    refine ⟨fun j f hf => ?_, fun j x hx => ?_, hq.pe.wsub (WSub.of_native hnat), ?_⟩
    · by_cases hj : j = hnKey s spec
      · subst hj
        rw [subsOf_live sl.new] at hf
        obtain ⟨x, hx, e⟩ := hcov f hf
        exact ⟨x, .inl ⟨_, sl.new, hx⟩, e⟩
      · rw [subsOf_congr (sl.old j hj)] at hf
        obtain ⟨x, hx, e⟩ := hq.cover j f hf
        exact ⟨x, fwd j x hx, e⟩
    · rcases bwd j x hx with h | ⟨_, h⟩
      · exact hq.gt j x h
      · exact hgt x h
    · rw [hnPre_graveyard]; intro p hp ss hss; exact hq.grv p (mem_aremove_iff.mp hp).1 ss hss
  exact ⟨qP.oeq mr, fun j x ho _ => (mr.own j x).mpr (fwd j x ho), by rw [mr.cfg, e3]⟩

theorem handleNewConnection_qi {s s' : RState} {spec : ConnectSpec} (hn : s.notifications = []) (ha : AdmInv s) (hq : QI s)
    (h : handleNewConnection s spec = .ok s') :
    QI s' ∧ Keeps (fun j _ => alookup spec.clientId s.connectionMap ≠ some j) s s' ∧ s'.config = s.config := by
  have m0 : OEq s (setLink s spec.link {}) := OEq.connClosed.of_rest rfl rfl
  let I := fun t : RState => QI t ∧ Keeps (fun j _ => alookup spec.clientId s.connectionMap ≠ some j) s t ∧ t.config = s.config
  exact handleNewConnection_inv (I := I) (J := I) ha
    ⟨hq.oeq m0, m0.keeps _, rfl⟩
    (fun {_ old} hold h1 => by
      obtain ⟨q, k, c⟩ := handleDisconnection_qi (hq.oeq m0) hn h1
      exact ⟨q, fun j x ho hk => k j x ((m0.own j x).mpr ho) fun e => hk (by rw [hold, e]), c⟩)
    (fun {s1} t => by
      have m2 : OEq s1 (s1.g (.notRegistered spec.link)) := OEq.connClosed.of_rest rfl rfl
      exact ⟨t.1.oeq m2, t.2.1.trans (m2.keeps _), t.2.2⟩)
    (fun t _ a1 hnone hroom hr => by
      obtain ⟨q2, k2, c2⟩ := hnRegister_qi t.1 a1 hnone hroom hr
      exact ⟨q2, t.2.1.trans (k2.mono fun _ _ _ => trivial), c2.trans t.2.2⟩) h

theorem hnTakeover_qi {s s1 : RState} {spec : ConnectSpec} (hn : s.notifications = []) (hq : QI s)
    (ht : hnTakeover (setLink s spec.link {}) spec = .ok s1) : QI s1 := by
  have q0 : QI (setLink s spec.link {}) := hq.oeq (OEq.connClosed.of_rest rfl rfl)
  rcases hnTakeover_cases ht with ⟨_, rfl⟩ | ⟨_, _, hd⟩
  · exact q0
  · exact (handleDisconnection_qi q0 hn hd).1

/-- a connection loses requests only if it sent the batch: those of the filters it unsubscribes, or all when the batch
    ends its connection -/
theorem handleDevicePayload_qi {s s' : RState} {id : Nat} (hn : s.notifications = []) (hq : QI s)
    (h : handleDevicePayload s id = .ok s') :
    QI s' ∧ s'.config = s.config ∧
    ∀ c, getConn s id = some c →
      Keeps (fun j r => ¬ (j = id ∧ (getConn s' id = none ∨ ∃ p ∈ (getLink s c.link).ibuf, r.filter ∈ pktUnsubs p))) s s' := by
  rcases handleDevicePayload_cases h with ⟨hnone, rfl⟩ | ⟨c, s1, fl, s4, hc, h1, hR, hn4, hd⟩
  · exact ⟨hq, rfl, fun c hc => by rw [hnone] at hc; cases hc⟩
  · have m0 : OEq s (setLink s c.link { getLink s c.link with ibuf := [] }) := OEq.connClosed.of_rest rfl rfl
    obtain ⟨qi1, k1, cf1⟩ := handlePackets_qi _ (hq.oeq m0) h1
    have m14 : OEq s1 s4 := hR _ OEq.closed.toReqClosed
    have qi4 := qi1.oeq m14
    have k4 : Keeps (fun j r => ¬ (j = id ∧ ∃ p ∈ (getLink s c.link).ibuf, r.filter ∈ pktUnsubs p)) s s4 :=
      ((m0.keeps _).trans k1).trans (m14.keeps _)
    have cf4 : s4.config = s.config := by rw [m14.cfg, cf1]; rfl
    split at hd
    · obtain ⟨q5, k5, cf5⟩ := handleDisconnection_qi qi4 (hn4 (handlePackets_pending _ h1 fun _ => hn)) hd
      have hgone := getConn_handleDisconnection hd
      refine ⟨q5, by rw [cf5, cf4], fun c' hc' => ?_⟩
      rw [hc] at hc'; cases hc'
      intro j x ho hk
      have hj : j ≠ id := fun e => hk ⟨e, .inl hgone⟩
      exact k5 j x (k4 j x ho (fun hh => hj hh.1)) hj
    · subst hd
      refine ⟨qi4, cf4, fun c' hc' => ?_⟩
      rw [hc] at hc'; cases hc'
      exact k4.mono fun j x hk hh => hk ⟨hh.1, .inr hh.2⟩

end Router
