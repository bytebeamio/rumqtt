/-
Which data requests a connection owns — the members of `held` (`own_iff`) — and the relations on ownership along which
`QI` and the later invariants about owned requests are carried: `OEq`, the image of `Moves`, and `OAdd`, the image of a
`Held` that only gains.
-/
import Proofs.Lemmas.Router.Rp4_HeldEffect
namespace Router

def TrackedBy (s : RState) (j : Nat) (r : DataRequest) : Prop := ∃ c, getConn s j = some c ∧ r ∈ c.tracker.requests

def ParkedAt (s : RState) (i j : Nat) (r : DataRequest) : Prop :=
  ∃ fd, s.datalog.native[i]? = some fd ∧ (j, r) ∈ fd.waiters

def Parked (s : RState) (j : Nat) (r : DataRequest) : Prop := ∃ i, ParkedAt s i j r

def Notified (s : RState) (j : Nat) (r : DataRequest) : Prop := (j, r) ∈ s.notifications

/-- tracked by `j`, parked for `j` in some log's waiter list, or on its way back to `j`'s tracker in `notifications` -/
def Own (s : RState) (j : Nat) (r : DataRequest) : Prop := TrackedBy s j r ∨ Parked s j r ∨ Notified s j r

theorem parked_iff {s : RState} {j : Nat} {r : DataRequest} : Parked s j r ↔ r ∈ parked s j := by
  rw [mem_parked]
  unfold Parked ParkedAt
  constructor
  · rintro ⟨i, fd, h, hm⟩; exact ⟨fd, List.mem_of_getElem? h, hm⟩
  · rintro ⟨fd, h, hm⟩
    obtain ⟨i, hi⟩ := List.mem_iff_getElem?.mp h
    exact ⟨i, fd, hi, hm⟩

theorem parkedAt_of_native {s s' : RState} (h : s'.datalog.native = s.datalog.native) (i j : Nat) (r : DataRequest) :
    ParkedAt s' i j r ↔ ParkedAt s i j r := by unfold ParkedAt; rw [h]

theorem own_iff (s : RState) (j : Nat) (r : DataRequest) : Own s j r ↔ r ∈ held s j := by
  unfold Own TrackedBy Notified held
  simp only [List.mem_append, mem_tracked, parked_iff, mem_pick, or_assoc]

/-- the step moved requests between tracker, waiter lists and `notifications` at most -/
structure OEq (s s' : RState) : Prop where
  own : ∀ j r, Own s' j r ↔ Own s j r
  wsub : WSub s s'
  subs : ∀ j, subsOf s' j = subsOf s j
  grv : s'.graveyard = s.graveyard
  cfg : s'.config = s.config

theorem OEq.refl (s : RState) : OEq s s := ⟨fun _ _ => Iff.rfl, WSub.refl s, fun _ => rfl, rfl, rfl⟩

theorem OEq.trans {a b c : RState} (h1 : OEq a b) (h2 : OEq b c) : OEq a c :=
  ⟨fun j r => (h2.own j r).trans (h1.own j r), h1.wsub.trans h2.wsub, fun j => (h2.subs j).trans (h1.subs j),
   h2.grv.trans h1.grv, h2.cfg.trans h1.cfg⟩

structure OAdd (s s' : RState) (A : Nat → DataRequest → Prop) : Prop where
  own : ∀ j r, Own s' j r ↔ Own s j r ∨ A j r
  subs : ∀ j, subsOf s' j = subsOf s j
  grv : s'.graveyard = s.graveyard
  cfg : s'.config = s.config

theorem Held.oadd {s s' : RState} {add : Nat → List DataRequest} (m : Held s s' add noRq) :
    OAdd s s' (fun j r => r ∈ add j) :=
  ⟨fun j r => by
    have := (m.held j).mem_iff (a := r)
    simpa only [own_iff, noRq, List.append_nil, List.mem_append] using this, m.subs, m.grv, m.cfg⟩

theorem OAdd.congr {s s' : RState} {A B : Nat → DataRequest → Prop} (h : OAdd s s' A) (hab : ∀ j r, A j r ↔ B j r) :
    OAdd s s' B := ⟨fun j r => by rw [h.own, hab], h.subs, h.grv, h.cfg⟩

theorem Moves.oeq {s s' : RState} (m : Moves s s') : OEq s s' :=
  ⟨fun j r => by rw [m.1.oadd.own]; simp [noRq], m.2, m.1.subs, m.1.grv, m.1.cfg⟩

theorem OEq.closed : PubClosed OEq := Moves.closed.mono OEq.refl OEq.trans Moves.oeq

theorem OEq.connClosed : ConnClosed OEq := OEq.closed.toConnClosed

theorem OEq.sweepClosed : SweepClosed OEq := Moves.sweepClosed.mono OEq.refl OEq.trans Moves.oeq

theorem trackv_add {s s' : RState} {id : Nat} {rs : List DataRequest} (h : trackv s id rs = .ok s') :
    OAdd s s' (fun j r => j = id ∧ r ∈ rs) ∧ s'.datalog.native = s.datalog.native := by
  refine ⟨(trackv_held h).oadd.congr fun j r => ?_, by obtain ⟨_, _, rfl⟩ := trackv_upd h; rfl⟩
  unfold oneRq; by_cases hj : j = id <;> simp [hj]

theorem parkedAt_set {s s' : RState} {i : Nat} {fd fd' : FilterData} (hfd : s.datalog.native[i]? = some fd)
    (hnat : s'.datalog.native = s.datalog.native.set i fd') (k j : Nat) (r : DataRequest) :
    ParkedAt s' k j r ↔ if k = i then (j, r) ∈ fd'.waiters else ParkedAt s k j r := by
  have hlt : i < s.datalog.native.length := (List.getElem?_eq_some_iff.mp hfd).1
  unfold ParkedAt
  rw [hnat, List.getElem?_set]
  by_cases e : k = i
  · subst e; simp [hlt]
  · have : ¬ i = k := fun e' => e e'.symm
    simp [e, this]

theorem park_add {s s' : RState} {id : Nat} {r0 : DataRequest} (h : park s id r0 = .ok s') :
    OAdd s s' (fun j r => j = id ∧ r = r0) ∧
    ∃ fd, s.datalog.native[r0.filterIdx]? = some fd ∧
      s'.datalog.native = s.datalog.native.set r0.filterIdx { fd with waiters := fd.waiters ++ [(id, r0)] } := by
  refine ⟨(park_held h).oadd.congr fun j r => ?_, ?_⟩
  · unfold oneRq; by_cases hj : j = id <;> simp [hj]
  · obtain ⟨fd, hfd, rfl⟩ := park_upd h
    exact ⟨fd, hfd, rfl⟩

theorem takeRequests_own {s : RState} {id : Nat} {c : Conn} (rq : List Nat) (hc : getConn s id = some c) (j : Nat) (x : DataRequest) :
    Own (Walk.takeRequests s id c rq) j x ↔
      (Own s j x ∧ ¬ (j = id ∧ x ∈ c.tracker.requests)) ∨ (j = id ∧ (Parked s j x ∨ Notified s j x)) := by
  rw [own_iff, held_takeRequests rq hc]
  by_cases hj : j = id
  · subst hj
    simp only [if_true, List.mem_append, ← parked_iff, mem_pick, true_and]
    refine ⟨fun h => .inr h, fun h => ?_⟩
    rcases h with ⟨⟨c', hc', hm⟩ | h, hn⟩ | h
    · rw [hc] at hc'; cases hc'; exact absurd hm hn
    · exact h
    · exact h
  · simp only [hj, if_false, false_and, not_false_eq_true, and_true, or_false]; exact (own_iff s j x).symm

end Router
