/-
C08: while client `X` has no live connection, every op other than a CONNECT of `X` leaves `X`'s graveyard entry
untouched, creates no connection for `X` and does not put `X` into the connection map (`FrameX`). Most functions do
not touch what this reads (`gkey`): its equality is a log frame.
`CMOK` (C08): a client id is carried by at most one live connection, and after `handle_disconnection` by none.
-/
import Proofs.Lemmas.Router.Base.Local
import Proofs.Lemmas.Router.Base.Reach
import Proofs.Lemmas.Router.Rp3_Session
import Proofs.Lemmas.Router.Base.Walk
import Proofs.Lemmas.Router.Base.Adm
namespace Router
namespace Rp3

def gkey (s : RState) : List (String × Option SessionState) × List (String × Nat) × List (Option String) :=
  (s.graveyard, s.connectionMap, cids s.conns)

theorem gkey_setConn {s : RState} {id : Nat} {c c' : Conn} (h : getConn s id = some c) (e : c'.clientId = c.clientId) :
    gkey (setConn s id c') = gkey s := by
  unfold gkey setConn
  simp only []
  rw [cids_set _ _ _ _ h e]

@[simp] theorem gkey_g (s : RState) (e : Ghost) : gkey (s.g e) = gkey s := rfl
@[simp] theorem gkey_setLink (s : RState) (l : Nat) (b : LinkBuf) : gkey (setLink s l b) = gkey s := rfl
@[simp] theorem gkey_pushNotifs (s : RState) (l : Nat) (ns : List Notif) : gkey (pushNotifs s l ns) = gkey s := rfl
@[simp] theorem gkey_wakeLink (s : RState) (l : Nat) : gkey (wakeLink s l) = gkey s := rfl

theorem gkey_of_core {s s' : RState} (h : core s' = core s) : gkey s' = gkey s := by
  unfold core at h
  simp only [Prod.mk.injEq] at h
  obtain ⟨e1, e2, e3, _⟩ := h
  unfold gkey; rw [e1, e2, e3]

theorem gkeyFrame : LogFrame (fun s s' => gkey s' = gkey s) where
  refl _ := rfl
  trans h1 h2 := h2.trans h1
  side := gkey_of_core
  conn hc h e := (gkey_of_core h).trans (gkey_setConn hc e)
  cache hm := by obtain ⟨_, _, rfl⟩ := dlMatches_upd hm; rfl
  newFilter s f := by rcases nextNativeOffset_upd s f with e | ⟨_, _, _, e⟩ <;> rw [e] <;> rfl
  append ha := by obtain ⟨_, _, _, _, rfl⟩ := Router.appendToFilter_upd ha; rfl

theorem handlePacket_gkey {s s' : RState} {id : Nat} {cid : String} {pkt : Packet} {fl fl' : Flags}
    (h : handlePacket s id cid pkt fl = .ok (s', fl')) : gkey s' = gkey s := gkeyFrame.handlePacket h

def NoLive (X : String) (s : RState) : Prop := some X ∉ cids s.conns

structure FrameX (X : String) (s s' : RState) : Prop where
  gy : alookup X s'.graveyard = alookup X s.graveyard
  live : NoLive X s'
  cm : alookup X s.connectionMap = none → alookup X s'.connectionMap = none

theorem FrameX.refl {X : String} {s : RState} (h : NoLive X s) : FrameX X s s := ⟨rfl, h, fun e => e⟩

theorem FrameX.of_gkey {X : String} {s s' : RState} (h : NoLive X s) (e : gkey s' = gkey s) : FrameX X s s' := by
  unfold gkey at e
  simp only [Prod.mk.injEq] at e
  obtain ⟨e1, e2, e3⟩ := e
  exact ⟨by rw [e1], by unfold NoLive; rw [e3]; exact h, fun h0 => by rw [e2]; exact h0⟩

theorem FrameX.trans {X : String} {s s1 s2 : RState} (a : FrameX X s s1) (b : FrameX X s1 s2) : FrameX X s s2 :=
  ⟨b.gy.trans a.gy, b.live, fun h => b.cm (a.cm h)⟩

theorem NoLive.of_getConn {X : String} {s : RState} (h : NoLive X s) {id : Nat} {c : Conn}
    (hc : getConn s id = some c) : c.clientId ≠ X :=
  fun e => h (e ▸ List.mem_of_getElem? (cids_getConn hc))

theorem handleDisconnection_frame {X : String} {s s' : RState} {id : Nat} {r : Option String}
    (hl : NoLive X s) (h : handleDisconnection s id r = .ok s') : FrameX X s s' := by
  cases hc : getConn s id with
  | none => rw [handleDisconnection_missing s id r hc] at h; cases h; exact FrameX.refl hl
  | some c =>
    have hD := handleDisconnection_spec hc h
    have hne : X ≠ c.clientId := fun e => hl.of_getConn hc e.symm
    refine ⟨?_, ?_, ?_⟩
    · rw [hD.graveyard]; exact alookup_ainsert_ne _ _ _ _ hne
    · unfold NoLive; rw [hD.cids]
      intro hm
      rcases mem_cids_remove hm with h1 | h1
      · exact hl h1
      · cases h1
    · intro h0; rw [hD.connectionMap, alookup_aremove_ne _ _ hne]; exact h0

theorem register_frame {X : String} {s s' : RState} {spec : ConnectSpec} (hl : NoLive X s)
    (hx : spec.clientId ≠ X) (h : reschedule (hnPre s spec) (hnKey s spec) .init = .ok s') : FrameX X s s' := by
  have e : gkey s' = gkey (hnPre s spec) := gkeyFrame.reschedule h
  have hpre : FrameX X s (hnPre s spec) := by
    have hne : X ≠ spec.clientId := fun e => hx e.symm
    refine ⟨?_, ?_, ?_⟩
    · show alookup X (aremove spec.clientId s.graveyard) = _
      exact alookup_aremove_ne _ _ hne _
    · unfold NoLive
      show some X ∉ cids ((s.conns.insert (hnConn spec (hnRestored s spec))).1.set _ (hnNew s spec))
      intro hm
      rcases mem_cids_set hm with h1 | h1
      · rcases mem_cids_insert h1 with h2 | h2
        · exact hl h2
        · exact hx (Option.some.inj h2).symm
      · exact hx (Option.some.inj h1).symm
    · intro h0
      show alookup X (ainsert spec.clientId _ s.connectionMap) = none
      rw [alookup_ainsert_ne _ _ _ _ hne]; exact h0
  exact hpre.trans (FrameX.of_gkey hpre.live e)

theorem handleNewConnection_frame {X : String} {s s' : RState} {spec : ConnectSpec} (hl : NoLive X s)
    (hx : spec.clientId ≠ X) (h : handleNewConnection s spec = .ok s') : FrameX X s s' :=
  have f0 : FrameX X s (setLink s spec.link {}) := FrameX.of_gkey hl rfl
  handleNewConnection_rel (I := FrameX X s) (J := FrameX X s) f0
    (fun _ hd => f0.trans (handleDisconnection_frame (s := setLink s spec.link {}) hl hd))
    (fun f => f.trans (FrameX.of_gkey f.live rfl)) (fun f _ _ hr => f.trans (register_frame f.live hx hr)) h

def NotConnectOf (X : String) : Op → Prop
  | .connect spec => spec.clientId ≠ X
  | _ => True

theorem FrameX.logFrame (X : String) : LogFrame (fun s s' => NoLive X s → FrameX X s s') :=
  gkeyFrame.mono (fun _ => FrameX.refl) (fun h1 h2 hl => (h1 hl).trans (h2 (h1 hl).live))
    (fun e hl => FrameX.of_gkey hl e)

theorem step_frame {X : String} {s s' : RState} {op : Op} {o : Out} (hl : NoLive X s) (hop : NotConnectOf X op)
    (h : step s op = .ok (s', o)) : FrameX X s s' :=
  (FrameX.logFrame X).step (fun hd hl => handleDisconnection_frame hl hd)
    (fun _ e hn hl => handleNewConnection_frame hl (by rw [e] at hop; exact hop) hn) h hl

theorem run_frame {X : String} (ops : List (Op × List Choice)) {s s' : RState} (hl : NoLive X s)
    (hops : ∀ oc ∈ ops, NotConnectOf X oc.1) (h : run s ops = .ok s') : FrameX X s s' :=
  run_invariant_of (FrameX X s)
    (fun t ch _ _ _ hop f hs =>
      (f.trans (FrameX.of_gkey (s' := { t with oracle := ch }) f.live rfl)).trans
        (step_frame (s := { t with oracle := ch }) f.live hop hs))
    ops hops (FrameX.refl hl) h

/-- the connection map knows every live connection under its client id -/
def CMOK (s : RState) : Prop :=
  ∀ (j : Nat) (Y : String), (cids s.conns)[j]? = some (some Y) → alookup Y s.connectionMap = some j

theorem CMOK.of_gkey {s s' : RState} (h : CMOK s) (e : gkey s' = gkey s) : CMOK s' := by
  unfold gkey at e
  simp only [Prod.mk.injEq] at e
  obtain ⟨_, e2, e3⟩ := e
  intro j Y hj
  rw [e3] at hj; rw [e2]; exact h j Y hj

theorem CMOK.unique {s : RState} (h : CMOK s) {i j : Nat} {Y : String} (hi : (cids s.conns)[i]? = some (some Y))
    (hj : (cids s.conns)[j]? = some (some Y)) : i = j :=
  Option.some.inj ((h i Y hi).symm.trans (h j Y hj))

theorem CMOK.noLive_after_remove {s : RState} (h : CMOK s) {id : Nat} {c : Conn} (hc : getConn s id = some c) :
    some c.clientId ∉ cids (s.conns.remove id) := by
  intro hm
  obtain ⟨j, hj⟩ := List.mem_iff_getElem?.mp hm
  obtain ⟨hne, hj⟩ := cids_remove_cases hj
  exact hne (h.unique (cids_getConn hc) hj)

/-- `CMOK` is the second half of `MapInv`, said over `cids` -/
theorem cmok_iff (s : RState) :
    CMOK s ↔ ∀ id c, getConn s id = some c → alookup c.clientId s.connectionMap = some id :=
  ⟨fun h id c hc => h id c.clientId (cids_getConn hc), fun h j Y hj => by
    obtain ⟨c, hc, rfl⟩ := getConn_of_cids hj
    exact h j c hc⟩

theorem reachable_cmok {cfg : Config} {s : RState} (hr : Reachable cfg s) : CMOK s :=
  (cmok_iff s).mpr (AdmInv.reachable hr).map.2

end Rp3
end Router
