/-
Small concrete router states used by the non-vacuity examples of C06 / C15 / C16.
-/
import Proofs.Lemmas.Router.Rp2_Acks
import Proofs.Lemmas.Router.Rp2_Qos2
import Proofs.Lemmas.Router.Rp2_Will
namespace Router

def exConfig : Config :=
  { maxConnections := 10, maxSegmentSize := 1000, maxSegmentCount := 3, maxOutgoingPacketCount := 10,
    strategy := .roundRobin }

/-- the oracle holds the (empty) hash-map orders two publishes need -/
def exState : RState :=
  { config := exConfig,
    conns := { entries := [some { clientId := "a", link := 0, clean := true, dynamicFilters := false,
                                  tracker := { id := "a" } }] },
    links := [{}],
    connectionMap := [("a", 0)],
    oracle := [.matches [], .matches []] }

def exPub1 : Pub := { qos := 1, pkid := 7, retain := false, dup := false, topic := [116], payload := [1] }
def exPub2 : Pub := { qos := 2, pkid := 9, retain := false, dup := false, topic := [116], payload := [2] }
def exPubR : Pub := { qos := 0, pkid := 0, retain := true, dup := false, topic := [116], payload := [5] }

def exWill : Will := { topic := [116], payload := [9], qos := 0, retain := false }

def exSpecWill : ConnectSpec :=
  { link := 0, clientId := "w", clean := true, dynamicFilters := false, aliasMax := 0, will := some exWill }

end Router
