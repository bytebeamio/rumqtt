/-
`DInv` through `append_to_commitlog`, the UNSUBSCRIBE loop and every packet but SUBSCRIBE (`handlePacket_other_good`).
-/
import Proofs.Lemmas.Router.Rp1_DLeaves
import Proofs.Lemmas.Router.Base.Groups
import Proofs.Lemmas.Router.Rp1_ShapeOf
namespace Router

theorem appendToCommitlog_good {s : RState} {id : Nat} {p : Pub} (h : DInv s) (hl : Live s id) :
    Good (fun r => DInv r.1 ∧ (r.2 ≠ none → r.1.notifications = s.notifications)) (appendToCommitlog s id p) := by
  obtain ⟨c, hc⟩ := hl.get
  unfold appendToCommitlog
  simp only [hc]
  split
  · exact ⟨h, fun _ => rfl⟩
  · split
    · exact ⟨h, fun _ => rfl⟩
    · rename_i s1 p1 hr
      have h1 : DInv s1 ∧ s1.notifications = s.notifications := by
        split at hr
        · simp only [Except.ok.injEq, Prod.mk.injEq] at hr; obtain ⟨rfl, _⟩ := hr; exact ⟨h, rfl⟩
        · split at hr
          · simp at hr
          · split at hr
            · split at hr
              · simp at hr
              · simp only [Except.ok.injEq, Prod.mk.injEq] at hr; obtain ⟨rfl, _⟩ := hr; exact ⟨h, rfl⟩
            · split at hr
              · simp at hr
              · simp only [Except.ok.injEq, Prod.mk.injEq] at hr; obtain ⟨rfl, _⟩ := hr
                exact ⟨h.set hc rfl (h.trk id c hc), rfl⟩
      split
      · exact ⟨h1.1, fun _ => h1.2⟩
      · rename_i topic _
        have hu := updateRetained_dinv h1.1 topic p1
        have hu' : DInv ((updateRetained s1 topic p1).g (Ghost.accepted (some id) p1 topic)) :=
          hu.1.of_reads rfl
        gbind2 (dlMatches_good (topic := topic) hu') with s2 idxs h2 q2
        gbind (appendToFilters_good idxs (p := { p1 with retain := false }) q2.1 q2.2.1) with s3 h3 q3
        exact ⟨q3, fun hne => (hne rfl).elim⟩

theorem DInv.addFilter {s : RState} (h : DInv s) (filter : String) (l : CLog.Log Pub) :
    DInv { s with datalog := s.datalog.addFilter filter l } := by
  have hN : ∀ k, k < N s → k < (s.datalog.native ++ [({ filter := filter, log := l } : FilterData)]).length :=
    fun k hk => by rw [List.length_append]; exact Nat.lt_add_right _ hk
  have hnew : s.datalog.native.length < (s.datalog.native ++ [({ filter := filter, log := l } : FilterData)]).length := by
    simp
  refine ⟨fun q hq => ?_, fun q hq i hi => ?_, fun j c hc r hr => hN _ (h.trk j c hc r hr), fun fd hfd w hw => ?_,
    fun n hn => ⟨hN _ (h.ntf n hn).1, (h.ntf n hn).2⟩,
    fun q hq ss hss => ⟨fun r hr => hN _ ((h.grv q hq ss hss).1 r hr), (h.grv q hq ss hss).2⟩, h.grp⟩
  · rcases List.mem_append.mp hq with hq | hq
    · exact hN _ (h.fidx q hq)
    · cases List.mem_singleton.mp hq; exact hnew
  · obtain ⟨q0, hq0, e⟩ := List.mem_map.mp hq
    split at e
    · subst e
      rcases List.mem_append.mp hi with hi | hi
      · exact hN _ (h.pf q0 hq0 i hi)
      · cases List.mem_singleton.mp hi; exact hnew
    · subst e; exact hN _ (h.pf _ hq0 i hi)
  · rcases List.mem_append.mp hfd with hfd | hfd
    · exact ⟨hN _ (h.wt fd hfd w hw).1, (h.wt fd hfd w hw).2⟩
    · cases List.mem_singleton.mp hfd; cases hw

theorem nextNativeOffset_dinv {s : RState} (h : DInv s) (filter : String) :
    DInv (nextNativeOffset s filter).1 ∧ (nextNativeOffset s filter).2.1 < N (nextNativeOffset s filter).1 ∧
    (nextNativeOffset s filter).1.notifications = s.notifications ∧
    (nextNativeOffset s filter).1.conns = s.conns := by
  have hd : DInv (nextNativeOffset s filter).1 ∧ (nextNativeOffset s filter).1.notifications = s.notifications ∧
      (nextNativeOffset s filter).1.conns = s.conns := by
    rcases nextNativeOffset_cases s filter with ⟨_, _, e⟩ | ⟨_, e⟩ <;> rw [e]
    · exact ⟨h, rfl, rfl⟩
    · exact ⟨h.addFilter _ _, rfl, rfl⟩
  exact ⟨hd.1, hd.1.fidx _ (mem_of_alookup_eq_some (nextNativeOffset_filterIdx s filter)), hd.2⟩

theorem pfShared_nonempty {s : RState} (h : DInv s) (cursor : Cursor) (cid : String) (group : Option String) :
    ∀ p ∈ pfShared s cursor cid group, p.2.clients ≠ [] := by
  intro p hp
  cases group with
  | none => exact h.grp p hp
  | some g =>
    rcases mem_pfShared.mp hp with ⟨hp, _⟩ | ⟨grp, _, rfl⟩ | ⟨_, rfl⟩
    · exact h.grp p hp
    · simp
    · simp

theorem track_N {s s' : RState} {id : Nat} {r : DataRequest} (h : track s id r = .ok s') : N s' = N s := by
  unfold N; rw [(track_step h).datalog]

theorem reschedule_N {s s' : RState} {id : Nat} {r : SchedReason} (h : reschedule s id r = .ok s') : N s' = N s := by
  unfold N; rw [(reschedule_step h).datalog]

theorem ufShared_nonempty {s : RState} (h : DInv s) (f cid : String) : ∀ p ∈ ufShared s f cid, p.2.clients ≠ [] := by
  intro p hp
  rcases mem_ufShared hp with ⟨hp, _⟩ | ⟨_, g, _, _, hne, e⟩
  · exact h.grp p hp
  · rw [e]; intro e'; rw [e'] at hne; cases hne

theorem removeWaiterFor_dinv {s : RState} (h : DInv s) (id : Nat) (f : String) (ns : List (Nat × DataRequest))
    (hns : ∀ n ∈ ns, n.2.filterIdx < N s ∧ Live s n.1) (g1 : List Ghost) :
    DInv ({ s with datalog := removeWaiterFor s.datalog id f, notifications := ns, ghost := g1 } : RState) := by
  rcases removeWaiterFor_cases s.datalog id f with ⟨e, _⟩ | ⟨idx, fd, i, hi, hfd, _, _, e⟩ <;> rw [e]
  · exact (h.with_notifications ns hns).of_reads rfl
  · refine h.native_set idx _ (fun w hw => ?_) ns hns g1
    exact h.wt fd (List.mem_of_getElem? hfd) w (mem_of_mem_swapRemoveBack hi hw)

theorem ufState_dinv {s : RState} {id : Nat} {ids : List Nat} {c : Conn} {f : String} (h : DInv s)
    (hc : getConn s id = some c) :
    DInv (ufState s id ids c f) ∧ (s.notifications = [] → (ufState s id ids c f).notifications = []) ∧
    Live (ufState s id ids c f) id := by
  -- the group table and the connection first, then the waiter and the notifications of the filter
  have h2 := (h.with_shared _ (ufShared_nonempty h f c.clientId)).set
    (s' := setConn { s with subscriptionMap := ainsert f (ids.filter (· ≠ id)) s.subscriptionMap,
                            shared := ufShared s f c.clientId, turnMoved := ufTurnMoved s f c.clientId }
      id (ufConn s.datalog c f)) hc rfl (show ReqsOK _ (c.tracker.requests.filter _) from (h.trk id c hc).filter _)
  refine ⟨?_, fun e => ?_, Live.of_get ((ufState_getConn hc ids f id).trans (if_pos rfl))⟩
  · unfold ufState
    simp only [RState.g]
    exact removeWaiterFor_dinv h2 id f _ (fun n hn => h2.ntf n (List.mem_filter.mp hn).1) _
  · unfold ufState
    show List.filter _ s.notifications = []
    rw [e]; rfl

theorem unsubscribeFilters_good {id : Nat} : ∀ (fs : List String) {s : RState} {rs : List Bool}, DInv s →
    Live s id →
    Good (fun r => DInv r.1 ∧ (s.notifications = [] → r.1.notifications = []))
      (unsubscribeFilters s id fs rs)
  | [], s, rs, h, _ => ⟨h, fun e => e⟩
  | f :: rest, s, rs, h, hl => by
    rw [unsubscribeFilters_cons]
    split
    · exact unsubscribeFilters_good rest h hl
    · split
      · exact unsubscribeFilters_good rest h hl
      · split
        · rename_i hnone
          obtain ⟨c, hc⟩ := hl.get
          rw [hc] at hnone; simp at hnone
        · rename_i c hc
          split
          · exact unsubscribeFilters_good (s := { s with subscriptionMap := ainsert f (List.filter (· ≠ id) ‹List Nat›) s.subscriptionMap }) rest (h.of_reads rfl) hl
          · obtain ⟨hu, hn, hl'⟩ := ufState_dinv (ids := ‹List Nat›) (f := f) h hc
            exact (unsubscribeFilters_good rest hu hl').mono fun r q => ⟨q.1, fun e => q.2 (hn e)⟩

/-- a notification is pending only if `newData` is flagged: the batch hands every request woken by an append back to
    its tracker before the connection can be closed -/
def PendingFlagged (r : RState × Flags) : Prop := DInv r.1 ∧ (r.2.newData = false → r.1.notifications = [])

theorem hpPre_good {s : RState} {id : Nat} {p : Pub} {fl : Flags} (h : DInv s) (hl : Live s id) :
    Good (fun r => DInv r.1 ∧ r.1.notifications = s.notifications ∧ r.2.1.newData = fl.newData ∧ Live r.1 id)
      (hpPre s id p fl) := by
  obtain ⟨c, hc⟩ := hl.get
  unfold hpPre
  split
  · gbind (commitAck_good (a := .puback p.pkid) h hl) with s1 h1 q1
    exact ⟨q1.1, q1.2, rfl, hl.shape (commitAck_shape h1)⟩
  · split
    · simp only [hc]
      exact ⟨h.set hc rfl (h.trk id c hc), rfl, rfl,
        Live.of_get ((getConn_of_set (s' := setConn s id _) hc rfl id).trans (if_pos rfl))⟩
    · exact ⟨h, rfl, rfl, hl⟩

/-- a packet other than SUBSCRIBE (whose assertion needs request conservation: `handlePacket_good`) -/
theorem handlePacket_other_good {s : RState} {id : Nat} {cid : String} {pkt : Packet} {fl : Flags}
    (hns : ∀ a b c, pkt ≠ .subscribe a b c) (h : DInv s)
    (hl : Live s id) (hn : fl.newData = false → s.notifications = []) :
    Good PendingFlagged (handlePacket s id cid pkt fl) := by
  -- packet by packet: `id` is live, so no lookup fails; an update of the connection that keeps its tracker keeps
  -- `DInv` (`DInv.set`); only an append wakes requests, and it sets `newData`
  obtain ⟨c, hc⟩ := hl.get
  cases pkt with
  | publish p =>
    rw [handlePacket_publish]
    have hp := hpPre_good (p := p) (fl := fl) h hl
    split
    · rename_i e he; exact Good.error_of he hp
    · rename_i s1 fl1 h1
      have q1 := Good.ok_of h1 hp
      exact ⟨q1.1, fun e => by rw [q1.2.1]; exact hn (q1.2.2.1 ▸ e)⟩
    · rename_i s1 fl1 h1
      have q1 := Good.ok_of h1 hp
      have l1 : Live s1 id := q1.2.2.2
      have ha := appendToCommitlog_good (p := p) q1.1 l1
      split
      · rename_i e he; exact Good.error_of he ha
      · exact ⟨(Good.ok_of ‹_› ha).1, fun e => by simp at e⟩
      · rename_i s2 r h2
        have q2 := Good.ok_of h2 ha
        exact ⟨q2.1, fun e => by rw [q2.2 (by simp), q1.2.1]; exact hn (q1.2.2.1 ▸ e)⟩
      · rename_i s2 h2
        have q2 := Good.ok_of h2 ha
        exact ⟨q2.1, fun e => by rw [q2.2 (by simp), q1.2.1]; exact hn (q1.2.2.1 ▸ e)⟩
  | subscribe pkid subId filters => exact absurd rfl (hns pkid subId filters)
  | unsubscribe pkid filters =>
    simp only [handlePacket, hc]
    have huf := unsubscribeFilters_good (id := id) filters (rs := []) h hl
    split
    · rename_i e he; exact Good.error_of he huf
    · rename_i s1 rs h1
      have q1 := Good.ok_of h1 huf
      have l1 : Live s1 id := hl.shape (unsubscribeFilters_shape filters h1)
      gbind (commitAck_good (a := .unsuback pkid rs) q1.1 l1) with s2 h2 q2
      exact ⟨q2.1, fun e => by rw [q2.2]; exact q1.2 (hn e)⟩
  | puback pkid =>
    simp only [handlePacket, hc]
    have h1 : DInv (setConn s id { c with out := (c.out.registerAck pkid).1 }) :=
      h.set hc rfl (h.trk id c hc)
    split
    · exact ⟨h1, hn⟩
    · have hc1 : getConn ((setConn s id { c with out := (c.out.registerAck pkid).1 }).g (.clientAcked id pkid)) id =
          some { c with out := (c.out.registerAck pkid).1 } := by
        show getConn (setConn s id _) id = _; rw [getConn_of_set hc rfl]; simp
      gbind Total.good (reschedule_total (r := .incomingAck) (h1.of_reads rfl) hc1 (by simp)) with s2 h2 q2
      exact ⟨q2.1, fun e => by rw [q2.2]; exact hn e⟩
  | pubrec pkid =>
    simp only [handlePacket, hc]
    split
    · exact ⟨h.set hc rfl (h.trk id c hc), hn⟩
    · have h1 := h.set (s' := ((setConn s id { c with out := { (c.out.registerAck pkid).1 with unackedPubrels := (c.out.registerAck pkid).1.unackedPubrels ++ [pkid] }, acks := { c.acks with committed := c.acks.committed ++ [Ack.pubrel pkid] } }).g (.clientAcked id pkid)).g (.committed id (.pubrel pkid))) hc rfl (h.trk id c hc)
      have l1 : Live (((setConn s id { c with out := { (c.out.registerAck pkid).1 with unackedPubrels := (c.out.registerAck pkid).1.unackedPubrels ++ [pkid] }, acks := { c.acks with committed := c.acks.committed ++ [Ack.pubrel pkid] } }).g (.clientAcked id pkid)).g (.committed id (.pubrel pkid))) id := by
        unfold Live; show (getConn (setConn s id _) id).isSome = true; rw [getConn_of_set hc rfl]; simp
      obtain ⟨c1, hc1⟩ := l1.get
      gbind (reschedule_total (r := .incomingAck) h1 hc1 (by simp)).good with s2 h2 q2
      exact ⟨q2.1, fun e => by rw [q2.2]; exact hn e⟩
  | pubrel pkid hasProps =>
    · simp only [handlePacket, hc]
      split
      · exact ⟨h.set hc rfl (h.trk id c hc), hn⟩
      · rename_i p rest hrec
        have h1 := h.set (s' := (setConn s id { c with acks := { committed := c.acks.committed ++ [Ack.pubcomp pkid], recorded := rest } }).g (.committed id (.pubcomp pkid))) hc rfl (h.trk id c hc)
        have l1 : Live ((setConn s id { c with acks := { committed := c.acks.committed ++ [Ack.pubcomp pkid], recorded := rest } }).g (.committed id (.pubcomp pkid))) id := by
          unfold Live; show (getConn (setConn s id _) id).isSome = true; rw [getConn_of_set hc rfl]; simp
        have ha := appendToCommitlog_good (p := p) h1 l1
        split
        · rename_i e he; exact Good.error_of he ha
        · rename_i s2 r h2
          have q2 := Good.ok_of h2 ha
          exact ⟨q2.1, fun e => by rw [q2.2 (by simp)]; exact hn e⟩
        · rename_i s2 h2
          have q2 := Good.ok_of h2 ha
          have l2 : Live s2 id := l1.shape (appendToCommitlog_shape h2)
          obtain ⟨c2, hc2⟩ := l2.get
          gbind (reschedule_total (r := .incomingAck) q2.1 hc2 (by simp)).good with s3 h3 q3
          exact ⟨q3.1, fun e => by simp at e⟩
  | pubcomp pkid =>
    simp only [handlePacket, hc]
    have h1 : DInv (setConn s id { c with out := (c.out.registerPubcomp pkid).1 }) :=
      h.set hc rfl (h.trk id c hc)
    split
    · exact ⟨h1, hn⟩
    · exact ⟨h1, hn⟩
  | pingreq =>
    simp only [handlePacket]
    gbind (commitAck_good (a := .pingresp) h hl) with s1 h1 q1
    exact ⟨q1.1, fun e => by rw [q1.2]; exact hn e⟩
  | disconnect =>
    simp only [handlePacket]
    exact ⟨h.of_reads rfl, hn⟩
  | other =>
    simp only [handlePacket]
    exact ⟨h, hn⟩

end Router
