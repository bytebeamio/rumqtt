/-
C20 — `LogsOk n`: what the router model STORES of a publish (filter-log entries, retained messages, QoS 2 publishes
recorded until their PUBREL, topic-alias tables, last wills) is in the range `StoredOk` asks for; `Grow n` carries it.
The optional payload bound `n` makes the frame limit (`FitsForward`) an invariant: the model bounds no payload at `push`.
`StoredP n` is `StoredCore` (`StoredOk` without its `extra` part) with `qos ≤ 2` and the payload bound; `InP`, `WillP` are
the `Prop` forms of `PacketOkD n (.publish _)`, `willOk n`.
-/
import Proofs.Lemmas.Router.Rp16_Emittable
import Proofs.Lemmas.Router.Rp18_StoreFrame
import Proofs.Lemmas.CommitLogBridge
namespace Router
open Encode Codec

def fits (n : Option Nat) (len : Nat) : Bool :=
  match n with
  | none => true
  | some m => decide (len ≤ m)

def StoredCore (p : Pub) : Bool :=
  p.alias.isNone && p.subIds.isEmpty && decide (p.pkid < 65536) && decide (p.topic.length ≤ 65535)

theorem StoredOk_eq (p : Pub) (extra : Props) : StoredOk p extra = (StoredCore p && (p.hasProps || extra.isEmpty)) := rfl

structure StoredP (n : Option Nat) (p : Pub) : Prop where
  core : StoredCore p = true
  qos : p.qos ≤ 2
  size : fits n p.payload.length = true

structure InP (n : Option Nat) (p : Pub) : Prop where
  pkid : p.pkid < 65536
  qos : p.qos ≤ 2
  topic : p.topic.length ≤ 65535
  size : fits n p.payload.length = true

/-- a topic an alias stands for (a later publish with an empty topic takes it): it came through a 16-bit length prefix -/
def TopicP (t : String) : Prop := t.toUTF8.toList.length ≤ 65535

structure WillP (n : Option Nat) (w : Will) : Prop where
  qos : w.qos ≤ 2
  topic : w.topic.length ≤ 65535
  size : fits n w.payload.length = true

def PacketOkD (n : Option Nat) (pkt : Packet) : Bool :=
  PacketOk pkt && (match pkt with | .publish p => fits n p.payload.length | _ => true)

def willOk (n : Option Nat) (w : Will) : Bool :=
  decide (w.qos ≤ 2) && decide (w.topic.length ≤ 65535) && fits n w.payload.length

def OpOkD (n : Option Nat) (op : Op) : Bool :=
  OpOkC op && (match op with
    | .push _ pkt => PacketOkD n pkt
    | .connect spec => (match spec.will with | some w => willOk n w | none => true)
    | _ => true)

def IbufOkD (n : Option Nat) (s : RState) : Prop := ∀ l, ∀ p ∈ (getLink s l).ibuf, PacketOkD n p = true

theorem PacketOkD_ok {n : Option Nat} {pkt : Packet} (h : PacketOkD n pkt = true) : PacketOk pkt = true := by
  simp only [PacketOkD, Bool.and_eq_true] at h; exact h.1

theorem PacketOkD_none (pkt : Packet) : PacketOkD none pkt = PacketOk pkt := by
  cases pkt <;> simp [PacketOkD, fits]

theorem IbufOkD.ibufOk {n : Option Nat} {s : RState} (h : IbufOkD n s) : IbufOk s := fun l p hp => PacketOkD_ok (h l p hp)

theorem IbufOkD_none (s : RState) : IbufOkD none s ↔ IbufOk s := by
  unfold IbufOkD IbufOk; simp only [PacketOkD_none]

theorem OpOkD_opOkC {n : Option Nat} {op : Op} (h : OpOkD n op = true) : OpOkC op = true := by
  simp only [OpOkD, Bool.and_eq_true] at h; exact h.1

theorem PacketOkD_inP {n : Option Nat} {p : Pub} (h : PacketOkD n (.publish p) = true) : InP n p := by
  simp only [PacketOkD, PacketOk, Bool.and_eq_true, decide_eq_true_eq] at h
  exact ⟨h.1.1.1, h.1.1.2, h.1.2, h.2⟩

theorem willOk_willP {n : Option Nat} {w : Will} (h : willOk n w = true) : WillP n w := by
  simp only [willOk, Bool.and_eq_true, decide_eq_true_eq] at h
  exact ⟨h.1.1, h.1.2, h.2⟩

def logItems (l : CLog.Log Pub) : List Pub := l.segs.flatMap (·.data)

def InLogs (s : RState) (p : Pub) : Prop := ∃ l ∈ s.datalog.native.map (·.log), p ∈ logItems l
def InRetained (s : RState) (p : Pub) : Prop := ∃ t, (t, p) ∈ s.datalog.retained
def InRecorded (s : RState) (p : Pub) : Prop := ∃ id c, getConn s id = some c ∧ p ∈ c.acks.recorded
def InAliases (s : RState) (t : String) : Prop := ∃ id c a, getConn s id = some c ∧ (a, t) ∈ c.topicAliases
def InWills (s : RState) (w : Will) : Prop := ∃ cid, (cid, w) ∈ s.lastWills

theorem mem_logItems {l : CLog.Log Pub} {p : Pub} : p ∈ logItems l ↔ ∃ sg ∈ l.segs, p ∈ sg.data := by
  unfold logItems; simp only [List.mem_flatMap]

theorem logItems_new (a b : Nat) : logItems (CLog.Log.new a b) = [] := rfl

theorem logItems_append {l : CLog.Log Pub} {x p : Pub} {sz : Nat} (h : p ∈ logItems (l.append x sz).1) :
    p = x ∨ p ∈ logItems l := by
  obtain ⟨sg, hsg, hp⟩ := mem_logItems.mp h
  rcases CLog.Log.append_mem l x sz sg hsg p hp with h | h
  · exact .inl h
  · exact .inr (mem_logItems.mpr h)

theorem readv_logItems (l : CLog.Log Pub) (c : Cursor) (k : Nat) : ∀ e ∈ (l.readv c k).1, e.1 ∈ logItems l :=
  fun e he => mem_logItems.mpr (CLog.Log.readv_mem l c k e he)

structure LogsOk (n : Option Nat) (s : RState) : Prop where
  logs : ∀ p, InLogs s p → StoredP n p
  retained : ∀ p, InRetained s p → StoredP n p
  recorded : ∀ p, InRecorded s p → InP n p
  aliases : ∀ t, InAliases s t → TopicP t
  wills : ∀ w, InWills s w → WillP n w

structure Grow (n : Option Nat) (s s' : RState) : Prop where
  logs : ∀ p, InLogs s' p → StoredP n p ∨ InLogs s p
  retained : ∀ p, InRetained s' p → StoredP n p ∨ InRetained s p
  recorded : ∀ p, InRecorded s' p → InP n p ∨ InRecorded s p
  aliases : ∀ t, InAliases s' t → TopicP t ∨ InAliases s t
  wills : ∀ w, InWills s' w → WillP n w ∨ InWills s w

theorem Grow.refl (n : Option Nat) (s : RState) : Grow n s s :=
  ⟨fun _ h => .inr h, fun _ h => .inr h, fun _ h => .inr h, fun _ h => .inr h, fun _ h => .inr h⟩

theorem Grow.trans {n : Option Nat} {a b c : RState} (h1 : Grow n a b) (h2 : Grow n b c) : Grow n a c :=
  ⟨fun p h => (h2.logs p h).elim .inl (h1.logs p), fun p h => (h2.retained p h).elim .inl (h1.retained p),
   fun p h => (h2.recorded p h).elim .inl (h1.recorded p), fun p h => (h2.aliases p h).elim .inl (h1.aliases p),
   fun p h => (h2.wills p h).elim .inl (h1.wills p)⟩

theorem LogsOk.grow {n : Option Nat} {s s' : RState} (h : LogsOk n s) (g : Grow n s s') : LogsOk n s' :=
  ⟨fun p hp => (g.logs p hp).elim id (h.logs p), fun p hp => (g.retained p hp).elim id (h.retained p),
   fun p hp => (g.recorded p hp).elim id (h.recorded p), fun p hp => (g.aliases p hp).elim id (h.aliases p),
   fun p hp => (g.wills p hp).elim id (h.wills p)⟩

theorem LogsOk.init (n : Option Nat) (cfg : Config) : LogsOk n (init cfg) := by
  refine ⟨fun p h => ?_, fun p h => ?_, fun p h => ?_, fun t h => ?_, fun w h => ?_⟩
  · obtain ⟨l, hl, _⟩ := h; simp [Router.init] at hl
  · obtain ⟨t, ht⟩ := h; simp [Router.init] at ht
  · obtain ⟨id, c, hc, _⟩ := h; simp [getConn_init] at hc
  · obtain ⟨id, c, a, hc, _⟩ := h; simp [getConn_init] at hc
  · obtain ⟨cid, hc⟩ := h; simp [Router.init] at hc

theorem InLogs.of_eq {s s' : RState} (hl : s'.datalog.native.map (·.log) = s.datalog.native.map (·.log)) {p : Pub}
    (h : InLogs s' p) : InLogs s p := by unfold InLogs at h ⊢; rw [← hl]; exact h

theorem InRetained.of_eq {s s' : RState} (hr : s'.datalog.retained = s.datalog.retained) {p : Pub}
    (h : InRetained s' p) : InRetained s p := by unfold InRetained at h ⊢; rw [← hr]; exact h

theorem InWills.of_eq {s s' : RState} (hw : s'.lastWills = s.lastWills) {w : Will} (h : InWills s' w) : InWills s w := by
  unfold InWills at h ⊢; rw [← hw]; exact h

theorem InRecorded.of_eq {s s' : RState} (hc : s'.conns = s.conns) {p : Pub} (h : InRecorded s' p) :
    InRecorded s p := by
  obtain ⟨id, c, h1, h2⟩ := h; exact ⟨id, c, getConn_congr hc id ▸ h1, h2⟩

theorem InAliases.of_eq {s s' : RState} (hc : s'.conns = s.conns) {t : String} (h : InAliases s' t) :
    InAliases s t := by
  obtain ⟨id, c, a, h1, h2⟩ := h; exact ⟨id, c, a, getConn_congr hc id ▸ h1, h2⟩

theorem Grow.of_conns {n : Option Nat} {s s' : RState} (hc : s'.conns = s.conns)
    (hl : s'.datalog.native.map (·.log) = s.datalog.native.map (·.log))
    (hr : s'.datalog.retained = s.datalog.retained) (hw : s'.lastWills = s.lastWills) : Grow n s s' :=
  ⟨fun _ h => .inr (h.of_eq hl), fun _ h => .inr (h.of_eq hr), fun _ h => .inr (h.of_eq hc),
   fun _ h => .inr (h.of_eq hc), fun _ h => .inr (h.of_eq hw)⟩

theorem Grow.of_setg {n : Option Nat} {s s' : RState} {id : Nat} {c c' : Conn} (hc : getConn s id = some c)
    (hconns : s'.conns = s.conns.set id c')
    (hrec : ∀ p ∈ c'.acks.recorded, InP n p ∨ p ∈ c.acks.recorded)
    (hal : ∀ q ∈ c'.topicAliases, TopicP q.2 ∨ q ∈ c.topicAliases)
    (hl : s'.datalog.native.map (·.log) = s.datalog.native.map (·.log))
    (hr : s'.datalog.retained = s.datalog.retained) (hw : s'.lastWills = s.lastWills) : Grow n s s' := by
  have hget : ∀ j d, getConn s' j = some d → (j = id ∧ d = c') ∨ getConn s j = some d := fun j d h => by
    rw [getConn_of_set hc hconns] at h
    split at h
    · exact .inl ⟨‹_›, (Option.some.inj h).symm⟩
    · exact .inr h
  refine ⟨fun _ h => .inr (h.of_eq hl), fun _ h => .inr (h.of_eq hr), fun p h => ?_, fun t h => ?_,
    fun _ h => .inr (h.of_eq hw)⟩
  · obtain ⟨j, d, h1, h2⟩ := h
    rcases hget j d h1 with ⟨rfl, rfl⟩ | h3
    · exact (hrec p h2).elim .inl fun h3 => .inr ⟨j, c, hc, h3⟩
    · exact .inr ⟨j, d, h3, h2⟩
  · obtain ⟨j, d, a, h1, h2⟩ := h
    rcases hget j d h1 with ⟨rfl, rfl⟩ | h3
    · exact (hal (a, t) h2).elim .inl fun h3 => .inr ⟨j, c, a, hc, h3⟩
    · exact .inr ⟨j, d, a, h3, h2⟩

theorem Grow.of_set {n : Option Nat} {s s' : RState} {id : Nat} {c c' : Conn} (hc : getConn s id = some c)
    (hconns : s'.conns = s.conns.set id c') (hrec : c'.acks.recorded = c.acks.recorded)
    (hal : c'.topicAliases = c.topicAliases)
    (hl : s'.datalog.native.map (·.log) = s.datalog.native.map (·.log))
    (hr : s'.datalog.retained = s.datalog.retained) (hw : s'.lastWills = s.lastWills) : Grow n s s' :=
  Grow.of_setg hc hconns (fun p hp => .inr (by rw [← hrec]; exact hp)) (fun q hq => .inr (by rw [← hal]; exact hq)) hl hr hw

theorem Grow.of_native_set {n : Option Nat} {s s' : RState} {i : Nat} {fd fd' : FilterData}
    (hfd : s.datalog.native[i]? = some fd) (hc : s'.conns = s.conns)
    (hnat : s'.datalog.native = s.datalog.native.set i fd') (hlog : fd'.log = fd.log)
    (hr : s'.datalog.retained = s.datalog.retained) (hw : s'.lastWills = s.lastWills) : Grow n s s' :=
  Grow.of_conns hc (by rw [hnat]; exact map_set_same hfd hlog) hr hw

end Router
