/-
Request conservation: for every connection, the data requests it owns — in its tracker, parked in the waiter lists of
the filter logs, or on their way back in `notifications` — are at most one per filter, belong to a subscription of the
connection, and carry the index of their filter's log; a saved session's tracker satisfies the same. This is what the
two dev-profile assertions `debug_assert!(check_tracker_duplicates(..).is_none())` check.
The statements speak of keys `(filter, filter_idx)`; the proofs go through the requests themselves (`held`, Rp4_Held),
of which the keys are the image (`keysOf_eq`).
-/
import Proofs.Lemmas.Router.Base.Slab
import Proofs.Lemmas.Router.Base.Basic
namespace Router

abbrev RKey := String × Nat

/-- what the invariant reads of a request: the filter and the index of the filter's log (cursor,
    QoS, replay flag change along the way) -/
def DataRequest.key (r : DataRequest) : RKey := (r.filter, r.filterIdx)

def pickK (id : Nat) (l : List (Nat × DataRequest)) : List RKey :=
  (l.filter (fun w => w.1 == id)).map (fun w => w.2.key)

def trackerKeys (s : RState) (id : Nat) : List RKey :=
  match getConn s id with
  | some c => c.tracker.requests.map (·.key)
  | none => []

def waiterKeys (s : RState) (id : Nat) : List RKey := s.datalog.native.flatMap (fun fd => pickK id fd.waiters)
def notifKeys (s : RState) (id : Nat) : List RKey := pickK id s.notifications

def keysOf (s : RState) (id : Nat) : List RKey := trackerKeys s id ++ waiterKeys s id ++ notifKeys s id

def subsOf (s : RState) (id : Nat) : List String :=
  match getConn s id with
  | some c => c.subscriptions
  | none => []

theorem subsOf_live {s : RState} {id : Nat} {c : Conn} (hc : getConn s id = some c) : subsOf s id = c.subscriptions := by
  unfold subsOf; rw [hc]

theorem subsOf_none {s : RState} {id : Nat} (hc : getConn s id = none) : subsOf s id = [] := by
  unfold subsOf; rw [hc]

theorem mem_subsOf {s : RState} {id : Nat} {f : String} :
    f ∈ subsOf s id ↔ ∃ c, getConn s id = some c ∧ f ∈ c.subscriptions := by
  unfold subsOf; cases getConn s id <;> simp

theorem subsOf_congr {s s' : RState} {j : Nat} (h : getConn s' j = getConn s j) : subsOf s' j = subsOf s j := by
  unfold subsOf; rw [h]

/-- `hget`: what `getConn_of_set` says of the new state -/
theorem subsOf_set {s s' : RState} {id : Nat} {c' : Conn}
    (hget : ∀ j, getConn s' j = if j = id then some c' else getConn s j) (j : Nat) :
    subsOf s' j = if j = id then c'.subscriptions else subsOf s j := by
  unfold subsOf; rw [hget]
  by_cases hj : j = id <;> simp only [hj, if_true, if_false]

/-- the key's index is the index of the log its filter reads (`$share/<g>/<path>` reads `<path>`);
    `fi`: `datalog.filter_indexes` -/
def KeyOK (fi : List (String × Nat)) (k : RKey) : Prop := alookup (logPath k.1) fi = some k.2

theorem pickK_nil (id : Nat) : pickK id [] = [] := rfl

theorem pickK_cons (id : Nat) (w : Nat × DataRequest) (l : List (Nat × DataRequest)) :
    pickK id (w :: l) = if w.1 = id then w.2.key :: pickK id l else pickK id l := by
  unfold pickK
  by_cases h : w.1 = id
  · simp [h]
  · simp [h]

theorem mem_pickK {id : Nat} {l : List (Nat × DataRequest)} {k : RKey} :
    k ∈ pickK id l ↔ ∃ w ∈ l, w.1 = id ∧ w.2.key = k := by
  simp [pickK, List.mem_map, List.mem_filter, and_assoc]

theorem pickK_filter_other (id : Nat) (l : List (Nat × DataRequest)) (p : Nat × DataRequest → Bool)
    (hp : ∀ w ∈ l, w.1 = id → p w = true) : pickK id (l.filter p) = pickK id l := by
  induction l with
  | nil => rfl
  | cons w l ih =>
    have ih' := ih fun x hx => hp x (List.mem_cons_of_mem _ hx)
    by_cases hw : w.1 = id
    · have := hp w (by simp) hw
      simp only [List.filter_cons, this, if_true, pickK_cons, hw, ih']
    · by_cases hpw : p w = true
      · simp only [List.filter_cons, hpw, if_true, pickK_cons, hw, if_false, ih']
      · simp only [List.filter_cons, hpw, Bool.false_eq_true, if_false, pickK_cons, hw, ih']

/-- on abstract data: `K id` the keys connection `id` owns, `S id` its subscriptions, `fi` the filter index map -/
structure KInv (K : Nat → List RKey) (S : Nat → List String) (fi : List (String × Nat)) : Prop where
  /-- at most one request per filter -/
  nodup : ∀ id, ((K id).map (·.1)).Nodup
  /-- only for subscribed filters (in particular none for an id without connection) -/
  subs : ∀ id, ∀ k ∈ K id, k.1 ∈ S id
  idx : ∀ id, ∀ k ∈ K id, KeyOK fi k

def SavedOK (fi : List (String × Nat)) (ss : SessionState) : Prop :=
  ((ss.tracker.requests.map (·.filter)).Nodup) ∧
  ∀ r ∈ ss.tracker.requests, r.filter ∈ ss.subscriptions ∧ KeyOK fi r.key

def WIdx (s : RState) : Prop :=
  ∀ (i : Nat) (fd : FilterData), s.datalog.native[i]? = some fd → ∀ w ∈ fd.waiters, w.2.filterIdx = i

/-- request conservation with a list `ex` of keys that connection `o` holds outside the state (the
    local `requests` / `skipped` of `consume`) -/
structure RCX (s : RState) (o : Nat) (ex : List RKey) : Prop where
  k : KInv (fun id => keysOf s id ++ (if id = o then ex else [])) (subsOf s) s.datalog.filterIndexes
  widx : WIdx s
  grv : ∀ p ∈ s.graveyard, ∀ ss, p.2 = some ss → SavedOK s.datalog.filterIndexes ss

def RC (s : RState) : Prop := RCX s 0 []

theorem KInv.of_sub {K K' : Nat → List RKey} {S S' : Nat → List String} {fi fi' : List (String × Nat)}
    (h : KInv K S fi) (hp : ∀ id, ∃ rem, (K id).Perm (K' id ++ rem))
    (hs : ∀ id, ∀ k ∈ K' id, k.1 ∈ S id → k.1 ∈ S' id)
    (hf : ∀ k, KeyOK fi k → KeyOK fi' k) : KInv K' S' fi' := by
  refine ⟨fun id => ?_, fun id k hk => ?_, fun id k hk => ?_⟩
  · obtain ⟨rem, p⟩ := hp id
    have := ((p.map (·.1)).nodup_iff).mp (h.nodup id)
    rw [List.map_append] at this
    exact (List.nodup_append.mp this).1
  · obtain ⟨rem, p⟩ := hp id
    exact hs id k hk (h.subs id k (p.mem_iff.mpr (List.mem_append_left _ hk)))
  · obtain ⟨rem, p⟩ := hp id
    exact hf k (h.idx id k (p.mem_iff.mpr (List.mem_append_left _ hk)))

theorem KInv.of_perm {K K' : Nat → List RKey} {S : Nat → List String} {fi : List (String × Nat)}
    (h : KInv K S fi) (hp : ∀ id, (K' id).Perm (K id)) : KInv K' S fi :=
  h.of_sub (fun id => ⟨[], by rw [List.append_nil]; exact (hp id).symm⟩) (fun _ _ _ hs => hs) fun _ hk => hk

theorem RC.iff (s : RState) : RC s ↔ KInv (keysOf s) (subsOf s) s.datalog.filterIndexes ∧ WIdx s ∧
    ∀ p ∈ s.graveyard, ∀ ss, p.2 = some ss → SavedOK s.datalog.filterIndexes ss := by
  constructor
  · intro h
    refine ⟨h.k.of_perm fun id => ?_, h.widx, h.grv⟩
    simp
  · intro ⟨a, b, c⟩
    exact ⟨a.of_perm fun id => by simp, b, c⟩

/-- the part of a connection the invariant reads -/
def cviewOf (s : RState) (j : Nat) : Option (List RKey × List String) :=
  (getConn s j).map (fun c => (c.tracker.requests.map (·.key), c.subscriptions))

theorem trackerKeys_of_cview {s s' : RState} {j : Nat} (h : cviewOf s' j = cviewOf s j) :
    trackerKeys s' j = trackerKeys s j ∧ subsOf s' j = subsOf s j := by
  unfold cviewOf at h
  unfold trackerKeys subsOf
  cases h1 : getConn s' j <;> cases h2 : getConn s j <;> simp_all

theorem waiterKeys_of_waiters {s s' : RState}
    (hw : s'.datalog.native.map (·.waiters) = s.datalog.native.map (·.waiters)) (id : Nat) :
    waiterKeys s' id = waiterKeys s id := by
  unfold waiterKeys
  have := congrArg (fun l => l.flatMap (fun ws => pickK id ws)) hw
  simpa [flatMap_map_eq] using this

theorem keysOf_congr {s s' : RState} {j : Nat} (ht : trackerKeys s' j = trackerKeys s j)
    (hw : s'.datalog.native.map (·.waiters) = s.datalog.native.map (·.waiters))
    (hn : s'.notifications = s.notifications) : keysOf s' j = keysOf s j := by
  unfold keysOf notifKeys; rw [ht, waiterKeys_of_waiters hw, hn]

theorem WIdx.of_waiters {s s' : RState}
    (hw : s'.datalog.native.map (·.waiters) = s.datalog.native.map (·.waiters)) (h : WIdx s) : WIdx s' := by
  intro i fd hfd w hw'
  have e : (s'.datalog.native.map (·.waiters))[i]? = some fd.waiters := by simp [hfd]
  rw [hw] at e
  simp only [List.getElem?_map, Option.map_eq_some_iff] at e
  obtain ⟨fd0, h0, e0⟩ := e
  exact h i fd0 h0 w (e0 ▸ hw')

theorem RCX.congr {s s' : RState} {o : Nat} {ex : List RKey} (h : RCX s o ex)
    (hc : ∀ j, cviewOf s' j = cviewOf s j)
    (hw : s'.datalog.native.map (·.waiters) = s.datalog.native.map (·.waiters))
    (hn : s'.notifications = s.notifications) (hg : s'.graveyard = s.graveyard)
    (hf : s'.datalog.filterIndexes = s.datalog.filterIndexes) : RCX s' o ex := by
  have hk : ∀ id, keysOf s' id = keysOf s id := fun id => keysOf_congr (trackerKeys_of_cview (hc id)).1 hw hn
  have hs : subsOf s' = subsOf s := funext fun id => (trackerKeys_of_cview (hc id)).2
  refine ⟨?_, h.widx.of_waiters hw, by rw [hg, hf]; exact h.grv⟩
  rw [hf, hs]; simp only [hk]; exact h.k

theorem RC.congr {s s' : RState} (h : RC s)
    (hc : ∀ j, cviewOf s' j = cviewOf s j)
    (hw : s'.datalog.native.map (·.waiters) = s.datalog.native.map (·.waiters))
    (hn : s'.notifications = s.notifications) (hg : s'.graveyard = s.graveyard)
    (hf : s'.datalog.filterIndexes = s.datalog.filterIndexes) : RC s' := RCX.congr h hc hw hn hg hf

end Router
