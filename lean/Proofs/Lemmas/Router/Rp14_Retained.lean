/-
C15 over runs: what the fold of the C15 rule over the accepted publishes computes, and that the replay flag of THE
request of `(a, f)`, once cleared, stays cleared.
-/
import Proofs.Lemmas.Router.Rp2_Fwd
import Proofs.Lemmas.Router.Rp2_Reach
import Proofs.Lemmas.Router.Rp7_Run
namespace Router
open Router.Rp3

def NoRetainedOn (t : String) (l : List (Option Nat × Pub × String)) : Prop := ∀ e ∈ l, e.2.2 = t → e.2.1.retain = false

theorem retainedSpec_some_iff (t : String) (p : Pub) : ∀ (acc : List (Option Nat × Pub × String)) (cur : Option Pub),
    retainedSpec t cur acc = some p ↔
      (∃ pre i post, acc = pre ++ (i, p, t) :: post ∧ p.retain = true ∧ p.payload.isEmpty = false ∧ NoRetainedOn t post) ∨
      (cur = some p ∧ NoRetainedOn t acc)
  | [], cur => by
    simp only [retainedSpec, List.foldl_nil]
    constructor
    · intro h; exact .inr ⟨h, fun _ h => absurd h List.not_mem_nil⟩
    · rintro (⟨pre, i, post, e, _⟩ | ⟨h, _⟩)
      · cases pre <;> cases e
      · exact h
  | e :: acc, cur => by
    have hcons : retainedSpec t cur (e :: acc) = retainedSpec t (retainedStep t cur e) acc := rfl
    rw [hcons, retainedSpec_some_iff t p acc]
    constructor
    · rintro (⟨pre, i, post, he, h1, h2, h3⟩ | ⟨hstep, hnr⟩)
      · exact .inl ⟨e :: pre, i, post, by rw [he]; rfl, h1, h2, h3⟩
      · unfold retainedStep at hstep
        by_cases ht : e.2.2 = t
        · simp only [ht, if_true] at hstep
          by_cases hr : e.2.1.retain = true
          · simp only [hr, if_true] at hstep
            by_cases hp : e.2.1.payload.isEmpty = true
            · simp [hp] at hstep
            · simp only [hp, Bool.false_eq_true, if_false, Option.some.injEq] at hstep
              refine .inl ⟨[], e.1, acc, ?_, hstep ▸ hr, by rw [← hstep]; simpa using hp, hnr⟩
              obtain ⟨i, q, t'⟩ := e
              simp only [] at ht hstep
              subst ht; subst hstep; rfl
          · have hr' : e.2.1.retain = false := by simpa using hr
            simp only [hr', Bool.false_eq_true, if_false] at hstep
            refine .inr ⟨hstep, fun x hx hxt => ?_⟩
            rcases List.mem_cons.mp hx with rfl | hx
            · exact hr'
            · exact hnr x hx hxt
        · simp only [ht, if_false] at hstep
          refine .inr ⟨hstep, fun x hx hxt => ?_⟩
          rcases List.mem_cons.mp hx with rfl | hx
          · exact absurd hxt ht
          · exact hnr x hx hxt
    · rintro (⟨pre, i, post, he, h1, h2, h3⟩ | ⟨hcur, hnr⟩)
      · cases pre with
        | nil =>
          simp only [List.nil_append, List.cons.injEq] at he
          obtain ⟨rfl, rfl⟩ := he
          refine .inr ⟨?_, h3⟩
          simp [retainedStep, h1, h2]
        | cons x pre' =>
          simp only [List.cons_append, List.cons.injEq] at he
          exact .inl ⟨pre', i, post, he.2, h1, h2, h3⟩
      · refine .inr ⟨?_, fun x hx => hnr x (List.mem_cons_of_mem _ hx)⟩
        unfold retainedStep
        by_cases ht : e.2.2 = t
        · have := hnr e List.mem_cons_self ht
          simp [ht, this, hcur]
        · simp [ht, hcur]


theorem reqRun_flag {idx : Nat} {s s2 : RState} {req req2 : DataRequest} {offs : List Nat}
    (hrun : ReqRun idx s req offs s2 req2) : req.forwardRetained = false → req2.forwardRetained = false := by
  induction hrun with
  | done s req => exact fun h => h
  | other _ _ ih => exact ih
  | @sweep s s1 s2 id c req req1 req2 st offs more hc _ _ h _ _ ih =>
    intro hfl
    apply ih
    rcases (forwardDeviceData_spec hc h).flag with ⟨_, _, e⟩ | ⟨_, e⟩
    · rw [e]; exact hfl
    · exact e

/-- the premises are those of `delivery_is_prefix` -/
theorem run_thread_flag {cfg : Config} (h1 : 1 ≤ cfg.maxSegmentSize) (h2 : 1 ≤ cfg.maxSegmentCount)
    (hpos : 0 < cfg.maxOutgoingPacketCount) {a : Nat} {cid f : String}
    (ops : List (Op × List Choice)) {s s2 : RState} {r : DataRequest} (hr : Reachable cfg s) (h : run s ops = .ok s2)
    (hno : NoOverflow s2) (hq : QuietRun a cid f s ops) (hown : Own s a r) (hf : r.filter = f) (hg : r.group = none) :
    ∃ r2, Own s2 a r2 ∧ r2.filter = f ∧ r2.group = none ∧ (r.forwardRetained = false → r2.forwardRetained = false) :=
  run_thread_of h1 h2 hpos (T := fun r _ r' => r.forwardRetained = false → r'.forwardRetained = false)
    (fun _ h => h) (fun k1 k2 h => k2 (k1 h)) (fun _ _ hrun => reqRun_flag hrun) ops hr h hno hq hown hf hg

end Router
