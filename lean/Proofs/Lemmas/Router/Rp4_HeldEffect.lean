/-
What each function of the model does to `held`, one description per function. A sweep changes of a request only cursor
and replay flag (`DataRequest.sig` is the rest), so `consume` hands back what it took.
-/
import Proofs.Lemmas.Router.Rp4_Held
import Proofs.Lemmas.Router.Base.Adm
import Proofs.Lemmas.Router.Base.Session
import Proofs.Lemmas.Router.Base.Walk
namespace Router

def DataRequest.sig (r : DataRequest) : String × Nat × Option String := (r.filter, r.filterIdx, r.group)

theorem forwardDeviceData_sig {s s' : RState} {id : Nat} {req req' : DataRequest} {st : ConsumeStatus}
    (h : forwardDeviceData s id req = .ok (s', req', st)) : req'.sig = req.sig := by
  obtain ⟨a, b, d, _⟩ := forwardDeviceData_fields h
  unfold DataRequest.sig; rw [a, b, d]

/-- with the requests `l` that `consume` holds for connection `o` outside the state -/
def heldX (s : RState) (o : Nat) (l : List DataRequest) (j : Nat) : List DataRequest := held s j ++ oneRq o l j

/-- the request loop: the signatures held, the loop's own requests included, stay (`H`); what is in the state stays as
    it is (`A`); the rest is that of `s0` -/
structure LoopHeld (id : Nat) (H : Nat → List (String × Nat × Option String)) (A : Nat → List DataRequest)
    (s0 : RState) (s : RState) (l : List DataRequest) : Prop where
  sigs : ∀ j, ((heldX s id l j).map (·.sig)).Perm (H j)
  kept : ∀ j, ∀ x ∈ A j, x ∈ held s j
  same : (∀ j, subsOf s j = subsOf s0 j) ∧ s.graveyard = s0.graveyard ∧ s.config = s0.config ∧
    s.datalog.filterIndexes = s0.datalog.filterIndexes

theorem LoopHeld.move {id : Nat} {H A s0} {s s' : RState} {l l' : List DataRequest} {add : Nat → List DataRequest}
    (h : LoopHeld id H A s0 s l) (m : Held s s' add noRq)
    (hp : ∀ j, ((add j ++ oneRq id l' j).map (·.sig)).Perm ((oneRq id l j).map (·.sig))) : LoopHeld id H A s0 s' l' := by
  refine ⟨fun j => List.Perm.trans ?_ (h.sigs j), fun j x hx => ?_,
    fun j => (m.subs j).trans (h.same.1 j), m.grv.trans h.same.2.1, m.cfg.trans h.same.2.2.1, m.fi.trans h.same.2.2.2⟩
  · have p1 := (m.held j).map (·.sig)
    have p2 : ((oneRq id l j).map (·.sig) ++ (noRq j).map (·.sig)).Perm ((add j).map (·.sig) ++ (oneRq id l' j).map (·.sig)) := by
      simpa only [noRq, List.map_nil, List.append_nil, List.map_append] using (hp j).symm
    unfold heldX
    simp only [List.map_append] at p1 ⊢
    exact perm_rebalance p1 p2
  · have := (m.held j).mem_iff (a := x)
    simp only [noRq, List.append_nil, List.mem_append] at this
    exact this.mpr (.inl (h.kept j x hx))

theorem consumeLoop_held {id : Nat} (fuel : Nat) {s s' : RState} {requests skipped : List DataRequest}
    (hc : consumeLoop s id fuel requests skipped = .ok s') :
    (∀ j, ((held s' j).map (·.sig)).Perm ((heldX s id (requests ++ skipped) j).map (·.sig))) ∧
    (∀ j, ∀ x ∈ held s j, x ∈ held s' j) ∧
    (∀ j, subsOf s' j = subsOf s j) ∧ s'.graveyard = s.graveyard ∧ s'.config = s.config ∧
    s'.datalog.filterIndexes = s.datalog.filterIndexes := by
  have sweep : ∀ {H : Nat → List (String × Nat × Option String)} {s1 s2 : RState} {req req1 : DataRequest}
      {st : ConsumeStatus} {l : List DataRequest},
      forwardDeviceData s1 id req = .ok (s2, req1, st) → LoopHeld id H (held s) s s1 (req :: l) →
      LoopHeld id H (held s) s (noteTurn s1 s2 req1) (req1 :: l) := fun {H s1 s2 req req1 st l} h1 h =>
    h.move ((Held.sweepClosed.forwardDeviceData h1).nn (Held.connClosed.noteTurn s1 s2 req1)) fun j => by
      unfold oneRq noRq; split
      · simp only [List.nil_append, List.map_cons, forwardDeviceData_sig h1]; exact .refl _
      · exact .refl _
  obtain ⟨s0, l, h0, ht⟩ := consumeLoop_inv (P := LoopHeld id (fun j => (heldX s id (requests ++ skipped) j).map (·.sig)) (held s) s)
    (fun hp h => h.move (Held.refl _) fun j => by
      unfold oneRq noRq; split
      · exact (hp.map _)
      · exact .refl _)
    (fun hp h => h.move (Held.connClosed.pause hp) fun j => .refl _) sweep
    (fun h1 h3 h => (sweep h1 h).move (park_held h3) fun j => by
      unfold oneRq; split
      · simp only [List.map_append, List.map_cons, List.map_nil]; exact .refl _
      · exact .refl _)
    fuel hc ⟨fun j => .refl _, fun _ _ h => h, fun _ => rfl, rfl, rfl, rfl⟩
  have hf := h0.move (l' := []) (trackv_held ht) fun j => by
    unfold oneRq; split <;> simp
  exact ⟨fun j => by simpa [heldX, oneRq] using hf.sigs j, hf.kept, hf.same⟩

theorem held_takeRequests {s : RState} {id : Nat} {c : Conn} (rq : List Nat) (hc : getConn s id = some c) (j : Nat) :
    held (Walk.takeRequests s id c rq) j = if j = id then parked s j ++ pick j s.notifications else held s j := by
  unfold held
  have : tracked (Walk.takeRequests s id c rq) j = if j = id then [] else tracked s j := by
    unfold tracked; rw [Walk.takeRequests_getConn rq hc]
    by_cases hj : j = id <;> simp only [hj, if_true, if_false]
  rw [this]
  by_cases hj : j = id <;> simp only [hj, if_true, if_false, List.nil_append] <;> rfl

theorem consume_held {s s' : RState} {b : Bool} (h : consume s = .ok (s', b)) :
    (∀ j, ((held s' j).map (·.sig)).Perm ((held s j).map (·.sig))) ∧
    (∀ j, subsOf s' j = subsOf s j) ∧ s'.graveyard = s.graveyard ∧ s'.config = s.config ∧
    s'.datalog.filterIndexes = s.datalog.filterIndexes := by
  rcases Walk.consume_cases h with ⟨_, _, rfl⟩ | ⟨id, rq, c, s1, _, hcn, _, h1, h2⟩
  · exact ⟨fun j => .refl _, fun _ => rfl, rfl, rfl, rfl⟩
  · have m1 : Held s (ackDeviceData (Walk.takeRequests s id c rq) id) (fun j => oneRq id [] j ++ noRq j)
        (fun j => noRq j ++ oneRq id c.tracker.requests j) := (Held.tracker_set (s' := Walk.takeRequests s id c rq)
      (c' := { c with tracker := { c.tracker with requests := [] } }) hcn rfl rfl rfl rfl rfl rfl rfl).trans
      (Held.connClosed.ackDeviceData _ id)
    obtain ⟨l1, _, l3, l4, l5, l6⟩ := consumeLoop_held _ h1
    have m4 := Held.closed.wakeTurnMoved h2
    refine ⟨fun j => ?_, fun j => (m4.subs j).trans ((l3 j).trans (m1.subs j)), m4.grv.trans (l4.trans m1.grv),
      m4.cfg.trans (l5.trans m1.cfg), m4.fi.trans (l6.trans m1.fi)⟩
    have p1 := (m1.held j).map (·.sig)
    have p4 := (m4.held j).map (·.sig)
    have p3 := l1 j
    have e0 : oneRq id ([] : List DataRequest) j = [] := by unfold oneRq; split <;> rfl
    unfold heldX at p3
    simp only [noRq, List.append_nil, List.nil_append, e0] at p1 p3 p4
    -- the state lost the tracked requests of `id` (`p1`); the loop hands them back, cursors aside (`p3`)
    exact (p4.trans p3).trans p1

theorem key_of_sig (r : DataRequest) : r.key = (r.sig.1, r.sig.2.1) := rfl

theorem keysOf_perm_of_sigs {s s' : RState} {j : Nat} (h : ((held s' j).map (·.sig)).Perm ((held s j).map (·.sig))) :
    (keysOf s' j).Perm (keysOf s j) := by
  have := h.map (fun g : String × Nat × Option String => (g.1, g.2.1))
  simpa only [keysOf_eq, List.map_map, Function.comp_def, ← key_of_sig] using this

theorem held_of_new_log {s s' : RState} {fd : FilterData} (hw : fd.waiters = []) (hc : s'.conns = s.conns)
    (hnat : s'.datalog.native = s.datalog.native ++ [fd]) (hn : s'.notifications = s.notifications) (j : Nat) :
    held s' j = held s j := by
  unfold held tracked parked getConn
  rw [hc, hnat, hn, List.flatMap_append]
  simp only [List.flatMap_cons, List.flatMap_nil, hw, pick_nil, List.append_nil]

theorem held_of_set {s s' : RState} {id : Nat} {c c' : Conn} (hc : getConn s id = some c)
    (hconns : s'.conns = s.conns.set id c') (hr : c'.tracker.requests = c.tracker.requests)
    (hnat : s'.datalog.native = s.datalog.native) (hntf : s'.notifications = s.notifications) (j : Nat) :
    held s' j = held s j := by
  unfold held parked
  rw [tracked_of_set hc hconns, hnat, hntf]
  by_cases hj : j = id
  · subst hj; simp only [if_true, hr]; unfold tracked; rw [hc]
  · simp only [hj, if_false]

/-- a new subscription up to where `prepare_filter` reschedules and asserts (conservation is needed there) -/
theorem pfTrack_held {s s3 : RState} {id : Nat} {c : Conn} {cursor : Cursor} {idx : Nat} {f : SubFilter}
    {group : Option String} {subId : Option Nat} (hc : getConn s id = some c)
    (h3 : track (setConn ((pfState s id cursor f.path group c.clientId).g (.subscribed id f.path f.qos idx cursor group true)) id
      { pfConn c f.path subId with subscriptions := c.subscriptions ++ [f.path] }) id (pfReq idx f cursor group) = .ok s3) :
    (∀ j, (held s3 j).Perm (held s j ++ if j = id then [pfReq idx f cursor group] else [])) ∧
    s3.datalog = s.datalog ∧
    (∀ j, subsOf s3 j = if j = id then subsOf s id ++ [f.path] else subsOf s j) ∧
    s3.graveyard = s.graveyard ∧ s3.config = s.config := by
  have m := track_held h3
  have e2 := held_of_set (s' := setConn ((pfState s id cursor f.path group c.clientId).g
      (.subscribed id f.path f.qos idx cursor group true)) id
      { pfConn c f.path subId with subscriptions := c.subscriptions ++ [f.path] }) hc rfl
    (by show (pfConn c f.path subId).tracker.requests = _; rw [pfConn_tracker]) rfl rfl
  have d3 : s3.datalog = s.datalog := by obtain ⟨_, _, rfl⟩ := track_upd h3; rfl
  refine ⟨fun j => ?_, d3, fun j => ?_, m.grv, m.cfg⟩
  · have := m.held j
    rw [e2 j] at this
    simpa only [noRq, List.append_nil, oneRq] using this
  · rw [m.subs, subsOf_set (getConn_of_set (c' := { pfConn c f.path subId with subscriptions := c.subscriptions ++ [f.path] }) hc rfl) j,
      subsOf_live hc]

theorem prepareFilter_held {s s' : RState} {id : Nat} {cursor : Cursor} {idx : Nat} {f : SubFilter}
    {group : Option String} {subId : Option Nat} (h : prepareFilter s id cursor idx f group subId = .ok s') :
    (∀ j, (held s' j).Perm (held s j ++ if j = id ∧ f.path ∉ subsOf s id then [pfReq idx f cursor group] else [])) ∧
    s'.datalog.native = s.datalog.native ∧
    (∀ j, subsOf s' j = if j = id ∧ f.path ∉ subsOf s id then subsOf s id ++ [f.path] else subsOf s j) ∧
    s'.graveyard = s.graveyard ∧ s'.config = s.config := by
  obtain ⟨c, hc, ⟨hold, e⟩ | ⟨hnew, s3, h3, h4⟩⟩ := Walk.prepareFilter_cases h
  all_goals have hsubs := subsOf_live hc
  · have hconns : s'.conns = s.conns.set id (pfConn c f.path subId) := by rw [e]; rfl
    refine ⟨fun j => ?_, by rw [e]; rfl, fun j => ?_, by rw [e]; rfl, by rw [e]; rfl⟩
    · rw [held_of_set hc hconns (by rw [pfConn_tracker]) (by rw [e]; rfl) (by rw [e]; rfl) j, hsubs]
      simp [hold]
    · rw [subsOf_set (getConn_of_set hc hconns) j, hsubs, pfConn_subscriptions]
      by_cases hj : j = id
      · subst hj; simp [hold, hsubs]
      · simp [hj]
  · obtain ⟨p3, d3, sb3, g3, c3⟩ := pfTrack_held hc h3
    have m4 := Held.connClosed.reschedule h4
    refine ⟨fun j => ?_, (reschedule_native h4).trans (by rw [d3]), fun j => ?_, m4.grv.trans g3, m4.cfg.trans c3⟩
    · have := m4.held j
      simp only [noRq, List.append_nil] at this
      rw [hsubs]; simp only [hnew, not_false_eq_true, and_true]
      exact this.trans (p3 j)
    · rw [m4.subs, sb3, hsubs]; simp only [hnew, not_false_eq_true, and_true]

theorem removeWaiterFor_held (d : DataLog) (id : Nat) (f : String) :
    (removeWaiterFor d id f = d ∧ NoWaiterFor d id f) ∨
    ∃ x : DataRequest, x.filter = f ∧ ∀ j, (d.native.flatMap fun fd => pick j fd.waiters).Perm
      (((removeWaiterFor d id f).native.flatMap fun fd => pick j fd.waiters) ++ if j = id then [x] else []) := by
  rcases removeWaiterFor_cases d id f with h | ⟨idx, fd, i, hi, hn, h1, h2, e⟩
  · exact .inl h
  · refine .inr ⟨(fd.waiters[i]).2, h2, fun j => ?_⟩
    rw [e]
    have hk := pick_perm (j := j) (swapRemoveBack_perm fd.waiters i hi)
    rw [pick_cons, h1] at hk
    have hs := flatMap_set_perm d.native idx fd { fd with waiters := swapRemoveBack fd.waiters i }
      (fun fd => pick j fd.waiters) hn
    have h2' : ((if j = id then [(fd.waiters[i]).2] else []) ++ pick j (swapRemoveBack fd.waiters i)).Perm
        (pick j fd.waiters ++ []) := by
      rw [List.append_nil]
      by_cases hj : j = id
      · rw [if_pos hj.symm] at hk; rw [if_pos hj]; exact hk.symm
      · rw [if_neg fun e => hj e.symm] at hk; rw [if_neg hj]; exact hk.symm
    simpa only [List.append_nil] using
      perm_rebalance ((List.perm_append_comm.trans hs.symm).trans List.perm_append_comm) h2'

/-- that none of the leaving requests stays parked needs request conservation (`RC.no_waiter_after_remove`) -/
theorem ufState_held {s : RState} {id : Nat} {c : Conn} (hc : getConn s id = some c) (ids : List Nat) (f : String)
    (j : Nat) :
    ∃ rem, (held s j).Perm (held (ufState s id ids c f) j ++ rem) ∧ (∀ r ∈ rem, j = id ∧ r.filter = f) ∧
      ∀ r ∈ tracked (ufState s id ids c f) j ++ pick j (ufState s id ids c f).notifications, j = id → r.filter ≠ f := by
  have hd : (ufState s id ids c f).datalog = removeWaiterFor s.datalog id f := rfl
  have hn : (ufState s id ids c f).notifications =
      s.notifications.filter (fun n => !(n.1 == id && n.2.filter == f)) := rfl
  obtain ⟨remW, pW, hW⟩ : ∃ rem, (s.datalog.native.flatMap fun fd => pick j fd.waiters).Perm
      (((removeWaiterFor s.datalog id f).native.flatMap fun fd => pick j fd.waiters) ++ rem) ∧
      ∀ r ∈ rem, j = id ∧ r.filter = f := by
    rcases removeWaiterFor_held s.datalog id f with ⟨e, _⟩ | ⟨x, hx, hp⟩
    · rw [e]; exact ⟨[], by simp, by simp⟩
    · refine ⟨_, hp j, fun r hr => ?_⟩
      split at hr
      · rename_i hj; rw [List.eq_of_mem_singleton hr]; exact ⟨hj, hx⟩
      · cases hr
  have pN := pick_perm (j := j) (List.filter_append_perm (fun n : Nat × DataRequest => !(n.1 == id && n.2.filter == f)) s.notifications)
  rw [pick_append] at pN
  have hremN : ∀ r ∈ pick j (s.notifications.filter (fun n => !(!(n.1 == id && n.2.filter == f)))), j = id ∧ r.filter = f := by
    intro r hr
    have := (List.mem_filter.mp (mem_pick.mp hr)).2
    simp only [Bool.not_not, Bool.and_eq_true, beq_iff_eq] at this
    exact this
  have hkeepN : ∀ r ∈ pick j (s.notifications.filter (fun n => !(n.1 == id && n.2.filter == f))), j = id → r.filter ≠ f := by
    intro r hr hj e
    have := (List.mem_filter.mp (mem_pick.mp hr)).2
    simp [hj, e] at this
  have ht : tracked (ufState s id ids c f) j =
      if j = id then c.tracker.requests.filter (fun r => decide (r.filter ≠ f)) else tracked s j := by
    unfold tracked
    rw [ufState_getConn hc]
    by_cases hj : j = id <;> simp only [hj, if_true, if_false, ufConn]
  by_cases hj : j = id
  · subst hj
    have pT := List.filter_append_perm (fun r : DataRequest => decide (r.filter ≠ f)) c.tracker.requests
    have hts : tracked s j = c.tracker.requests := by unfold tracked; rw [hc]
    refine ⟨c.tracker.requests.filter (fun r => !decide (r.filter ≠ f)) ++ remW ++
      pick j (s.notifications.filter (fun n => !(!(n.1 == j && n.2.filter == f)))), ?_, fun r hr => ?_, fun r hr _ => ?_⟩
    · unfold held parked
      rw [ht, hd, hn, hts]
      simp only [if_true]
      -- each of the three places splits into what stays and what leaves
      simpa only [List.append_nil] using (perm_append3 (aT := []) (aP := []) (aN := []) (by rw [List.append_nil]; exact pT)
        (by rw [List.append_nil]; exact pW.symm) (by rw [List.append_nil]; exact pN)).symm
    · rcases List.mem_append.mp hr with hr | hr
      · rcases List.mem_append.mp hr with hr | hr
        · have := (List.mem_filter.mp hr).2
          simp only [Bool.not_eq_true', decide_eq_false_iff_not, ne_eq, Decidable.not_not] at this
          exact ⟨rfl, this⟩
        · exact hW r hr
      · exact hremN r hr
    · rcases List.mem_append.mp hr with hr | hr
      · rw [ht] at hr; simp only [if_true] at hr
        simpa using (List.mem_filter.mp hr).2
      · rw [hn] at hr; exact hkeepN r hr rfl
  · refine ⟨remW ++ pick j (s.notifications.filter (fun n => !(!(n.1 == id && n.2.filter == f)))), ?_, fun r hr => ?_,
      fun _ _ e => absurd e hj⟩
    · unfold held parked
      rw [ht, hd, hn]
      simp only [hj, if_false]
      simpa only [List.append_nil, List.nil_append] using (perm_append3 (aT := []) (aP := []) (aN := [])
        (.refl (tracked s j ++ [])) (by rw [List.append_nil]; exact pW.symm) (by rw [List.append_nil]; exact pN)).symm
    · rcases List.mem_append.mp hr with hr | hr
      · exact hW r hr
      · exact hremN r hr

theorem pick_filter_ne (j id : Nat) (l : List (Nat × DataRequest)) :
    pick j (l.filter (fun w => !(w.1 == id))) = if j = id then [] else pick j l := by
  unfold pick
  rw [List.filter_filter]
  by_cases hj : j = id
  · subst hj
    rw [if_pos rfl, List.filter_eq_nil_iff.mpr fun w _ => by cases w.1 == j <;> simp]
    rfl
  · rw [if_neg hj]
    congr 1
    refine List.filter_congr fun w _ => ?_
    by_cases h : w.1 = j
    · have : ¬ w.1 = id := fun e => hj (h.symm.trans e)
      simp [h, hj]
    · simp [h]

theorem dropWaiters_pick (id : Nat) (fd : FilterData) (j : Nat) :
    (pick j (dropWaiters id fd).waiters).Perm (if j = id then [] else pick j fd.waiters) := by
  rw [← pick_filter_ne]; exact pick_perm (dropWaiters_perm id fd)

theorem datalogClean_parked (d : DataLog) (id : Nat) :
    (∀ j, j ≠ id → ((datalogClean d id).1.native.flatMap fun fd => pick j fd.waiters).Perm
        (d.native.flatMap fun fd => pick j fd.waiters)) ∧
    ((datalogClean d id).1.native.flatMap fun fd => pick id fd.waiters) = [] ∧
    ((datalogClean d id).2).Perm (d.native.flatMap fun fd => pick id fd.waiters) := by
  rw [datalogClean_map]
  simp only [flatMap_map_eq]
  refine ⟨fun j hj => perm_flatMap_congr fun fd _ => by simpa only [if_neg hj] using dropWaiters_pick id fd j,
    List.flatMap_eq_nil_iff.mpr fun fd _ => by
      have := dropWaiters_pick id fd id
      rw [if_pos rfl] at this
      exact this.eq_nil,
    perm_flatMap_congr fun fd _ => parkedOf_perm id fd⟩

theorem hdFinal_held {s : RState} {id : Nat} {c : Conn} (hc : getConn s id = some c) (r : Option String) :
    (∀ j, (held (hdFinal s id c r) j).Perm (if j = id then pick id s.notifications else held s j)) ∧
    (c.tracker.requests ++ (datalogClean s.datalog id).2).Perm (tracked s id ++ parked s id) := by
  have hF := hdFinal_fields s id c r
  obtain ⟨a, b, d⟩ := datalogClean_parked s.datalog id
  refine ⟨fun j => ?_, ?_⟩
  · have ht : tracked (hdFinal s id c r) j = if j = id then [] else tracked s j := by
      unfold tracked; rw [hdFinal_getConn]
      by_cases hj : j = id <;> simp only [hj, if_true, if_false]
    unfold held parked
    rw [ht, hF.notifications, hF.datalog]
    by_cases hj : j = id
    · subst hj; simp only [if_true, b, List.nil_append]; exact .refl _
    · simp only [hj, if_false]; exact ((a j hj).append_left _).append_right _
  · have : tracked s id = c.tracker.requests := by unfold tracked; rw [hc]
    rw [this]; exact d.append_left _

theorem hdSavedOf_sigs {s : RState} {id : Nat} {c : Conn} (hc : getConn s id = some c) :
    ((hdSavedOf s id c).2.map (·.sig)).Perm ((tracked s id ++ parked s id).map (·.sig)) := by
  have hp2 := (hdFinal_held hc none).2
  rw [hdSavedOf_reqs, List.map_map, List.map_map]
  refine List.Perm.trans (List.Perm.of_eq (List.map_congr_left fun r _ => ?_)) (hp2.map _)
  obtain ⟨a, b, _, d, _⟩ := atGroupCursor_fields s.shared r
  obtain ⟨a', b', _, d', _⟩ := Rp3.rewindOne_fields (retransmissionMap c.out.inflight []) (atGroupCursor s.shared r)
  simp only [Function.comp, DataRequest.sig, a', b', d', a, b, d]

theorem hnPre_held {s : RState} {spec : ConnectSpec} (ha : AdmInv s)
    (hnone : alookup spec.clientId s.connectionMap = none) (hroom : s.conns.len < s.config.maxConnections) (j : Nat) :
    held (hnPre s spec) j =
      (if j = hnKey s spec then (hnTracker spec (hnRestored s spec)).requests else []) ++ held s j := by
  have sl := hnPre_getConn ha hnone hroom
  show tracked (hnPre s spec) j ++ parked s j ++ pick j s.notifications = _
  unfold held tracked
  by_cases hj : j = hnKey s spec
  · subst hj; rw [if_pos rfl, sl.new, sl.vacant]; simp [hnNew, hnConn]
  · rw [if_neg hj, sl.old j hj, List.nil_append]

end Router
