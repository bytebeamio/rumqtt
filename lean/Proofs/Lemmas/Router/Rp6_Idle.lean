/-
`QI` holds in every reachable state below the no-overflow bound, for `max_outgoing_packet_count > 0`. Hence where the
request of a subscription is: tracked, or parked on its filter's log, a non-shared one at the end of the log, where a
read returns nothing. With an empty tracker that is C01 completeness at idle.
-/
import Proofs.Lemmas.Router.Rp4_NoPanic
import Proofs.Lemmas.Router.Rp5_Reach
import Proofs.Lemmas.Router.Rp6_Consume
import Proofs.Lemmas.Router.Rp6_Session
namespace Router
open Router.Rp3
open CommitLog (Rep logC Issued U64 cursorAbs)

theorem consume_qi {s s' : RState} {b : Bool} (hi : DLInv s) (hno : NoOverflow s) (h : CS s)
    (hpos : 0 < s.config.maxOutgoingPacketCount) (hq : QI s) (hc : consume s = .ok (s', b)) : QI s' := by
  obtain ⟨p, sb, g, _, _⟩ := consume_held hc
  obtain ⟨cov, gt⟩ := hq.cover_gt_of_sigs p sb
  refine ⟨cov, gt, ?_, by rw [g]; exact hq.grv⟩
  rcases Walk.consume_cases hc with ⟨_, _, rfl⟩ | ⟨id, rq, c, s1, _, hcn, _, h1, h2⟩
  · exact hq.pe.wsub (WSub.of_native rfl)
  · refine PE.wsub ?_ (Moves.closed.wakeTurnMoved h2).2
    refine consumeLoop_pe _ (by simpa using (consume_loopCS rq hi hno h hcn).1) ?_ ?_ h1
    · rw [(Moves.closed.ackDeviceData (Walk.takeRequests s id c rq) id).1.cfg]; exact hpos
    · exact (hq.pe.wsub (WSub.of_native (s := s) (s' := Walk.takeRequests s id c rq) rfl)).wsub
        (Moves.closed.ackDeviceData _ id).2

/-- `hn`: no notification is pending between two steps (`BInv`) -/
theorem step_qi {s s' : RState} {op : Op} {out : Out} (hn : s.notifications = []) (ha : AdmInv s) (hi : DLInv s)
    (hno : NoOverflow s) (h : CS s) (hpos : 0 < s.config.maxOutgoingPacketCount) (hq : QI s)
    (hs : step s op = .ok (s', out)) : QI s' := by
  cases op_cases hs with
  | connect spec hc => exact (handleNewConnection_qi hn ha hq hc).1
  | consume b hc => exact consume_qi hi hno h hpos hq hc
  | event id e he =>
    cases e with
    | deviceData => exact (handleDevicePayload_qi hn hq he).1
    | disconnect => exact (handleDisconnection_qi (id := id) (r := none) hq hn he).1
    | _ => exact hq.oeq (OEq.closed.step (by simp) hs)
  | _ => exact hq.oeq (OEq.closed.step (by simp) hs)

theorem QI.reachable {cfg : Config} (h1 : 1 ≤ cfg.maxSegmentSize) (h2 : 1 ≤ cfg.maxSegmentCount)
    (hpos : 0 < cfg.maxOutgoingPacketCount) {s : RState} (hr : Reachable cfg s) (hno : NoOverflow s) : QI s := by
  refine reachable_below h1 h2 (QI.init cfg) (fun {s o _ _ _} hrs hi hno hx hs => ?_) hr hno
  have hpos0 : 0 < ({ s with oracle := o } : RState).config.maxOutgoingPacketCount := by
    show 0 < s.config.maxOutgoingPacketCount
    rw [config_reachable hrs]; exact hpos
  exact step_qi (s := { s with oracle := o }) (Inv2.reachable hrs).binv.2 ((AdmInv.reachable hrs).congr rfl rfl rfl) hi hno
    ((CS.reachable h1 h2 hrs hno).oracle o) hpos0 (hx.oracle o) hs

theorem read_at_end_empty (fd : FilterData) (hist : List Pub) (hrep : Rep (logC fd.log) hist) (cur : Cursor)
    (hiss : Issued (logC fd.log) cur) (hend : AtEnd fd cur) (n : Nat) (hU : hist.length + n < U64) :
    (fd.log.readv cur n).1 = [] := by
  obtain ⟨v1, _, _⟩ := clog_readv_entries fd.log hist hrep cur n hiss hU
  have hca : cursorAbs (logC fd.log) cur = hist.length := by
    rw [CommitLog.cursorAbs_of_le hend.1, hend.2, hrep.nextAbs_eq]
  rw [hca, List.drop_length] at v1
  simpa using v1

theorem own_tracked_or_parked {cfg : Config} (h1 : 1 ≤ cfg.maxSegmentSize) (h2 : 1 ≤ cfg.maxSegmentCount)
    (hpos : 0 < cfg.maxOutgoingPacketCount) {s : RState} (hr : Reachable cfg s) (hno : NoOverflow s)
    {id : Nat} {r : DataRequest} (hown : Own s id r) :
    TrackedBy s id r ∨
    ∃ (fd : FilterData) (hist : List Pub), s.datalog.filterIdx? (logPath r.filter) = some r.filterIdx ∧
      s.datalog.native[r.filterIdx]? = some fd ∧ Rep (logC fd.log) hist ∧ (id, r) ∈ fd.waiters ∧
      Issued (logC fd.log) r.cursor ∧ hist.length + (MAX_INFLIGHT + s.config.maxOutgoingPacketCount) < U64 ∧
      (r.group = none → AtEnd fd r.cursor) := by
  have h3 := Inv3.reachable hr
  obtain ⟨hK, hW, _⟩ := (RC.iff s).mp h3.rc
  rcases hown with ht | ⟨i, fd, hfd, hm⟩ | hnot
  · exact .inl ht
  · right
    have hidx : r.filterIdx = i := hW i fd hfd (id, r) hm
    subst hidx
    have hkey : r.key ∈ keysOf s id := by
      rw [keysOf_eq]; exact List.mem_map_of_mem ((own_iff s id r).mp (.inr (.inl ⟨r.filterIdx, fd, hfd, hm⟩)))
    have hko : KeyOK s.datalog.filterIndexes r.key := hK.idx id _ hkey
    obtain ⟨hist, hrep⟩ := (reachable_inv h1 h2 hr).logs fd.log (List.mem_map.mpr ⟨fd, List.mem_of_getElem? hfd, rfl⟩)
    obtain ⟨⟨fd', hfd', hiss⟩, _⟩ :=
      (CS.reachable h1 h2 hr hno).req r (.inr (.inl ⟨fd, List.mem_of_getElem? hfd, (id, r), hm, rfl⟩))
    rw [hfd] at hfd'; cases hfd'
    exact ⟨fd, hist, hko, hfd, hrep, hm, hiss, hno fd (List.mem_of_getElem? hfd) hist hrep,
      (QI.reachable h1 h2 hpos hr hno).pe _ fd hfd (id, r) hm⟩
  · unfold Notified at hnot; rw [h3.inv2.binv.2] at hnot; cases hnot

theorem subscription_state {cfg : Config} (h1 : 1 ≤ cfg.maxSegmentSize) (h2 : 1 ≤ cfg.maxSegmentCount)
    (hpos : 0 < cfg.maxOutgoingPacketCount) {s : RState} (hr : Reachable cfg s) (hno : NoOverflow s)
    {id : Nat} {c : Conn} (hc : getConn s id = some c) {f : String} (hf : f ∈ c.subscriptions) :
    (∃ r ∈ c.tracker.requests, r.filter = f) ∨
    ∃ (i : Nat) (fd : FilterData) (hist : List Pub) (r : DataRequest),
      s.datalog.filterIdx? (logPath f) = some i ∧ s.datalog.native[i]? = some fd ∧ Rep (logC fd.log) hist ∧
      (id, r) ∈ fd.waiters ∧ r.filter = f ∧ r.filterIdx = i ∧ r.group = (extractGroup f).map (·.1) ∧
      Issued (logC fd.log) r.cursor ∧
      (extractGroup f = none →
        (logC fd.log).head ≤ r.cursor.1 ∧ r.cursor.2 = hist.length ∧
        ∀ n, n ≤ MAX_INFLIGHT + s.config.maxOutgoingPacketCount → (fd.log.readv r.cursor n).1 = []) := by
  have hq := QI.reachable h1 h2 hpos hr hno
  obtain ⟨r, hown, rfl, hg⟩ := hq.cover_group (subsOf_live hc ▸ hf)
  rcases own_tracked_or_parked h1 h2 hpos hr hno hown with ⟨c', hc', hm⟩ | ⟨fd, hist, hi, hfd, hrep, hm, hiss, hU, hend⟩
  · rw [hc] at hc'; cases hc'; exact .inl ⟨r, hm, rfl⟩
  · refine .inr ⟨_, fd, hist, r, hi, hfd, hrep, hm, rfl, rfl, hg, hiss, fun hplain => ?_⟩
    have he := hend (by rw [hg, hplain]; rfl)
    exact ⟨he.1, by rw [he.2, hrep.nextAbs_eq], fun n hn => read_at_end_empty fd hist hrep r.cursor hiss he n (by omega)⟩

end Router
