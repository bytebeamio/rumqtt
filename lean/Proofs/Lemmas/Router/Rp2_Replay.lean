/-
C15, delivery side: what one `forward_device_data` writes to the link — the retained replay
(flagged, no cursor) ahead of the live entries (with their cursors), one forward per message.
-/
import Proofs.Lemmas.Router.Rp2_Fwd
namespace Router

/-- what a subscriber sees of a forward that matters for C15: retain flag, payload, log cursor
    (`none` = retained replay) -/
def Notif.content : Notif → Option (Bool × Bytes × Option Cursor)
  | .forward p cur => some (p.retain, p.payload, cur)
  | _ => none

theorem fdOut_content (c : Conn) (req : DataRequest) (pubs : List (Pub × Option Cursor)) :
    (fdOut c req pubs).2.map Notif.content = pubs.map (fun pc => some (pc.1.retain, pc.1.payload, pc.2)) := by
  rw [fdOut_map (g := fun pc => some (pc.1.retain, pc.1.payload, pc.2)) fun _ _ _ => rfl, fdFwds, List.map_map]
  exact List.map_congr_left fun pc _ => by simp [mkForward_eq]

theorem forwardDeviceData_replay_slots {s s' : RState} {id : Nat} {c : Conn} {req req' : DataRequest} {st : ConsumeStatus}
    (hc : getConn s id = some c) (hfr : req.forwardRetained = true)
    (h : forwardDeviceData s id req = .ok (s', req', st)) :
    (st = .inflightFull ∧ s' = s) ∨
    ∃ (s1 : RState) (ps : List Pub),
      readRetained s req.filter = .ok (s1, ps) ∧
      ((getLink s' c.link).obuf = (getLink s c.link).obuf ∨
       ∃ (live : List (Pub × Cursor)) (ns tail : List Notif),
        (getLink s' c.link).obuf = (getLink s c.link).obuf ++ ns ++ tail ∧
        (tail = [] ∨ tail = [Notif.unschedule]) ∧
        ns.map Notif.content =
          (ps.take (fdSlots s c req.qos (fdGrp s req))).map (fun p => some (p.retain, p.payload, none)) ++
          live.map (fun e => some (e.1.retain, e.1.payload, some e.2))) := by
  obtain ⟨_, _, hf, _, hr0⟩ := fdReq0_fields req (fdGrp s req)
  have read : ∀ {o rp n fd}, SweepRead s c req o rp n fd → ∃ s1 ps, readRetained s req.filter = .ok (s1, ps) ∧
      rp = (ps.take (fdSlots s c req.qos (fdGrp s req))).map (fun p => (p, none)) := fun hr => by
    rcases fdRetained_cases hr.retained with ⟨hff, _⟩ | ⟨_, ps, hrr, hrp, _⟩
    · rw [hr0, hfr] at hff; cases hff
    · rw [hf] at hrr; exact ⟨_, ps, hrr, hrp⟩
  cases forwardDeviceData_sweep_of hc h with
  | full => exact .inl ⟨rfl, rfl⟩
  | skip hr => obtain ⟨s1, ps, hrr, _⟩ := read hr; exact .inr ⟨s1, ps, hrr, .inl rfl⟩
  | empty hr => obtain ⟨s1, ps, hrr, _⟩ := read hr; exact .inr ⟨s1, ps, hrr, .inl rfl⟩
  | @push o rp n fd sh o' _ pubs hr _ _ e2 =>
    obtain ⟨s1, ps, hrr, hrp⟩ := read hr
    obtain ⟨ls, e, hob, _⟩ := pushed_upd s id c req' pubs sh o'
    rw [e]
    refine .inr ⟨s1, ps, hrr, .inr ⟨(fd.log.readv (fdCur s req) n).1, (fdOut c req' pubs).2, _, hob, ?_, ?_⟩⟩
    · split
      · exact .inr rfl
      · exact .inl rfl
    · rw [fdOut_content, e2, hrp]
      simp only [fdPubs, List.map_append, List.map_map]
      rfl

end Router
