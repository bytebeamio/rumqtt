/-
The SUBSCRIBE / UNSUBSCRIBE loops: for any relation the bookkeeping respects, and the codes, flags and reasons they
return (C06 SUBACK / UNSUBACK).
-/
import Proofs.Lemmas.Router.Base.Cases
import Proofs.Lemmas.Router.Rp2_Frame
namespace Router

def requestsOf (s : RState) (id : Nat) : Option (List DataRequest) := (getConn s id).map (·.tracker.requests)

/-- the request `prepare_filter` creates for a new subscription -/
def newRequest (cursor : Cursor) (idx : Nat) (f : SubFilter) (group : Option String) : DataRequest :=
  { filter := f.path, filterIdx := idx, qos := f.qos, cursor := cursor,
    forwardRetained := group.isNone, group := group }

theorem newRequest_eq_pfReq (cursor : Cursor) (idx : Nat) (f : SubFilter) (group : Option String) :
    newRequest cursor idx f group = pfReq idx f cursor group := rfl

theorem pfNew_view (c : Conn) (path : String) (subId : Option Nat) (isNew : Bool) (t : Tracker) :
    (pfNew c path subId isNew t).view = c.view := by
  cases subId <;> rfl

section
variable {R : RState → RState → Prop} (W : Bookkeeping R)
include W

theorem Bookkeeping.prepareFilter {s s' : RState} {id : Nat} {cursor : Cursor} {idx : Nat} {f : SubFilter}
    {group : Option String} {subId : Option Nat}
    (h : prepareFilter s id cursor idx f group subId = .ok s') : R s s' := by
  obtain ⟨c, t, q, hc, _, rfl⟩ := prepareFilter_post h
  have hcb : getConn (pfState s id cursor f.path group c.clientId) id = some c := hc
  exact W.trans (W.of_eq (s' := pfState s id cursor f.path group c.clientId) rfl rfl rfl rfl rfl)
    (W.trans (W.setConn hcb (pfNew_view c f.path subId _ t))
      (W.trans (W.of_eq (s' := { Router.setConn (pfState s id cursor f.path group c.clientId) id _ with readyqueue := q })
        rfl rfl rfl rfl rfl) (W.subscribed ..)))


theorem Bookkeeping.subscribeFilters (id : Nat) (subId : Option Nat) (fs : List SubFilter) {s s' : RState}
    {codes codes' : List Nat} {fl fl' : Flags}
    (h : subscribeFilters s id subId fs codes fl = .ok (s', codes', fl')) : R s s' :=
  Walk.subscribeFilters_inv (I := R s)
    (fun a h1 => W.trans a (W.trans (W.nextNativeOffset _ _) (W.prepareFilter h1))) fs (W.refl s) h

end

/-- the loop stops at the first filter that is refused (a `$`-filter other than `$share`, or subscription identifier 0)
    and asks for the disconnection -/
theorem subscribeFilters_out (id : Nat) (subId : Option Nat) : ∀ (fs : List SubFilter) {s s' : RState}
    {codes codes' : List Nat} {fl fl' : Flags}, subscribeFilters s id subId fs codes fl = .ok (s', codes', fl') →
    ∃ k, k ≤ fs.length ∧ codes' = codes ++ (fs.take k).map (·.qos) ∧
      ((k = fs.length ∧ fl' = fl) ∨
       (∃ f, fs[k]? = some f ∧ (validSubscription f.path = false ∨ subId = some 0) ∧
          ∃ r, fl' = { fl with disconnect := true, reason := r }))
  | [], s, s', codes, codes', fl, fl', h => by
    simp only [subscribeFilters, Except.ok.injEq, Prod.mk.injEq] at h; obtain ⟨_, rfl, rfl⟩ := h
    exact ⟨0, Nat.le_refl _, by simp, .inl ⟨rfl, rfl⟩⟩
  | f :: rest, s, s', codes, codes', fl, fl', h => by
    simp only [subscribeFilters] at h
    split at h
    · rename_i hv
      simp only [Except.ok.injEq, Prod.mk.injEq] at h; obtain ⟨_, rfl, rfl⟩ := h
      exact ⟨0, Nat.zero_le _, by simp, .inr ⟨f, rfl, .inl (by simpa using hv), _, rfl⟩⟩
    · split at h
      · rename_i h0
        simp only [Except.ok.injEq, Prod.mk.injEq] at h; obtain ⟨_, rfl, rfl⟩ := h
        exact ⟨0, Nat.zero_le _, by simp, .inr ⟨f, rfl, .inr h0, _, rfl⟩⟩
      · split at h
        · simp at h
        · obtain ⟨k, hk, hc, hcase⟩ := subscribeFilters_out id subId rest h
          exact ⟨k + 1, by simp; omega, by rw [hc]; simp,
            hcase.imp (fun ⟨a, b⟩ => ⟨by simp [a], b⟩) fun ⟨g, a, b⟩ => ⟨g, by simpa using a, b⟩⟩

theorem removeWaiterFor_retained (d : DataLog) (id : Nat) (f : String) :
    (removeWaiterFor d id f).retained = d.retained := by
  rcases removeWaiterFor_cases d id f with ⟨e, _⟩ | ⟨_, _, _, _, _, _, _, e⟩ <;> rw [e]

section
variable {R : RState → RState → Prop} (W : Bookkeeping R)
include W

theorem ufState_walk (s : RState) (id : Nat) (f : String) (ids : List Nat) (c : Conn)
    (hc : getConn s id = some c) : R s (ufState s id ids c f) := by
  let s1 : RState := { s with subscriptionMap := ainsert f (ids.filter (· ≠ id)) s.subscriptionMap,
                              shared := ufShared s f c.clientId, turnMoved := ufTurnMoved s f c.clientId }
  have r1 : R s s1 := W.of_eq rfl rfl rfl rfl rfl
  have r2 : R s1 (setConn s1 id (ufConn s.datalog c f)) := W.setConn (c := c) hc rfl
  let s2 := setConn s1 id (ufConn s.datalog c f)
  have r3 : R s2 { s2 with datalog := removeWaiterFor s2.datalog id f,
                           notifications := s2.notifications.filter (fun n => !(n.1 == id && n.2.filter == f)) } :=
    W.of_eq (retained := removeWaiterFor_retained _ id f) rfl rfl rfl rfl
  exact W.trans (W.trans (W.trans r1 r2) r3) (W.unsubscribed _ id f)

theorem Bookkeeping.unsubscribeFilters (id : Nat) (fs : List String) {s s' : RState} {rs rs' : List Bool}
    (h : unsubscribeFilters s id fs rs = .ok (s', rs')) : R s s' :=
  Walk.unsubscribeFilters_inv (I := R s) (fun _ _ a => W.trans a (W.of_eq rfl rfl rfl rfl rfl))
    (fun f a hc => W.trans a (ufState_walk W _ id f _ _ hc)) fs (W.refl s) h

end

theorem unsubscribeFilters_length (id : Nat) : ∀ (fs : List String) {s s' : RState} {rs rs' : List Bool},
    unsubscribeFilters s id fs rs = .ok (s', rs') → rs'.length = rs.length + fs.length
  | [], s, s', rs, rs', h => by
    simp only [unsubscribeFilters, Except.ok.injEq, Prod.mk.injEq] at h; obtain ⟨_, rfl⟩ := h; rfl
  | f :: rest, s, s', rs, rs', h => by
    have step : ∀ {t : RState} {b : Bool}, unsubscribeFilters t id rest (rs ++ [b]) = .ok (s', rs') →
        rs'.length = rs.length + (f :: rest).length := fun h' => by
      have := unsubscribeFilters_length id rest h'; simp at this ⊢; omega
    rw [unsubscribeFilters_cons] at h
    split at h
    · exact step h
    · split at h
      · exact step h
      · split at h
        · simp at h
        · split at h <;> exact step h

end Router
