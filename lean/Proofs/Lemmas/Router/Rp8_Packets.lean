/-
What is hard: a PUBACK / PUBREC that registers shortens the window, maybe under `InflightFull`, so `SI` fails until the
`reschedule(IncomingAck)` of the same arm; SUBSCRIBE tracks a request under a tracker that may be `Caughtup` and
reschedules for `NewFilter`. UNSUBSCRIBE keeps the window's length; every other arm is `SRel`.
-/
import Proofs.Lemmas.Router.Rp8_Steps
namespace Router

theorem prepareFilter_si {s s' : RState} {id : Nat} {cursor : Cursor} {idx : Nat} {f : SubFilter}
    {group : Option String} {subId : Option Nat} (hs : SI s) (h : prepareFilter s id cursor idx f group subId = .ok s') :
    SI s' := by
  obtain ⟨c, hc, ⟨_, rfl⟩ | ⟨_, s3, h3, h4⟩⟩ := Walk.prepareFilter_cases h
  · exact hs.rel (SRel.of_set (s := s) (c' := pfConn c f.path subId) hc rfl (by cases subId <;> exact Keep.refl c) rfl)
  · have s2 : SI (setConn ((pfState s id cursor f.path group c.clientId).g
        (.subscribed id f.path f.qos idx cursor group true)) id
        { pfConn c f.path subId with subscriptions := c.subscriptions ++ [f.path] }) :=
      hs.rel (SRel.of_set (s := s) (c' := { pfConn c f.path subId with subscriptions := c.subscriptions ++ [f.path] })
        hc rfl (by cases subId <;> exact Keep.refl c) rfl)
    exact track_reschedule_si s2 h3 h4 (.inr rfl)

theorem subscribeFilters_si {id : Nat} {subId : Option Nat} (fs : List SubFilter) {s s' : RState}
    {codes codes' : List Nat} {fl fl' : Flags} :
    SI s → subscribeFilters s id subId fs codes fl = .ok (s', codes', fl') → SI s' :=
  Walk.subscribeFilters_inv (fun hs h1 => prepareFilter_si (hs.rel (SRel.frame.nextNativeOffset _ _)) h1) fs

theorem ufState_srel {s : RState} {id : Nat} {ids : List Nat} {c : Conn} {f : String} (hc : getConn s id = some c) :
    SRel s (ufState s id ids c f) := by
  refine SRel.of_set (c' := ufConn s.datalog c f) hc rfl ⟨rfl, fun h => ?_, ?_⟩ rfl
  · show (c.tracker.requests.filter _) = []
    rw [h]; rfl
  · show c.out.inflight.length ≤ (unsubOut s.datalog _ c.out f).inflight.length
    rw [(unsubOut_spec s.datalog _ c.out f).1.length]; exact Nat.le_refl _

theorem unsubscribeFilters_si {id : Nat} (fs : List String) {s s' : RState} {rs rs' : List Bool}
    (hs : SI s) (h : unsubscribeFilters s id fs rs = .ok (s', rs')) : SI s' :=
  Walk.unsubscribeFilters_inv (fun _ _ hs => hs.rel (SRel.of_conns rfl rfl)) (fun _ hs hc => hs.rel (ufState_srel hc)) fs hs h

theorem handlePacket_si {s s' : RState} {id : Nat} {cid : String} {pkt : Packet} {fl fl' : Flags} (hs : SI s)
    (h : handlePacket s id cid pkt fl = .ok (s', fl')) : SI s' := by
  cases packet_cases h with
  | pub1 _ h1 h2 _ => exact hs.rel ((commitAck_srel h1).trans (SRel.frame.appendToCommitlog h2))
  | @pub2 _ c _ hc _ e | @pubrelNone _ _ c hc _ _ e =>
    subst e; exact hs.rel (SRel.of_set (c' := { c with acks := _ }) hc rfl (Keep.refl c) rfl)
  | pub0 _ _ h2 _ => exact hs.rel (SRel.frame.appendToCommitlog h2)
  | subscribe h1 h2 _ => exact (subscribeFilters_si _ hs h1).rel (commitAck_srel h2)
  | unsubscribe h1 h2 _ => exact (unsubscribeFilters_si _ hs h1).rel (commitAck_srel h2)
  | ping h1 _ => exact hs.rel (commitAck_srel h1)
  | @pubackBad pkid c hc hok e _ | @pubrecBad pkid c hc hok e _ =>
    subst e
    exact hs.rel (SRel.of_set (c' := { c with out := (c.out.registerAck pkid).1 }) hc rfl
      ⟨rfl, fun h => h, by rw [(registerAck_spec c.out pkid).2.2 hok]; exact Nat.le_refl _⟩ rfl)
  | pubackOk hc _ h2 _ | pubrecOk hc _ h2 _ =>
    exact set_reschedule_si hs hc h2 rfl rfl rfl (fun _ => .inl (.inr (.inr rfl))) fun _ => .inl rfl
  | @pubrelErr _ _ c _ _ _ hc _ h2 _ _ =>
    refine hs.rel (SRel.trans ?_ (SRel.frame.appendToCommitlog h2))
    exact SRel.of_set (c' := { c with acks := _ }) hc rfl (Keep.refl c) rfl
  | @pubrelOk _ _ c _ _ _ hc _ h2 h3 _ =>
    refine reschedule_si (hs.rel (SRel.trans ?_ (SRel.frame.appendToCommitlog h2))) h3
    exact SRel.of_set (c' := { c with acks := _ }) hc rfl (Keep.refl c) rfl
  | @pubcomp pkid c hc e _ =>
    subst e
    exact hs.rel (SRel.of_set (c' := { c with out := (c.out.registerPubcomp pkid).1 }) hc rfl
      ⟨rfl, fun h => h, by rw [(registerPubcomp_out c.out pkid).1]; exact Nat.le_refl _⟩ rfl)
  | disconnect e _ => subst e; exact hs.rel (SRel.of_conns rfl rfl)
  | other e _ => subst e; exact hs

theorem handlePackets_si {id : Nat} {cid : String} (ps : List Packet) {s s' : RState} {fl fl' : Flags} :
    SI s → handlePackets s id cid ps fl = .ok (s', fl') → SI s' :=
  Walk.handlePackets_inv handlePacket_si ps

end Router
