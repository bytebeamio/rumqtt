/-
Request conservation through `handle_disconnection` (tracked and parked requests go to the saved session, one copy
each; nothing of the closed connection stays behind) and `handle_new_connection` (a restored tracker passes
`check_tracker_duplicates`; a slot id that is reused finds no stale request).
-/
import Proofs.Lemmas.Router.Rp4_Subs
namespace Router

theorem key_fst (r : DataRequest) : r.key.1 = r.filter := rfl

/-- `hn`: as between two steps and after the drain in `handle_device_payload` -/
theorem handleDisconnection_rc {s s' : RState} {id : Nat} {r : Option String} (h : RC s)
    (hn : s.notifications = []) (hd : handleDisconnection s id r = .ok s') : RC s' := by
  rcases handleDisconnection_cases hd with ⟨_, rfl⟩ | ⟨c, hc, hd⟩
  · exact h
  · refine RCX.view ?_ (Moves.closed.wakeParked hd)
    have hF := hdFinal_fields s id c r
    obtain ⟨hK, hW, hG⟩ := (RC.iff s).mp h
    have hget := hdFinal_getConn s id c r
    have hfi : (hdFinal s id c r).datalog.filterIndexes = s.datalog.filterIndexes := by
      rw [hF.datalog, datalogClean_map]
    obtain ⟨hp1, hp2⟩ := hdFinal_held hc r
    have hkeys_id : keysOf (hdFinal s id c r) id = [] := by
      have := hp1 id
      rw [if_pos rfl, hn, pick_nil] at this
      rw [keysOf_eq, this.eq_nil]; rfl
    have hkeys : ∀ j, j ≠ id → (keysOf (hdFinal s id c r) j).Perm (keysOf s j) := fun j hj => by
      have := (hp1 j).map (·.key)
      rw [if_neg hj] at this
      rw [keysOf_eq, keysOf_eq]; exact this
    refine (RC.iff _).mpr ⟨?_, ?_, ?_⟩
    · refine hK.of_sub (fun j => ?_) (fun j k hk hs => ?_) (fun k hk => by rw [hfi]; exact hk)
      · by_cases hj : j = id
        · subst hj; exact ⟨keysOf s j, by rw [hkeys_id]; simp⟩
        · exact ⟨[], by simpa using (hkeys j hj).symm⟩
      · by_cases hj : j = id
        · subst hj; rw [hkeys_id] at hk; simp at hk
        · unfold subsOf at hs ⊢; rw [hget]; simp only [hj, if_false]; exact hs
    · intro i fd' hfd' w hw
      rw [hF.datalog, datalogClean_map] at hfd'
      simp only [List.getElem?_map, Option.map_eq_some_iff] at hfd'
      obtain ⟨fd, hfd, rfl⟩ := hfd'
      exact hW i fd hfd w (dropWaiters_sub id fd w hw)
    · rw [hfi, hF.graveyard]
      refine forall_saved s id c hG fun _ => ?_
      -- the saved requests have the keys the connection owned: none of its requests was in `notifications` (`hn`), and
      -- the saved cursor aside they are the tracked and parked ones, one copy each
      have hperm : ((hdSavedOf s id c).2.map (·.key)).Perm (keysOf s id) := by
        have := (hdSavedOf_sigs hc).map (fun g : String × Nat × Option String => (g.1, g.2.1))
        rw [keysOf_eq]
        unfold held; rw [hn, pick_nil, List.append_nil]
        simpa only [List.map_map, Function.comp_def, ← key_of_sig] using this
      refine ⟨?_, fun q hq => ?_⟩
      · show ((hdSavedOf s id c).2.map (·.filter)).Nodup
        have e : (hdSavedOf s id c).2.map (·.filter) = ((hdSavedOf s id c).2.map (·.key)).map (·.1) := by
          simp [List.map_map, Function.comp_def, key_fst]
        rw [e, ((hperm.map (·.1)).nodup_iff)]
        exact hK.nodup id
      · have hq' : q.key ∈ keysOf s id := hperm.mem_iff.mp (List.mem_map_of_mem (f := (·.key)) hq)
        refine ⟨?_, hK.idx id _ hq'⟩
        have := hK.subs id _ hq'
        unfold subsOf at this; rw [hc] at this
        exact this

theorem hnRestored_ok {s : RState} (h : RC s) (spec : ConnectSpec) :
    ((hnTracker spec (hnRestored s spec)).requests.map (·.filter)).Nodup ∧
    ∀ r ∈ (hnTracker spec (hnRestored s spec)).requests,
      r.filter ∈ hnSubs (hnRestored s spec) ∧ KeyOK s.datalog.filterIndexes r.key :=
  hnRestored_elim (P := fun o => ((hnTracker spec o).requests.map (·.filter)).Nodup ∧
      ∀ r ∈ (hnTracker spec o).requests, r.filter ∈ hnSubs o ∧ KeyOK s.datalog.filterIndexes r.key)
    ⟨by simp [hnTracker], fun r hr => by simp [hnTracker] at hr⟩ ((RC.iff s).mp h).2.2

theorem hnPre_rc {s : RState} {spec : ConnectSpec} (h : RC s) (ha : AdmInv s)
    (hnone : alookup spec.clientId s.connectionMap = none) (hroom : s.conns.len < s.config.maxConnections) :
    RC (hnPre s spec) := by
  obtain ⟨hnd, hreq⟩ := hnRestored_ok h spec
  obtain ⟨hK, hW, hG⟩ := (RC.iff s).mp h
  have sl := hnPre_getConn ha hnone hroom
  have f1 : (hnPre s spec).datalog = s.datalog := rfl
  have hdead : keysOf s (hnKey s spec) = [] := by
    cases hk : keysOf s (hnKey s spec) with
    | nil => rfl
    | cons k l =>
      have := hK.subs (hnKey s spec) k (by rw [hk]; simp)
      unfold subsOf at this; rw [sl.vacant] at this; simp at this
  have hkeys : ∀ j, keysOf (hnPre s spec) j =
      if j = hnKey s spec then (hnTracker spec (hnRestored s spec)).requests.map (·.key) else keysOf s j := fun j => by
    rw [keysOf_eq, hnPre_held ha hnone hroom, List.map_append, ← keysOf_eq]
    by_cases hj : j = hnKey s spec
    · rw [if_pos hj, if_pos hj, hj, hdead, List.append_nil]
    · rw [if_neg hj, if_neg hj]; rfl
  refine (RC.iff _).mpr ⟨⟨fun j => ?_, fun j k hk => ?_, fun j k hk => ?_⟩, ?_, ?_⟩
  · rw [hkeys]
    split
    · simpa [List.map_map, Function.comp_def, key_fst] using hnd
    · exact hK.nodup j
  · rw [hkeys] at hk
    unfold subsOf
    by_cases hj : j = hnKey s spec
    · subst hj
      simp only [if_true] at hk
      rw [sl.new]
      obtain ⟨r, hr, rfl⟩ := List.mem_map.mp hk
      exact (hreq r hr).1
    · simp only [hj, if_false] at hk
      rw [sl.old j hj]
      exact hK.subs j k hk
  · rw [hkeys] at hk
    rw [f1]
    by_cases hj : j = hnKey s spec
    · subst hj
      simp only [if_true] at hk
      obtain ⟨r, hr, rfl⟩ := List.mem_map.mp hk
      exact (hreq r hr).2
    · simp only [hj, if_false] at hk
      exact hK.idx j k hk
  · unfold WIdx; rw [f1]; exact hW
  · rw [hnPre_graveyard, f1]; intro p hp ss hss; exact hG p (mem_aremove_iff.mp hp).1 ss hss

end Router
