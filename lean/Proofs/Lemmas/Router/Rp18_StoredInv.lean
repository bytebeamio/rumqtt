/-
C20: `Grow n` is a `StoreFrame`, and holds along the functions that write to a store (`append_to_commitlog`: retained
map, filter logs, alias tables) and along `step`; what a sweep reads was stored, hence is `StoredP`. The frame limit: a
stored publish with payload within `m` fits a frame in every forward built from it, given a bound on the encoded length
of its pass-through properties; normalisation never makes a property list longer (`V5.propListLen_normalize_le`).
-/
import Proofs.Lemmas.Encode
import Proofs.Lemmas.Router.Rp18_StoredDefs
import Proofs.Lemmas.Router.Base.Conns
namespace Router
open Encode Codec

theorem Grow.of_native_append {n : Option Nat} {s s' : RState} {i : Nat} {fd fd' : FilterData} {x : Pub}
    (hc : s'.conns = s.conns) (hnat : s'.datalog.native = s.datalog.native.set i fd')
    (hfd : s.datalog.native[i]? = some fd)
    (hlog : ∀ p ∈ logItems fd'.log, p = x ∨ p ∈ logItems fd.log) (hx : StoredP n x)
    (hr : s'.datalog.retained = s.datalog.retained) (hw : s'.lastWills = s.lastWills) : Grow n s s' := by
  refine ⟨fun p h => ?_, fun _ h => .inr (h.of_eq hr), fun _ h => .inr (h.of_eq hc),
    fun _ h => .inr (h.of_eq hc), fun _ h => .inr (h.of_eq hw)⟩
  obtain ⟨l, hl, hp⟩ := h
  rw [hnat] at hl
  obtain ⟨fd1, hfd1, rfl⟩ := List.mem_map.mp hl
  rcases List.mem_or_eq_of_mem_set hfd1 with h1 | rfl
  · exact .inr ⟨fd1.log, List.mem_map.mpr ⟨fd1, h1, rfl⟩, hp⟩
  · rcases hlog p hp with rfl | h2
    · exact .inl hx
    · exact .inr ⟨fd.log, List.mem_map.mpr ⟨fd, List.mem_of_getElem? hfd, rfl⟩, h2⟩

theorem Grow.of_retained {n : Option Nat} {s s' : RState} (hc : s'.conns = s.conns)
    (hl : s'.datalog.native.map (·.log) = s.datalog.native.map (·.log))
    (hr : ∀ q ∈ s'.datalog.retained, StoredP n q.2 ∨ q ∈ s.datalog.retained)
    (hw : s'.lastWills = s.lastWills) : Grow n s s' :=
  ⟨fun _ h => .inr (h.of_eq hl), fun p ⟨t, ht⟩ => (hr (t, p) ht).elim .inl fun h1 => .inr ⟨t, h1⟩,
   fun _ h => .inr (h.of_eq hc), fun _ h => .inr (h.of_eq hc), fun _ h => .inr (h.of_eq hw)⟩

theorem Grow.of_wills {n : Option Nat} {s s' : RState} (hc : s'.conns = s.conns)
    (hl : s'.datalog.native.map (·.log) = s.datalog.native.map (·.log))
    (hr : s'.datalog.retained = s.datalog.retained)
    (hw : ∀ q ∈ s'.lastWills, WillP n q.2 ∨ q ∈ s.lastWills) : Grow n s s' :=
  ⟨fun _ h => .inr (h.of_eq hl), fun _ h => .inr (h.of_eq hr), fun _ h => .inr (h.of_eq hc),
   fun _ h => .inr (h.of_eq hc), fun w ⟨cid, hc⟩ => (hw (cid, w) hc).elim .inl fun h1 => .inr ⟨cid, h1⟩⟩

theorem Grow.of_getConn {n : Option Nat} {s s' : RState}
    (hc : ∀ j d, getConn s' j = some d → getConn s j = some d ∨ (d.acks.recorded = [] ∧ d.topicAliases = []))
    (hl : s'.datalog.native.map (·.log) = s.datalog.native.map (·.log))
    (hr : s'.datalog.retained = s.datalog.retained) (hw : s'.lastWills = s.lastWills) : Grow n s s' := by
  refine ⟨fun _ h => .inr (h.of_eq hl), fun _ h => .inr (h.of_eq hr), fun p h => .inr ?_, fun t h => .inr ?_,
    fun _ h => .inr (h.of_eq hw)⟩
  · obtain ⟨id, c, h1, h2⟩ := h
    rcases hc id c h1 with h3 | ⟨h3, _⟩
    · exact ⟨id, c, h3, h2⟩
    · rw [h3] at h2; cases h2
  · obtain ⟨id, c, a, h1, h2⟩ := h
    rcases hc id c h1 with h3 | ⟨_, h3⟩
    · exact ⟨id, c, a, h3, h2⟩
    · rw [h3] at h2; cases h2

theorem nextNativeOffset_grow {n : Option Nat} (s : RState) (filter : String) : Grow n s (nextNativeOffset s filter).1 := by
  rcases nextNativeOffset_cases s filter with ⟨_, _, e⟩ | ⟨_, e⟩ <;> rw [e]
  · exact Grow.refl _ s
  · refine ⟨fun p h => .inr ?_, fun p h => .inr h, fun p h => .inr h, fun t h => .inr h, fun w h => .inr h⟩
    obtain ⟨l, hl, hp⟩ := h
    simp only [DataLog.addFilter, List.map_append, List.map_cons, List.map_nil, List.mem_append, List.mem_singleton] at hl
    rcases hl with hl | rfl
    · exact ⟨l, hl, hp⟩
    · rw [logItems_new] at hp; cases hp

theorem Grow.frame (n : Option Nat) : StoreFrame (Grow n) where
  refl := Grow.refl n
  trans := Grow.trans
  of_conns hc _ hl hr hw := Grow.of_conns hc hl hr hw
  of_set hc hconns hrec hal _ hl hr hw := Grow.of_set hc hconns hrec hal hl hr hw
  of_remove id hc _ hl hr hw := by
    exact Grow.of_getConn (fun j d hd => .inl (ConnAll.remove (P := fun j d => getConn _ j = some d) (fun _ _ h => h) hc j d hd))
      hl hr hw
  of_link _ _ _ _ := Grow.of_conns rfl rfl rfl rfl
  newFilter := nextNativeOffset_grow

theorem updateRetained_grow {n : Option Nat} (s : RState) (topic : String) {p : Pub} (hp : StoredP n p) :
    Grow n s (updateRetained s topic p) := by
  rcases updateRetained_cases s topic p with ⟨_, _, e⟩ | ⟨_, _, e⟩ | ⟨_, e⟩ <;> rw [e]
  · exact Grow.of_retained rfl rfl (forall_aremove fun _ hq => .inr hq) rfl
  · exact Grow.of_retained rfl rfl (forall_ainsert (fun _ hq => .inr hq) (.inl hp)) rfl
  · exact Grow.refl _ _

theorem appendToFilter_grow {n : Option Nat} {s s' : RState} {idx : Nat} {p : Pub} (hp : StoredP n p)
    (h : appendToFilter s idx p = .ok s') : Grow n s s' := by
  obtain ⟨fd, evs, hfd, _, rfl⟩ := appendToFilter_upd h
  exact Grow.of_native_append (fd' := { fd with log := (fd.log.append p (pubSize p)).1, waiters := [] }) (x := p)
    rfl rfl hfd (fun q hq => logItems_append hq) hp rfl rfl

theorem appendToFilters_grow {n : Option Nat} (idxs : List Nat) {s s' : RState} {p : Pub} (hp : StoredP n p)
    (h : appendToFilters s idxs p = .ok s') : Grow n s s' :=
  appendToFilters_rel (Grow n) (Grow.refl n) (fun _ _ _ => Grow.trans) (fun _ _ _ => appendToFilter_grow hp) idxs h

theorem InP.stored {n : Option Nat} {p : Pub} (h : InP n p) (ha : p.alias = none) (hs : p.subIds = []) : StoredP n p :=
  ⟨by simp [StoredCore, ha, hs, h.pkid, h.topic], h.qos, h.size⟩

/-- the stored topic may be the one the alias table holds for the alias, hence `hal` -/
theorem AcceptedFrom.stored {n : Option Nat} {c : Conn} {p p1 : Pub} (h : AcceptedFrom c p p1) (hp : InP n p)
    (hal : ∀ q ∈ c.topicAliases, TopicP q.2) : StoredP n p1 := by
  obtain ⟨hs, rfl | ⟨a, t, _, ht, rfl⟩⟩ := h
  · exact InP.stored (p := { p with alias := none }) ⟨hp.pkid, hp.qos, hp.topic, hp.size⟩ rfl hs
  · exact InP.stored (p := { p with alias := none, topic := t.toUTF8.toList }) ⟨hp.pkid, hp.qos, hal _ ht, hp.size⟩ rfl hs

theorem appendToCommitlog_grow {n : Option Nat} {s s' : RState} {id : Nat} {p : Pub} {e : Option AppendErr}
    (hal : ∀ t, InAliases s t → TopicP t) (hp : InP n p)
    (h : appendToCommitlog s id p = .ok (s', e)) : Grow n s s' := by
  have st : ∀ c p1, getConn s id = some c → AcceptedFrom c p p1 → StoredP n p1 :=
    fun c p1 hc h1 => h1.stored hp fun q hq => hal q.2 ⟨id, c, q.1, hc, hq⟩
  refine appendToCommitlog_rel (Grow n) (Grow.refl n) (fun _ _ _ => Grow.trans) (halias := fun c a t hc ht => ?_)
    (hacc := fun c s1 topic p1 hc h1 =>
      (updateRetained_grow s1 topic (st c p1 hc h1)).trans (Grow.of_conns rfl rfl rfl rfl))
    (hmatch := fun _ _ _ _ => (Grow.frame n).dlMatches)
    (happ := fun c _ _ _ p1 hc h1 h3 => appendToFilter_grow (p := { p1 with retain := false })
      ⟨(st c p1 hc h1).core, (st c p1 hc h1).qos, (st c p1 hc h1).size⟩ h3) h
  refine Grow.of_setg (c' := { c with topicAliases := ninsert a t c.topicAliases }) hc rfl
    (fun _ hq => .inr hq) (fun q hq => ?_) rfl rfl rfl
  rcases mem_ninsert_iff.mp hq with h0 | rfl
  · exact .inr h0.1
  · exact .inl (by unfold TopicP; rw [utf8?_toUTF8 ht]; exact hp.topic)

theorem handlePacket_grow {n : Option Nat} {s s' : RState} {id : Nat} {cid : String} {pkt : Packet} {fl fl' : Flags}
    (hi : LogsOk n s) (hok : PacketOkD n pkt = true)
    (h : handlePacket s id cid pkt fl = .ok (s', fl')) : Grow n s s' := by
  have F := Grow.frame n
  have hp := @PacketOkD_inP n
  -- PUBREL: the oldest recorded publish (a QoS 2 PUBLISH is recorded as it came, in range) goes to the logs
  have rel : ∀ {pkid c p rest s2 e}, getConn s id = some c → c.acks.recorded = p :: rest →
      appendToCommitlog ((setConn s id { c with acks := { committed := c.acks.committed ++ [Ack.pubcomp pkid], recorded := rest } }).g
        (.committed id (.pubcomp pkid))) id p = .ok (s2, e) → Grow n s s2 := fun {pkid c p rest _ _} hc hrec h2 => by
    have a : Grow n s ((setConn s id { c with acks := { committed := c.acks.committed ++ [Ack.pubcomp pkid], recorded := rest } }).g
        (.committed id (.pubcomp pkid))) :=
      Grow.of_setg (c' := { c with acks := { committed := c.acks.committed ++ [Ack.pubcomp pkid], recorded := rest } }) hc rfl
        (fun q hq => .inr (by rw [hrec]; exact List.mem_cons_of_mem _ hq)) (fun q hq => .inr hq) rfl rfl rfl
    exact a.trans (appendToCommitlog_grow (hi.grow a).aliases
      (hi.recorded p ⟨id, c, hc, by rw [hrec]; exact List.mem_cons_self⟩) h2)
  cases packet_cases h with
  | pub1 _ h1 h2 _ =>
    have a := F.commitAck h1
    exact a.trans (appendToCommitlog_grow (hi.grow a).aliases (hp hok) h2)
  | @pub2 p c _ hc _ e =>
    subst e
    refine Grow.of_setg (c' := { c with acks := _ }) hc rfl (fun q hq => ?_) (fun q hq => .inr hq) rfl rfl rfl
    rcases List.mem_append.mp hq with h0 | h0
    · exact .inr h0
    · simp only [List.mem_singleton] at h0; subst h0; exact .inl (hp hok)
  | pub0 _ _ h2 _ => exact appendToCommitlog_grow hi.aliases (hp hok) h2
  | subscribe h1 h2 _ => exact (F.subscribeFilters _ h1).trans (F.commitAck h2)
  | unsubscribe h1 h2 _ => exact (F.unsubscribeFilters _ h1).trans (F.commitAck h2)
  | ping h1 _ => exact F.commitAck h1
  | pubackBad hc _ e _ => subst e; exact Grow.of_set hc rfl rfl rfl rfl rfl rfl
  | pubackOk hc _ h2 _ => refine Grow.trans ?_ (F.reschedule h2); exact Grow.of_set hc rfl rfl rfl rfl rfl rfl
  | pubrecBad hc _ e _ => subst e; exact Grow.of_set hc rfl rfl rfl rfl rfl rfl
  | pubrecOk hc _ h2 _ => refine Grow.trans ?_ (F.reschedule h2); exact Grow.of_set hc rfl rfl rfl rfl rfl rfl
  | pubrelNone hc hrec _ e => subst e; exact Grow.of_set hc rfl hrec.symm rfl rfl rfl rfl
  | pubrelErr hc hrec h2 _ _ => exact rel hc hrec h2
  | pubrelOk hc hrec h2 h3 _ => exact (rel hc hrec h2).trans (F.reschedule h3)
  | pubcomp hc e _ => subst e; exact Grow.of_set hc rfl rfl rfl rfl rfl rfl
  | disconnect e _ => subst e; exact Grow.of_wills rfl rfl rfl (forall_aremove fun _ hq => .inr hq)
  | other e _ => subst e; exact Grow.refl _ _

theorem handlePackets_grow {n : Option Nat} {id : Nat} {cid : String} (ps : List Packet) {s s' : RState} {fl fl' : Flags}
    (hok : ∀ p ∈ ps, PacketOkD n p = true) (h : LogsOk n s) (hp : handlePackets s id cid ps fl = .ok (s', fl')) :
    Grow n s s' :=
  Walk.handlePackets_mem_inv (I := fun t _ => Grow n s t) ps
    (fun hm a h1 => a.trans (handlePacket_grow (h.grow a) (hok _ hm) h1)) (Grow.refl n s) hp

theorem handleDevicePayload_grow {n : Option Nat} {s s' : RState} {id : Nat} (h : LogsOk n s)
    (hib : ∀ c, getConn s id = some c → ∀ p ∈ (getLink s c.link).ibuf, PacketOkD n p = true)
    (hp : handleDevicePayload s id = .ok s') : Grow n s s' := by
  refine (Grow.frame n).handleDevicePayload (fun c s1 fl hc h1 => ?_) hp
  have g0 : Grow n s (setLink s c.link { getLink s c.link with ibuf := [] }) := Grow.of_conns rfl rfl rfl rfl
  exact g0.trans (handlePackets_grow _ (hib c hc) (h.grow g0) h1)

theorem WillP.stored {n : Option Nat} {w : Will} (h : WillP n w) (r : Bool) :
    StoredP n { qos := w.qos, pkid := 0, retain := r, dup := false, topic := w.topic, payload := w.payload } :=
  ⟨by simp [StoredCore, h.topic], h.qos, h.size⟩

theorem handleLastWill_grow {n : Option Nat} {s s' : RState} {cid : String} (hw : ∀ w, InWills s w → WillP n w)
    (h : handleLastWill s cid = .ok s') : Grow n s s' :=
  handleLastWill_rel (Grow n) (Grow.refl n) (fun _ _ _ => Grow.trans)
    (hfire := fun _ _ => Grow.of_wills rfl rfl rfl (forall_aremove fun _ hq => .inr hq))
    (hacc := fun w s1 t hlw => (updateRetained_grow s1 t ((hw w ⟨cid, mem_of_alookup_eq_some hlw⟩).stored w.retain)).trans
      (Grow.of_conns rfl rfl rfl rfl))
    (hmatch := fun _ _ _ _ => (Grow.frame n).dlMatches)
    (happ := fun w _ _ _ hlw h3 => appendToFilter_grow ((hw w ⟨cid, mem_of_alookup_eq_some hlw⟩).stored false) h3)
    (hdrain := fun _ _ => (Grow.frame n).drainAll) h

theorem hnRegister_grow {n : Option Nat} {s s' : RState} {spec : ConnectSpec}
    (hw : ∀ w, spec.will = some w → WillP n w)
    (h : reschedule (hnPre s spec) (hnKey s spec) .init = .ok s') : Grow n s s' := by
  -- of what is stored, `hnPre s spec` differs from `s` in the will table and in the new connection
  have g1 : Grow n s { s with lastWills := (hnPre s spec).lastWills } := by
    refine Grow.of_wills rfl rfl rfl ?_
    show ∀ q ∈ (match spec.will with | some w => ainsert spec.clientId w s.lastWills | none => s.lastWills), _
    split
    · rename_i w0 hw0
      exact forall_ainsert (fun _ hq => .inr hq) (.inl (hw w0 hw0))
    · exact fun _ hq => .inr hq
  have g2 : Grow n { s with lastWills := (hnPre s spec).lastWills } (hnPre s spec) := by
    refine Grow.of_getConn (fun j d hd => ?_) rfl rfl rfl
    rcases hnPre_getConn_cases hd with rfl | h4
    · exact .inr ⟨rfl, rfl⟩
    · exact .inl h4
  exact (g1.trans g2).trans ((Grow.frame n).reschedule h)

theorem handleNewConnection_grow {n : Option Nat} {s s' : RState} {spec : ConnectSpec}
    (hw : ∀ w, spec.will = some w → WillP n w) (h : handleNewConnection s spec = .ok s') : Grow n s s' :=
  (Grow.frame n).handleNewConnection (Grow.of_conns rfl rfl rfl rfl) (fun _ h1 => hnRegister_grow hw h1) h

theorem OpOkD_will {n : Option Nat} {spec : ConnectSpec} (h : OpOkD n (.connect spec) = true) :
    ∀ w, spec.will = some w → WillP n w := by
  intro w hw
  simp only [OpOkD, Bool.and_eq_true, hw] at h
  exact willOk_willP h.2

theorem step_grow {n : Option Nat} {s s' : RState} {op : Op} {out : Out} (h : LogsOk n s) (hib : IbufOkD n s)
    (hop : OpOkD n op = true) (hs : step s op = .ok (s', out)) : Grow n s s' :=
  (Grow.frame n).step (fun _ e hc => handleNewConnection_grow (OpOkD_will (e ▸ hop)) hc)
    (fun _ _ _ => Grow.of_conns rfl rfl rfl rfl)
    (fun _ he => handleDevicePayload_grow h (fun c _ => hib c.link) he)
    (fun _ he => handleLastWill_grow h.wills he) hs

theorem LogsOk.oracle {n : Option Nat} {s : RState} (h : LogsOk n s) (ch : List Choice) : LogsOk n { s with oracle := ch } :=
  h.grow (Grow.of_conns rfl rfl rfl rfl)

theorem step_logsOk {n : Option Nat} {s s' : RState} {ch : List Choice} {op : Op} {out : Out} (h : LogsOk n s)
    (hib : IbufOkD n s) (hop : OpOkD n op = true) (hs : step { s with oracle := ch } op = .ok (s', out)) : LogsOk n s' :=
  (h.oracle ch).grow (step_grow (h.oracle ch) (s := { s with oracle := ch }) hib hop hs)

/-- `hwill`: the range of a CONNECT's will, which `OpOkC` does not cover -/
theorem step_logsOk_none {s s' : RState} {ch : List Choice} {op : Op} {out : Out} (h : LogsOk none s)
    (hib : IbufOk s) (hop : OpOkC op = true)
    (hwill : ∀ spec w, op = .connect spec → spec.will = some w → w.qos ≤ 2 ∧ w.topic.length ≤ 65535)
    (hs : step { s with oracle := ch } op = .ok (s', out)) : LogsOk none s' := by
  refine step_logsOk h ((IbufOkD_none s).mpr hib) ?_ hs
  simp only [OpOkD, hop, Bool.true_and]
  cases op with
  | push l pkt =>
    simp only [PacketOkD_none]
    exact hop
  | connect spec =>
    show (match spec.will with | some w => willOk none w | none => true) = true
    cases hw : spec.will with
    | none => rfl
    | some w =>
      obtain ⟨h1, h2⟩ := hwill spec w rfl hw
      simp [willOk, fits, h1, h2]
  | event id ev => rfl
  | consume => rfl
  | drain l => rfl

theorem readRetained_stored {n : Option Nat} {s s' : RState} {f : String} {ps : List Pub} (h : LogsOk n s)
    (hr : readRetained s f = .ok (s', ps)) : ∀ p ∈ ps, StoredP n p := by
  obtain ⟨order, rest, _, _, rfl, _⟩ := readRetained_upd hr
  intro p hp
  obtain ⟨t, _, ht⟩ := List.mem_filterMap.mp hp
  exact h.retained p ⟨t, mem_of_alookup_eq_some ht⟩

theorem fdRetained_stored {n : Option Nat} {s s0 : RState} {req : DataRequest} {slots slots' : Nat}
    {rp : List (Pub × Option Cursor)} (h : LogsOk n s) (h0 : fdRetained s req slots = .ok (s0, rp, slots')) :
    ∀ pc ∈ rp, StoredP n pc.1 := by
  rcases fdRetained_cases h0 with ⟨_, rfl, _⟩ | ⟨_, ps, h1, rfl, _⟩
  · intro pc hpc; cases hpc
  · intro pc hpc
    obtain ⟨p, hp, rfl⟩ := List.mem_map.mp hpc
    exact readRetained_stored h h1 p (List.mem_of_mem_take hp)

/-- `publishes` of `forward_device_data`: the retained replay, then what `readv` returns from the filter's log -/
theorem sweep_pubs_stored {n : Option Nat} {s s0 : RState} {req : DataRequest} {slots slots' : Nat}
    {rp : List (Pub × Option Cursor)} {i : Nat} {fd : FilterData} (h : LogsOk n s)
    (h0 : fdRetained s req slots = .ok (s0, rp, slots')) (hfd : s.datalog.native[i]? = some fd) (cur : Cursor) (k : Nat) :
    ∀ pc ∈ rp ++ (fd.log.readv cur k).1.map (fun e => (e.1, some e.2)), StoredP n pc.1 := by
  intro pc hpc
  rcases List.mem_append.mp hpc with h1 | h1
  · exact fdRetained_stored h h0 pc h1
  · obtain ⟨e, he, rfl⟩ := List.mem_map.mp h1
    exact h.logs e.1 ⟨fd.log, List.mem_map.mpr ⟨fd, List.mem_of_getElem? hfd, rfl⟩, readv_logItems fd.log cur k e he⟩

theorem forwardDeviceData_pubs_stored {n : Option Nat} {s s1 : RState} {id : Nat} {c : Conn} {req req1 : DataRequest}
    {st : ConsumeStatus} (h : LogsOk n s) (hc : getConn s id = some c)
    (hf : forwardDeviceData s id req = .ok (s1, req1, st)) :
    s1.links = s.links ∨
    ∃ s0 req' grp pubs cu, s0 = { s with oracle := s0.oracle } ∧ req'.qos = req.qos ∧
      fdPush s0 id c req' grp pubs cu = .ok (s1, req1, st) ∧ ∀ pc ∈ pubs, StoredP n pc.1 := by
  rcases forwardDeviceData_pushed hc hf with ⟨o, rfl⟩ | ⟨o, rp, k, fd, hr, _, hp⟩
  · exact .inl rfl
  · refine .inr ⟨_, _, _, _, _, rfl, ?_, hp, sweep_pubs_stored h hr.retained hr.log _ _⟩
    unfold fdNext; cases fdGrp s req <;> rfl

/-- `hx`: of the pass-through properties the model records only whether there are any (`hasProps`) -/
theorem StoredP.storedOk {n : Option Nat} {p : Pub} (h : StoredP n p) {extra : Props}
    (hx : p.hasProps = true ∨ extra = []) : StoredOk p extra = true := by
  rw [StoredOk_eq, h.core, Bool.true_and]
  rcases hx with hx | hx
  · simp [hx]
  · simp [hx]

theorem fwdList_len {p : Pub} (ha : p.alias = none) (hs : p.subIds = []) (qos : Nat) (alias : Option Nat) (ex : Bool)
    (sid : Option Nat) (extra : Props) :
    V5.propListLen (fwdList (mkForward qos alias ex sid p) extra) ≤ V5.propListLen extra + 8 := by
  rw [mkForward_eq, ha, hs]
  unfold fwdList
  cases alias <;> cases sid <;>
    simp [V5.propListLen_append, V5.propListLen, V5.pvalLen] <;> (have := lenLen_le ‹Nat›; omega)

theorem mkForward_topic_len {p : Pub} (ht : p.topic.length ≤ 65535) (qos : Nat) (alias : Option Nat) (ex : Bool)
    (sid : Option Nat) : (mkForward qos alias ex sid p).topic.length ≤ 65535 := by
  rw [mkForward_eq]
  show (if ex = true then [] else p.topic).length ≤ 65535
  split <;> simp [ht]

/-- 65551 = topic 2 + 65535, packet id 2, properties length prefix ≤ 4, alias 3, one subscription identifier ≤ 5 -/
theorem StoredP.fitsForward {m k : Nat} {p : Pub} (h : StoredP (some m) p) {extra : Props}
    (hk : V5.propListLen extra ≤ k) (hb : 65551 + k + m ≤ remainingLimit) : FitsForward p extra := by
  have hcore := h.core
  simp only [StoredCore, Bool.and_eq_true, decide_eq_true_eq, Option.isNone_iff_eq_none, List.isEmpty_iff] at hcore
  obtain ⟨⟨⟨ha, hs⟩, _⟩, ht⟩ := hcore
  have hsz : p.payload.length ≤ m := by simpa [fits] using h.size
  intro qos alias ex sid pk
  have h1 := mkForward_topic_len ht qos alias ex sid
  have h2 : V5.propsLen (forwardProps (mkForward qos alias ex sid p) extra) ≤ k + 12 := by
    rw [forwardProps_eq]
    split
    · simp only [V5.propsLen]
      have a := V5.propListLen_normalize_le V5.publishSpec V5.publishSpec_pairwise (fwdList (mkForward qos alias ex sid p) extra)
      have b := fwdList_len ha hs qos alias ex sid extra
      have c := lenLen_le (V5.propListLen (V5.normalize V5.publishSpec (fwdList (mkForward qos alias ex sid p) extra)))
      omega
    · simp only [V5.propsLen]; omega
  unfold V5.publishLen
  split <;> omega

theorem StoredP.fitsForward_nil {m : Nat} {p : Pub} (h : StoredP (some m) p) (hb : 65551 + m ≤ remainingLimit) :
    FitsForward p [] :=
  h.fitsForward (k := 0) (by simp [V5.propListLen]) (by omega)

end Router
