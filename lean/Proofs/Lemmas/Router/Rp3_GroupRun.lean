/-
C17 over a run: the log offsets forwarded through a shared group over a `GroupRun` are the consecutive offsets from the
group's cursor, hence no entry is forwarded twice.
-/
import Proofs.Lemmas.Router.Rp3_SweepThm
namespace Router
namespace Rp3
open CommitLog (Rep logC Issued cursorAbs U64)

/-- the filter log `idx` is well formed and `cur` is an issued, not yet evicted cursor of it -/
def ReqAt (idx : Nat) (s : RState) (cur : Cursor) : Prop :=
  ∃ fd hist, s.datalog.native[idx]? = some fd ∧ Rep (logC fd.log) hist ∧ Issued (logC fd.log) cur ∧
    (logC fd.log).head ≤ cur.1 ∧ hist.length + (MAX_INFLIGHT + s.config.maxOutgoingPacketCount) < U64

/-- `ReqAt` for the cursor of group `gname`, which exists -/
def GroupAt (gname : String) (idx : Nat) (s : RState) (cur : Cursor) : Prop :=
  ∃ g fd hist, alookup gname s.shared = some g ∧ g.cursor = cur ∧ s.datalog.native[idx]? = some fd ∧
    Rep (logC fd.log) hist ∧ Issued (logC fd.log) cur ∧ (logC fd.log).head ≤ cur.1 ∧
    hist.length + (MAX_INFLIGHT + s.config.maxOutgoingPacketCount) < U64

/-- a stretch of a run seen from group `gname`: sweeps of its requests by any connections, each contributing the offsets
    it appended to its link's buffer, interleaved with steps that keep the group's cursor (and its segment retained) -/
inductive GroupRun (gname : String) (idx : Nat) : RState → List Nat → RState → Prop
  | done (s : RState) : GroupRun gname idx s [] s
  | sweep {s s1 s2 : RState} {id : Nat} {c : Conn} {req req' : DataRequest} {st : ConsumeStatus}
      {offs more : List Nat} :
      getConn s id = some c → req.group = some gname → req.filterIdx = idx →
      forwardDeviceData s id req = .ok (s1, req', st) →
      linkOffsets s1 c.link = linkOffsets s c.link ++ offs →
      GroupRun gname idx s1 more s2 → GroupRun gname idx s (offs ++ more) s2
  | other {s s1 s2 : RState} {more : List Nat} :
      (∀ cur, GroupAt gname idx s cur → GroupAt gname idx s1 cur) →
      GroupRun gname idx s1 more s2 → GroupRun gname idx s more s2

/-- `offs` are the consecutive numbers from `a`, and `b` is the next one -/
def Contig (a : Nat) (offs : List Nat) (b : Nat) : Prop := offs = List.range' a offs.length ∧ b = a + offs.length

theorem Contig.nil (a : Nat) : Contig a [] a := ⟨rfl, rfl⟩

theorem Contig.append {a b c : Nat} {o o' : List Nat} (h1 : Contig a o b) (h2 : Contig b o' c) : Contig a (o ++ o') c := by
  obtain ⟨p1, rfl⟩ := h1
  obtain ⟨p2, rfl⟩ := h2
  exact ⟨by rw [List.length_append, ← List.range'_append_1, ← p1, ← p2], by rw [List.length_append]; omega⟩

theorem sweep_contig {idx : Nat} {s s1 : RState} {id : Nat} {c : Conn} {req req1 : DataRequest}
    {st : ConsumeStatus} {offs : List Nat}
    (hc : getConn s id = some c) (hidx : req.filterIdx = idx)
    (h : forwardDeviceData s id req = .ok (s1, req1, st))
    (hoffs : linkOffsets s1 c.link = linkOffsets s c.link ++ offs) (hat : ReqAt idx s (fdCur s req)) :
    Contig (fdCur s req).2 offs (fdCur s1 req1).2 ∧ ReqAt idx s1 (fdCur s1 req1) ∧ req1.group = req.group ∧
    ((fdGrp s req).isSome → (fdGrp s1 req1).isSome) := by
  obtain ⟨fd, hist, hfd, hrep, hiss, hfresh, hU⟩ := hat
  have hS := sweep_offsets hc h
  suffices hh : Contig (fdCur s req).2 offs (fdCur s1 req1).2 ∧ ReqAt idx s1 (fdCur s1 req1) from
    ⟨hh.1, hh.2, hS.group, hS.grouped⟩
  rcases hS.offsets with ⟨hsame, hcur⟩ | ⟨n, fd', hfd', hn, hoff', hcur⟩
  · rw [hsame] at hoffs
    have hnil : offs = [] := (List.append_cancel_left ((List.append_nil _).trans hoffs)).symm
    subst hnil
    rw [hcur]
    exact ⟨Contig.nil _, fd, hist, by rw [hS.datalog]; exact hfd, hrep, hiss, hfresh, by rw [hS.config]; exact hU⟩
  · rw [hidx, hfd] at hfd'
    cases hfd'
    rw [hoff'] at hoffs
    have hoe : offs = readOffsets fd (fdCur s req) n := (List.append_cancel_left hoffs).symm
    subst hoe
    obtain ⟨a1, a2, a3, a4⟩ := readOffsets_spec fd hist hrep (fdCur s req) n hiss (by omega)
    rw [CommitLog.cursorAbs_of_le hfresh] at a1 a4
    rw [hcur]
    exact ⟨⟨a1, a4⟩, fd, hist, by rw [hS.datalog]; exact hfd, hrep, a2, a3, by rw [hS.config]; exact hU⟩

theorem groupRun_contiguous {gname : String} {idx : Nat} {s s2 : RState} {offs : List Nat}
    (hrun : GroupRun gname idx s offs s2) : ∀ {cur : Cursor}, GroupAt gname idx s cur →
    offs = List.range' cur.2 offs.length ∧
    ∃ cur2, GroupAt gname idx s2 cur2 ∧ cur2.2 = cur.2 + offs.length := by
  induction hrun with
  | done s => exact fun hat => ⟨rfl, _, hat, rfl⟩
  | other hq _ ih => exact fun hat => ih (hq _ hat)
  | @sweep s s1 _ _ _ req req1 _ _ _ hc hgn hidx h hoffs _ ih =>
    intro cur ⟨g, fd, hist, hg, hcur, hlog⟩
    subst hcur
    have hgrp : fdGrp s req = some g := fdGrp_of hgn hg
    obtain ⟨a, ⟨fd1, hist1, hlog1⟩, hg1, hsome⟩ := sweep_contig hc hidx h hoffs (by rw [fdCur_some hgrp]; exact ⟨fd, hist, hlog⟩)
    obtain ⟨g1, hgrp1⟩ := Option.isSome_iff_exists.mp (hsome (by rw [hgrp]; rfl))
    rw [fdCur_some hgrp, fdCur_some hgrp1] at a; rw [fdCur_some hgrp1] at hlog1
    obtain ⟨b1, cur2, hat2, b2⟩ := ih ⟨g1, fd1, hist1, by unfold fdGrp at hgrp1; rw [hg1, hgn] at hgrp1; exact hgrp1, rfl, hlog1⟩
    exact ⟨(a.append ⟨b1, b2⟩).1, cur2, hat2, (a.append ⟨b1, b2⟩).2⟩

theorem groupRun_increasing {gname : String} {idx : Nat} {s s2 : RState} {offs : List Nat}
    (hrun : GroupRun gname idx s offs s2) : ∀ {cur : Cursor}, GroupAt gname idx s cur →
    offs.Pairwise (· < ·) ∧ (∀ o ∈ offs, cur.2 ≤ o) ∧
    ∃ cur2, GroupAt gname idx s2 cur2 ∧ cur.2 ≤ cur2.2 ∧ ∀ o ∈ offs, o < cur2.2 := by
  intro cur hat
  obtain ⟨e, cur2, hat2, hc⟩ := groupRun_contiguous hrun hat
  have hm : ∀ o ∈ offs, cur.2 ≤ o ∧ o < cur2.2 := fun o ho => by
    rw [e, List.mem_range'_1] at ho; omega
  exact ⟨by rw [e]; exact List.pairwise_lt_range', fun o ho => (hm o ho).1, cur2, hat2, by omega,
    fun o ho => (hm o ho).2⟩

end Rp3
end Router
