/-
The functions on a path to one of the two dev-profile assertions `debug_assert!(check_tracker_duplicates(..).is_none())`
(`prepare_filter` for a SUBSCRIBE, the restored tracker of a CONNECT) are walked with the data invariant and `RC`
together: `RC` is what the assertions check, and it is carried from call to call by its `.ok` statements (`Good.and_ok`).
`Inv3` = `Inv2` ∧ `RC` goes through `step` (`step_good`): `Inv3.reachable`, whence `Inv2.reachable`, `RC.reachable`,
`step_no_panic`.
-/
import Proofs.Lemmas.Router.Rp1_DConnect
import Proofs.Lemmas.Router.Rp1_DConsume
import Proofs.Lemmas.Router.Rp1_DPacket
import Proofs.Lemmas.Router.Rp4_Session
namespace Router

def DR (s s' : RState) : Prop := (DInv s' ∧ s'.notifications = s.notifications) ∧ RC s'

theorem pfTail_good {s : RState} {id : Nat} (h : DInv s) (hl : Live s id) (hr : RC s) : Good (DR s) (pfTail s id) := by
  obtain ⟨c, hc⟩ := hl.get
  unfold pfTail
  gbind ((reschedule_total (r := .newFilter) h hc (by simp)).good.and_ok fun _ h1 => RCX.view hr (Moves.closed.reschedule h1))
    with s1 h1 q1
  split
  · exact q1
  · rename_i c1 hc1
    -- the assertion: under request conservation a tracker holds one request per filter
    rw [RC.tracker_nodup q1.2 hc1]
    exact q1

theorem prepareFilter_good {s : RState} {id : Nat} {cursor : Cursor} {idx : Nat} {f : SubFilter}
    {group : Option String} {subId : Option Nat} (h : DInv s) (hl : Live s id) (hr : RC s)
    (hidx : alookup (logPath f.path) s.datalog.filterIndexes = some idx) :
    Good (DR s) (prepareFilter s id cursor idx f group subId) := by
  obtain ⟨c, hc⟩ := hl.get
  rw [prepareFilter_eq]
  simp only [hc]
  have h1 : DInv (pfState s id cursor f.path group c.clientId) :=
    (h.with_shared _ (pfShared_nonempty h cursor c.clientId group)).of_reads rfl
  have hc1 : getConn (pfState s id cursor f.path group c.clientId) id = some c := hc
  have ht := pfConn_tracker c f.path subId
  have hr1 : ReqsOK (N (pfState s id cursor f.path group c.clientId)) (pfConn c f.path subId).tracker.requests := by
    rw [ht]; exact h.trk id c hc
  split
  · exact ⟨⟨h1.set hc1 rfl hr1, rfl⟩,
      RCX.view hr ⟨Held.of_setc (c' := pfConn c f.path subId) hc rfl (by rw [ht]) (pfConn_subscriptions c f.path subId)
        rfl rfl rfl rfl rfl, WSub.of_native rfl⟩⟩
  · rename_i hnew
    have h2 : DInv (setConn ((pfState s id cursor f.path group c.clientId).g
          (.subscribed id f.path f.qos idx cursor group true)) id
          { pfConn c f.path subId with subscriptions := c.subscriptions ++ [f.path] }) :=
      h1.set hc1 rfl hr1
    have l2 : Live (setConn ((pfState s id cursor f.path group c.clientId).g
          (.subscribed id f.path f.qos idx cursor group true)) id
          { pfConn c f.path subId with subscriptions := c.subscriptions ++ [f.path] }) id := by
      unfold Live; rw [getConn_of_set (show getConn ((pfState s id cursor f.path group c.clientId).g _) id = some c from hc) rfl]; simp
    gbind (track_total (r := pfReq idx f cursor group) h2 l2 (h.fidx _ (mem_of_alookup_eq_some hidx))).good with s3 h3 q3
    -- a request is tracked only for a filter the connection was not subscribed to; conservation is needed here, in
    -- front of the reschedule and the assertion
    obtain ⟨p3, d3, sb3, g3, _⟩ := pfTrack_held (subId := subId) hc h3
    have r3 : RC s3 := hr.subscribe (r := pfReq idx f cursor group) p3 sb3 (by rw [subsOf_live hc]; show f.path ∉ c.subscriptions; simpa using hnew)
      (fun w => by obtain ⟨_, _, rfl⟩ := track_upd h3; exact w) g3 (by rw [d3]) hidx
    refine (pfTail_good q3.1 (l2.shape (track_shape h3)) r3).mono fun s' q => ⟨⟨q.1.1, ?_⟩, q.2⟩
    rw [q.1.2, q3.2]; rfl

theorem subscribeFilters_good {id : Nat} {subId : Option Nat} :
    ∀ (fs : List SubFilter) {s : RState} {codes : List Nat} {fl : Flags}, DInv s → Live s id → RC s →
    Good (fun r => DR s r.1 ∧ r.2.2.newData = fl.newData) (subscribeFilters s id subId fs codes fl)
  | [], s, codes, fl, h, _, hr => ⟨⟨⟨h, rfl⟩, hr⟩, rfl⟩
  | f :: rest, s, codes, fl, h, hl, hr => by
    rw [subscribeFilters_cons]
    split
    · exact ⟨⟨⟨h, rfl⟩, hr⟩, rfl⟩
    · split
      · exact ⟨⟨⟨h, rfl⟩, hr⟩, rfl⟩
      · simp only []
        obtain ⟨hn, _, hnt, hcn⟩ := nextNativeOffset_dinv h (sfFilter f.path)
        have ln : Live (nextNativeOffset s (sfFilter f.path)).1 id := by
          unfold Live getConn at hl ⊢; rw [hcn]; exact hl
        gbind (prepareFilter_good (cursor := (nextNativeOffset s (sfFilter f.path)).2.2) (f := f)
          (group := sfGroup f.path) (subId := subId) hn ln (nextNativeOffset_rc hr _) (nextNativeOffset_filterIdx s _)) with s1 h1 q1
        refine (subscribeFilters_good rest q1.1.1 (ln.shape (prepareFilter_shape h1)) q1.2).mono
          fun r q => ⟨⟨⟨q.1.1.1, ?_⟩, q.1.2⟩, q.2⟩
        rw [q.1.1.2, q1.1.2, hnt]

theorem handlePacket_rc_ok {s s' : RState} {id : Nat} {cid : String} {pkt : Packet} {fl fl' : Flags}
    (hns : ∀ a b c, pkt ≠ .subscribe a b c)
    (h : handlePacket s id cid pkt fl = .ok (s', fl')) (hr : RC s) : RC s' := by
  rcases Moves.closed.handlePacket_cases h with ⟨a, b, c, _, _, _, e, _⟩ | ⟨_, filters, s1, _, rfl, h1, h2⟩ | m
  · exact absurd e (hns a b c)
  · exact RCX.view (unsubscribeFilters_rc filters h1 hr) (Moves.closed.commitAck h2)
  · exact RCX.view hr m

theorem handlePacket_good {s : RState} {id : Nat} {cid : String} {pkt : Packet} {fl : Flags}
    (h : DInv s) (hl : Live s id) (hn : fl.newData = false → s.notifications = []) (hr : RC s) :
    Good (fun r => PendingFlagged r ∧ RC r.1) (handlePacket s id cid pkt fl) := by
  by_cases hsub : ∃ a b c, pkt = .subscribe a b c
  · obtain ⟨pkid, subId, filters, rfl⟩ := hsub
    simp only [handlePacket]
    have hsf := subscribeFilters_good (id := id) (subId := subId) filters (codes := []) (fl := fl) h hl hr
    split
    · rename_i e he; exact Good.error_of he hsf
    · rename_i s1 codes fl1 h1
      have q1 := Good.ok_of h1 hsf
      have l1 : Live s1 id := hl.shape (subscribeFilters_shape filters h1)
      gbind (commitAck_good (a := .suback pkid codes) q1.1.1.1 l1) with s2 h2 q2
      exact ⟨⟨q2.1, fun e => by rw [q2.2, q1.1.1.2]; exact hn (q1.2 ▸ e)⟩, RCX.view q1.1.2 (Moves.closed.commitAck h2)⟩
  · exact (handlePacket_other_good (cid := cid) (pkt := pkt) (fl := fl) (fun a b c e => hsub ⟨a, b, c, e⟩) h hl hn).and_ok
      fun r hr' => handlePacket_rc_ok (fun a b c e => hsub ⟨a, b, c, e⟩) hr' hr

theorem handlePackets_good {id : Nat} {cid : String} : ∀ (ps : List Packet) {s : RState} {fl : Flags}, DInv s →
    Live s id → (fl.newData = false → s.notifications = []) → RC s →
    Good (fun r => PendingFlagged r ∧ RC r.1) (handlePackets s id cid ps fl)
  | [], s, fl, h, _, hn, hr => ⟨⟨h, hn⟩, hr⟩
  | p :: rest, s, fl, h, hl, hn, hr => by
    simp only [handlePackets]
    have hp := handlePacket_good (cid := cid) (pkt := p) h hl hn hr
    split
    · rename_i e he; exact Good.error_of he hp
    · rename_i s1 fl1 h1
      have q1 := Good.ok_of h1 hp
      split
      · exact q1
      · exact handlePackets_good rest q1.1.1 (hl.shape (handlePacket_shape h1)) q1.1.2 q1.2

def BR (s : RState) : Prop := BInv s ∧ RC s

theorem BR.link {s : RState} (h : BR s) (l : Nat) (b : LinkBuf) : BR (setLink s l b) :=
  ⟨⟨h.1.1.of_reads rfl, h.1.2⟩, RCX.view h.2 (Moves.closed.of_rest rfl rfl)⟩

theorem BR.g {s : RState} (h : BR s) (e : Ghost) : BR (s.g e) :=
  ⟨⟨h.1.1.of_reads rfl, h.1.2⟩, RCX.view h.2 (Moves.closed.of_rest rfl rfl)⟩

theorem handleDisconnection_br {s : RState} {id : Nat} {r : Option String} (h : BR s) :
    Good BR (handleDisconnection s id r) :=
  (handleDisconnection_good h.1).and_ok fun _ h1 => handleDisconnection_rc h.2 h.1.2 h1

theorem handleDevicePayload_good {s : RState} {id : Nat} (h : BR s) : Good BR (handleDevicePayload s id) := by
  obtain ⟨h, hr⟩ := h
  unfold handleDevicePayload
  split
  · exact ⟨h, hr⟩
  · rename_i c hc
    simp only []
    have h0 : DInv (setLink s c.link { getLink s c.link with ibuf := [] }) := h.1.of_reads rfl
    have r0 : RC (setLink s c.link { getLink s c.link with ibuf := [] }) :=
      RCX.view hr (Moves.closed.of_rest rfl rfl)
    have l0 : Live (setLink s c.link { getLink s c.link with ibuf := [] }) id := Live.of_get (c := c) hc
    have hp := handlePackets_good (id := id) (cid := c.clientId) (getLink s c.link).ibuf (fl := {}) h0 l0 (fun _ => h.2) r0
    split
    · rename_i e he; exact Good.error_of he hp
    · rename_i s1 fl h1
      obtain ⟨q1, rc1⟩ := Good.ok_of h1 hp
      have l1 : Live s1 id := l0.shape (handlePackets_shape _ h1)
      obtain ⟨c1, hc1⟩ := l1.get
      have hr1 : Good (fun s2 => (DInv s2 ∧ s2.notifications = s1.notifications) ∧ RC s2)
          (if fl.forceAck then reschedule s1 id .freshData else .ok s1) := by
        split
        · exact (reschedule_total q1.1 hc1 (by simp)).good.and_ok fun s2 h2 => RCX.view rc1 (Moves.closed.reschedule h2)
        · exact ⟨⟨q1.1, rfl⟩, rc1⟩
      split
      · rename_i e he; exact Good.error_of he hr1
      · rename_i s2 h2
        obtain ⟨q2, rc2⟩ := Good.ok_of h2 hr1
        have hr2 : Good BR
            (if fl.newData then drainNotifications { s2 with notifications := [] } s2.notifications else .ok s2) := by
          split
          · exact (drain_all_good q2.1).and_ok fun s3 h3 => RCX.view rc2 (Moves.closed.drain h3)
          · rename_i hnd
            exact ⟨⟨q2.1, by rw [q2.2]; exact q1.2 (by simpa using hnd)⟩, rc2⟩
        split
        · rename_i e he; exact Good.error_of he hr2
        · rename_i s3 h3
          obtain ⟨q3, rc3⟩ := Good.ok_of h3 hr2
          have hr3 : Good BR (wakeTurnMoved s3) :=
            ((wakeTurnMoved_total q3.1).mono fun s' q => (⟨q.1, by rw [q.2]; exact q3.2⟩ : BInv s')).good.and_ok
              fun s4 h4 => RCX.view rc3 (Moves.closed.wakeTurnMoved h4)
          split
          · rename_i e he; exact Good.error_of he hr3
          · rename_i s4 h4
            have q4 := Good.ok_of h4 hr3
            split
            · exact handleDisconnection_br q4
            · exact q4

theorem hnRegister_good {s : RState} {spec : ConnectSpec} (h : BR s) (ha : AdmInv s)
    (hnone : alookup spec.clientId s.connectionMap = none) (hroom : s.conns.len < s.config.maxConnections) :
    Good BR (hnRegister s spec) := by
  -- the restored tracker passes `check_tracker_duplicates`: a saved session holds one request per filter
  rw [hnRegister_eq', (trackerNoDup_iff _).mpr (hnRestored_ok h.2 spec).1]
  have hnew := (hnPre_getConn ha hnone hroom).new
  exact ((reschedule_total (hnPre_dinv h.1 ha hnone hroom) hnew fun _ => (hnTracker_ok h.1.1 spec).2).mono
    fun s' q => (⟨q.1, by rw [q.2]; exact h.1.2⟩ : BInv s')).good.and_ok
      fun _ he => RCX.view (hnPre_rc h.2 ha hnone hroom) (Moves.closed.reschedule he)

theorem hnTakeover_good {s : RState} {spec : ConnectSpec} (h : BR s) : Good BR (hnTakeover s spec) := by
  unfold hnTakeover
  split
  · exact handleDisconnection_br h
  · exact h

theorem hnTakeover_br {s s1 : RState} {spec : ConnectSpec} (h : BR s)
    (ht : hnTakeover (setLink s spec.link {}) spec = .ok s1) : BR s1 :=
  Good.ok_of ht (hnTakeover_good (h.link spec.link {}))

theorem handleNewConnection_good {s : RState} {spec : ConnectSpec} (h : BR s) (ha : AdmInv s) :
    Good BR (handleNewConnection s spec) := by
  rw [handleNewConnection_eq]
  simp only []
  have h0 := h.link spec.link {}
  have a0 : AdmInv (setLink s spec.link {}) := ha.congr rfl rfl rfl
  split
  · exact h0.g _
  · gbind hnTakeover_good (spec := spec) h0 with s1 h1 q1
    obtain ⟨a1, hnone, _⟩ := hnTakeover_spec a0 h1
    split
    · exact q1.g _
    · rename_i hroom
      exact hnRegister_good q1 a1 hnone (by omega)

structure Inv3 (s : RState) : Prop where
  inv2 : Inv2 s
  rc : RC s

theorem Inv3.br {s : RState} (h : Inv3 s) : BR s := ⟨h.inv2.binv, h.rc⟩

theorem RC.init (cfg : Config) : RC (init cfg) := by
  have e : ∀ id, keysOf (Router.init cfg) id = [] := fun id => by
    simp [keysOf, trackerKeys, waiterKeys, notifKeys, Router.init, getConn, Slab.get?, pickK]
  refine (RC.iff _).mpr ⟨⟨fun id => ?_, fun id k hk => ?_, fun id k hk => ?_⟩, ?_, ?_⟩
  · rw [e]; exact List.nodup_nil
  · rw [e] at hk; cases hk
  · rw [e] at hk; cases hk
  · intro i fd hfd; simp [Router.init] at hfd
  · intro p hp; simp [Router.init] at hp

theorem RC.oracle {s : RState} (h : RC s) (o : List Choice) : RC { s with oracle := o } :=
  RCX.view h (Moves.closed.of_rest rfl rfl)

theorem step_other_rc {s s' : RState} {op : Op} {out : Out} (hb : BInv s) (hr : RC s)
    (hop : (∀ spec, op ≠ .connect spec) ∧ (∀ id, op ≠ .event id .deviceData))
    (h : step s op = .ok (s', out)) : RC s' := by
  by_cases hc : op = .consume
  · subst hc
    cases op_cases h with
    | consume b h' => exact consume_rc hr h'
  · by_cases hd : ∃ id, op = .event id .disconnect
    · obtain ⟨id, rfl⟩ := hd
      cases op_cases h with
      | event _ _ h' => exact handleDisconnection_rc hr hb.2 (show handleDisconnection s id none = .ok s' from h')
    · exact RCX.view hr (Moves.closed.step ⟨hop.1, hop.2, fun id e => hd ⟨id, e⟩, hc⟩ h)

theorem step_good {s : RState} {op : Op} (h : Inv3 s) : Good (fun r => BR r.1) (step s op) := by
  have hb := h.br
  by_cases hop : (∀ spec, op ≠ .connect spec) ∧ (∀ id, op ≠ .event id .deviceData)
  · -- no assertion on the way: the data invariant by the walk, conservation from the `.ok` statement
    refine Good.and_ok ?_ fun r hr' => step_other_rc hb.1 hb.2 hop hr'
    cases op with
    | connect spec => exact absurd rfl (hop.1 spec)
    | push l p =>
      simp only [step]
      split
      · exact (hb.link _ _).1
      · exact hb.1
    | event id e =>
      simp only [step]
      gbind (events_good (fun hd => hop.2 id (hd ▸ rfl)) hb.1) with s1 h1 q1
      exact q1
    | consume =>
      simp only [step]
      have hc := consume_good hb.1
      split
      · rename_i e he; exact Good.error_of he hc
      · rename_i s1 b h1
        exact (Good.ok_of (P := fun (r : RState × Bool) => BInv r.1) h1 hc : BInv (s1, b).1)
    | drain l =>
      simp only [step]
      split
      · split
        · exact (hb.link _ _).1
        · exact hb.1
      · exact hb.1
  · cases op with
    | connect spec =>
      simp only [step]
      gbind (handleNewConnection_good (spec := spec) hb h.inv2.inv1.adm) with s1 h1 q1
      exact q1
    | event id ev =>
      cases ev with
      | deviceData =>
        simp only [step, events]
        gbind (handleDevicePayload_good (id := id) hb) with s1 h1 q1
        exact q1
      | _ => exact absurd ⟨by simp, by simp⟩ hop
    | _ => exact absurd ⟨by simp, by simp⟩ hop

theorem Inv3.init (cfg : Config) : Inv3 (init cfg) := ⟨Inv2.init cfg, RC.init cfg⟩

theorem Inv3.oracle {s : RState} (h : Inv3 s) (o : List Choice) : Inv3 { s with oracle := o } :=
  ⟨h.inv2.oracle o, h.rc.oracle o⟩

theorem Inv3.step {s s' : RState} {op : Op} {out : Out} (h : Inv3 s) (hs : step s op = .ok (s', out)) : Inv3 s' :=
  have q : BR (s', out).1 := Good.ok_of (P := fun (r : RState × Out) => BR r.1) hs (step_good h)
  ⟨⟨h.inv2.inv1.step hs, q.1⟩, q.2⟩

theorem Inv3.reachable {cfg : Config} {s : RState} (hr : Reachable cfg s) : Inv3 s :=
  hr.induction Inv3 (Inv3.init cfg) fun _ o _ _ _ hi h => (hi.oracle o).step h

theorem Inv2.reachable {cfg : Config} {s : RState} (hr : Reachable cfg s) : Inv2 s := (Inv3.reachable hr).inv2

theorem RC.reachable {cfg : Config} {s : RState} (hr : Reachable cfg s) : RC s := (Inv3.reachable hr).rc

theorem step_no_panic {s : RState} (h : Inv3 s) (op : Op) (msg : String) : step s op ≠ .error (.panic msg) :=
  (step_good (op := op) h).not_panic msg

end Router
