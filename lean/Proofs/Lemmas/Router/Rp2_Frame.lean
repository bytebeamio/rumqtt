/-
In this group `XFrame s s'` is a relation between two states (what `s'` keeps of `s`); what the base calls a frame,
closure facts about a relation `R`, is `Bookkeeping R`, and the lemma of the model function `f` is `Bookkeeping.f`.
It covers the scheduler calls, the wake-ups, the data log and `append_to_commitlog` (its accepted publish and its
append are hypotheses) and stops there in this file (`Rp2_Subs` adds the SUBSCRIBE / UNSUBSCRIBE loops): no whole packet,
no `forward_device_data`, no step.
-/
import Proofs.Lemmas.Router.Base.Basic
import Proofs.Lemmas.Router.Base.Effect
namespace Router

/-- what the ack theorems look at in a connection: ack log, link, client id -/
def Conn.view (c : Conn) : AckLog × Nat × String := (c.acks, c.link, c.clientId)

def ConnFrame (s s' : RState) : Prop :=
  ∀ j, (getConn s' j).map Conn.view = (getConn s j).map Conn.view

theorem ConnFrame.refl (s : RState) : ConnFrame s s := fun _ => rfl

theorem ConnFrame.trans {a b c : RState} (h1 : ConnFrame a b) (h2 : ConnFrame b c) : ConnFrame a c :=
  fun j => (h2 j).trans (h1 j)

theorem ConnFrame.of_conns {s s' : RState} (h : s'.conns = s.conns) : ConnFrame s s' :=
  fun j => by rw [getConn_congr h j]

theorem ConnFrame.setConn {s : RState} {id : Nat} {c c' : Conn} (h : getConn s id = some c)
    (hv : c'.view = c.view) : ConnFrame s (setConn s id c') := by
  intro j
  by_cases hj : j = id
  · subst hj
    rw [getConn_setConn_same _ _ _ (Slab.lt_of_get? h), h]; simp [hv]
  · rw [getConn_setConn_ne _ _ _ _ hj]

theorem ConnFrame.get {s s' : RState} (h : ConnFrame s s') {j : Nat} {c : Conn} (hc : getConn s j = some c) :
    ∃ c', getConn s' j = some c' ∧ c'.acks = c.acks ∧ c'.link = c.link ∧ c'.clientId = c.clientId := by
  have := h j
  rw [hc] at this
  cases h' : getConn s' j with
  | none => simp [h'] at this
  | some c' =>
    simp only [h', Option.map_some, Option.some.injEq, Conn.view, Prod.mk.injEq] at this
    exact ⟨c', rfl, this.1, this.2.1, this.2.2⟩

structure AckFrame (s s' : RState) : Prop where
  links : s'.links = s.links
  conns : ConnFrame s s'

theorem AckFrame.refl (s : RState) : AckFrame s s := ⟨rfl, ConnFrame.refl s⟩

theorem AckFrame.trans {a b c : RState} (h1 : AckFrame a b) (h2 : AckFrame b c) : AckFrame a c :=
  ⟨h2.links.trans h1.links, h1.conns.trans h2.conns⟩

theorem AckFrame.of_eq {s s' : RState} (hl : s'.links = s.links) (h : s'.conns = s.conns) : AckFrame s s' :=
  ⟨hl, ConnFrame.of_conns h⟩

theorem AckFrame.setConn {s : RState} {id : Nat} {c c' : Conn} (h : getConn s id = some c)
    (hv : c'.view = c.view) : AckFrame s (setConn s id c') :=
  ⟨rfl, ConnFrame.setConn h hv⟩

theorem AckFrame.g {s s' : RState} (h : AckFrame s s') (e : Ghost) : AckFrame s (s'.g e) := ⟨h.links, h.conns⟩

theorem AckFrame.getLink {s s' : RState} (h : AckFrame s s') (l : Nat) : getLink s' l = getLink s l :=
  getLink_congr h.links l

/-- closure facts about a relation that the router's bookkeeping (scheduling, subscription maps, shared groups, waiter
    lists) respects; an equation of `of_eq` that is not `rfl` is given by name -/
structure Bookkeeping (R : RState → RState → Prop) : Prop where
  refl : ∀ s, R s s
  trans : ∀ {a b c}, R a b → R b c → R a c
  of_eq : ∀ {s s' : RState} (conns : s'.conns = s.conns) (links : s'.links = s.links)
    (retained : s'.datalog.retained = s.datalog.retained) (wills : s'.lastWills = s.lastWills)
    (ghost : s'.ghost = s.ghost), R s s'
  setConn : ∀ {s id c c'}, getConn s id = some c → c'.view = c.view → R s (setConn s id c')
  subscribed : ∀ s id path qos idx cursor group isNew,
    R s (s.g (.subscribed id path qos idx cursor group isNew))
  unsubscribed : ∀ s id f, R s (s.g (.unsubscribed id f))

theorem Bookkeeping.and {R Q : RState → RState → Prop} (W : Bookkeeping R) (V : Bookkeeping Q) :
    Bookkeeping (fun s s' => R s s' ∧ Q s s') where
  refl := fun s => ⟨W.refl s, V.refl s⟩
  trans := fun h1 h2 => ⟨W.trans h1.1 h2.1, V.trans h1.2 h2.2⟩
  of_eq := fun a b c d e => ⟨W.of_eq a b c d e, V.of_eq a b c d e⟩
  setConn := fun hc hv => ⟨W.setConn hc hv, V.setConn hc hv⟩
  subscribed := fun s a b c d e f g => ⟨W.subscribed s a b c d e f g, V.subscribed s a b c d e f g⟩
  unsubscribed := fun s a b => ⟨W.unsubscribed s a b, V.unsubscribed s a b⟩

section
variable {R : RState → RState → Prop} (W : Bookkeeping R)
include W

theorem Bookkeeping.sched {s s' : RState} {id : Nat} (h : SchedStep id s s') : R s s' := by
  obtain ⟨c, t, q, hc, rfl⟩ := h
  exact W.trans (W.setConn (c' := { c with tracker := t }) hc rfl) (W.of_eq rfl rfl rfl rfl rfl)

theorem Bookkeeping.reschedule {s s' : RState} {id : Nat} {r : SchedReason} (h : reschedule s id r = .ok s') :
    R s s' := W.sched (reschedule_step h)

theorem Bookkeeping.track {s s' : RState} {id : Nat} {r : DataRequest} (h : track s id r = .ok s') : R s s' :=
  W.sched (track_step h)

theorem Bookkeeping.park {s s' : RState} {id : Nat} {r : DataRequest} (h : park s id r = .ok s') : R s s' := by
  obtain ⟨fd, _, rfl⟩ := park_upd h
  exact W.of_eq rfl rfl rfl rfl rfl

theorem Bookkeeping.drainNotifications (ns : List (Nat × DataRequest)) {s s' : RState}
    (h : drainNotifications s ns = .ok s') : R s s' :=
  drainNotifications_rel R W.refl (fun _ _ _ => W.trans) (fun _ _ _ _ => W.track) (fun _ _ _ => W.reschedule) ns h

theorem Bookkeeping.wakeParked {s s' : RState} {logs : List Nat} (h : wakeParked s logs = .ok s') : R s s' :=
  wakeParked_rel R W.refl (fun _ _ _ => W.trans)
    (fun _ _ _ _ => W.of_eq rfl rfl rfl rfl rfl) (fun _ _ ns h => W.drainNotifications ns h) h

theorem Bookkeeping.wakeTurnMoved {s s' : RState} (h : wakeTurnMoved s = .ok s') : R s s' :=
  wakeTurnMoved_rel R W.refl (fun _ _ _ => W.trans)
    (fun _ _ _ _ => W.of_eq rfl rfl rfl rfl rfl) (fun _ _ ns h => W.drainNotifications ns h)
    (fun _ => W.of_eq rfl rfl rfl rfl rfl) h

theorem Bookkeeping.noteTurn (s0 s1 : RState) (req : DataRequest) : R s1 (noteTurn s0 s1 req) := by
  obtain ⟨tm, e⟩ := noteTurn_upd s0 s1 req
  rw [e]; exact W.of_eq rfl rfl rfl rfl rfl

theorem Bookkeeping.dlMatches {s s' : RState} {topic : String} {v : List Nat}
    (h : dlMatches s topic = .ok (s', v)) : R s s' := by
  obtain ⟨pf, o, rfl⟩ := dlMatches_upd h
  exact W.of_eq rfl rfl rfl rfl rfl

theorem Bookkeeping.nextNativeOffset (s : RState) (filter : String) : R s (nextNativeOffset s filter).1 := by
  rcases nextNativeOffset_upd s filter with e | ⟨_, _, _, e⟩ <;> rw [e]
  · exact W.refl _
  · exact W.of_eq rfl rfl rfl rfl rfl

theorem Bookkeeping.appendToFilters {p : Pub}
    (happ : ∀ {s s' : RState} {i : Nat}, appendToFilter s i p = .ok s' → R s s') (idxs : List Nat) {s s' : RState}
    (h : appendToFilters s idxs p = .ok s') : R s s' :=
  appendToFilters_rel R W.refl (fun _ _ _ => W.trans) (fun _ _ _ => happ) idxs h

/-- `hacc`: the one accepted publish; `happ`: its unflagged append to a matching filter -/
theorem Bookkeeping.appendToCommitlog {id : Nat}
    (hacc : ∀ s topic p, R s ((updateRetained s topic p).g (.accepted (some id) p topic)))
    (happ : ∀ {s s' : RState} {i : Nat} {p : Pub}, p.retain = false → appendToFilter s i p = .ok s' → R s s')
    {s s' : RState} {p : Pub} {e : Option AppendErr}
    (h : appendToCommitlog s id p = .ok (s', e)) : R s s' :=
  appendToCommitlog_rel R W.refl (fun _ _ _ => W.trans) (fun _ _ _ hc _ => W.setConn hc rfl)
    (fun _ s topic p _ _ => hacc s topic p) (fun _ _ _ _ => W.dlMatches) (fun _ _ _ _ _ _ _ => happ rfl) h

end

theorem lastWills_bookkeeping : Bookkeeping (fun s s' => s'.lastWills = s.lastWills) where
  refl := fun _ => rfl
  trans := fun h1 h2 => h2.trans h1
  of_eq := fun _ _ _ h _ => h
  setConn := fun _ _ => rfl
  subscribed := fun _ _ _ _ _ _ _ _ => rfl
  unsubscribed := fun _ _ _ => rfl

theorem AckFrame.bookkeeping : Bookkeeping AckFrame where
  refl := AckFrame.refl
  trans := AckFrame.trans
  of_eq := fun hc hl _ _ _ => AckFrame.of_eq hl hc
  setConn := AckFrame.setConn
  subscribed := fun _ _ _ _ _ _ _ _ => AckFrame.of_eq rfl rfl
  unsubscribed := fun _ _ _ => AckFrame.of_eq rfl rfl

theorem appendToFilter_frame {s s' : RState} {idx : Nat} {p : Pub}
    (h : appendToFilter s idx p = .ok s') : AckFrame s s' := by
  obtain ⟨_, _, _, _, rfl⟩ := appendToFilter_upd h
  exact AckFrame.of_eq rfl rfl

theorem updateRetained_frame (s : RState) (topic : String) (p : Pub) : AckFrame s (updateRetained s topic p) := by
  obtain ⟨r, e⟩ := updateRetained_upd s topic p
  rw [e]; exact AckFrame.of_eq rfl rfl

/-- `append_to_commitlog` touches only the publisher's topic aliases among the connection fields -/
theorem appendToCommitlog_frame {s s' : RState} {id : Nat} {p : Pub} {e : Option AppendErr}
    (h : appendToCommitlog s id p = .ok (s', e)) : AckFrame s s' :=
  AckFrame.bookkeeping.appendToCommitlog (fun s topic p => (updateRetained_frame s topic p).g _)
    (fun _ h => appendToFilter_frame h) h

end Router
