/-
C20: what keeps `ConnOk`. One connection keeps it in the sense of `ConnPre` (`KConn.pre`), so every live connection does
along the frames of Base/Walk (`ConnAll.frame`; `ConnsOk.frame` in Rp17_EmittableInv); only where a connection is removed
or inserted (`handle_disconnection`, the registration) the slab lemmas serve. `KConn` says it as a relation (every
connection stays and keeps `ConnOk`), `KStep` adds "the group table stays".
-/
import Proofs.Lemmas.Router.Rp16_Emittable
import Proofs.Lemmas.Router.Base.Walk
namespace Router
open Codec

/-- what `fdOut_emittable` asks of the connection a sweep serves -/
def ConnOk (c : Conn) : Prop := AliasesOk c ∧ ∀ p ∈ c.subscriptionIds, p.2 ≤ Codec.remainingLimit

theorem ConnOk.congr {c c' : Conn} (e : c'.brokerAliases = c.brokerAliases) (e2 : c'.subscriptionIds = c.subscriptionIds)
    (h : ConnOk c) : ConnOk c' :=
  ⟨fun b hb => h.1 b (by rw [← e]; exact hb), by rw [e2]; exact h.2⟩

theorem ConnOk.sid {c : Conn} (h : ConnOk c) (f : String) : ∀ i, alookup f c.subscriptionIds = some i → i ≤ remainingLimit :=
  fun i hi => h.2 (f, i) (mem_of_alookup_eq_some hi)

theorem pfConn_ok {c : Conn} {path : String} {subId : Option Nat} (hs : ∀ i, subId = some i → i ≤ remainingLimit)
    (subs : List String) (h : ConnOk c) : ConnOk { pfConn c path subId with subscriptions := subs } := by
  cases subId with
  | none => exact h
  | some i =>
    exact ⟨h.1, forall_ainsert (l := c.subscriptionIds) h.2 (hs i rfl)⟩

theorem ufConn_ok {d : DataLog} {c : Conn} {f : String} (h : ConnOk c) : ConnOk (ufConn d c f) := by
  refine ⟨fun b hb => ?_, forall_aremove (l := c.subscriptionIds) h.2⟩
  have hb' : c.brokerAliases.map (fun b => BrokerAliases.removeAlias b f) = some b := hb
  cases hc : c.brokerAliases with
  | none => rw [hc] at hb'; cases hb'
  | some b0 =>
    rw [hc] at hb'
    simp only [Option.map_some, Option.some.injEq] at hb'
    obtain ⟨hmax, hall⟩ := h.1 b0 hc
    subst hb'
    unfold BrokerAliases.removeAlias
    split
    · exact ⟨hmax, hall⟩
    · exact ⟨hmax, forall_aremove hall⟩

def KConn (s s' : RState) : Prop :=
  ∀ id c, getConn s id = some c → ∃ c', getConn s' id = some c' ∧ (ConnOk c → ConnOk c')

theorem KConn_eq : KConn = ConnsKeep fun c c' => ConnOk c → ConnOk c' := rfl

theorem KConn.pre : ConnPre fun c c' => ConnOk c → ConnOk c' where
  refl := fun _ x => x
  trans := fun h1 h2 x => h2 (h1 x)
  same := fun _ _ e e2 => ConnOk.congr e e2
  push := fun _ _ f h => ⟨fun b hb => fdAliases_ok h.1 f b hb, h.2⟩

theorem KConn.frame : StepFrame KConn := ConnsKeep.frame KConn.pre

theorem KConn.refl (s : RState) : KConn s s := KConn.frame.refl s
theorem KConn.trans {a b c : RState} (h1 : KConn a b) (h2 : KConn b c) : KConn a c := KConn.frame.trans h1 h2

theorem KConn.of_conns {s s' : RState} (hc : s'.conns = s.conns) : KConn s s' := ConnsKeep.of_conns KConn.pre hc

theorem KConn.of_setk {s s' : RState} {id : Nat} {c c' : Conn} (hc : getConn s id = some c)
    (hconns : s'.conns = s.conns.set id c') (hk : ConnOk c → ConnOk c') : KConn s s' :=
  ConnsKeep.of_set KConn.pre hc hconns hk

structure KStep (s s' : RState) : Prop where
  conn : KConn s s'
  shared : s'.shared = s.shared

theorem KStep.frame : StepFrame KStep := KConn.frame.with_shared KStep.mk KStep.conn KStep.shared

theorem KStep.of_conns {s s' : RState} (hc : s'.conns = s.conns) (_hnat : s'.datalog.native = s.datalog.native)
    (_hfi : s'.datalog.filterIndexes = s.datalog.filterIndexes) (hsh : s'.shared = s.shared)
    (_htm : s'.turnMoved = s.turnMoved) : KStep s s' := ⟨KConn.of_conns hc, hsh⟩

theorem KStep.of_setk {s s' : RState} {id : Nat} {c c' : Conn} (hc : getConn s id = some c)
    (hconns : s'.conns = s.conns.set id c') (hk : ConnOk c → ConnOk c') (hsh : s'.shared = s.shared) : KStep s s' :=
  ⟨KConn.of_setk hc hconns hk, hsh⟩

theorem KStep.of_setc {s s' : RState} {id : Nat} {c c' : Conn} (hc : getConn s id = some c)
    (hconns : s'.conns = s.conns.set id c') (hcid : c'.brokerAliases = c.brokerAliases)
    (hsubs : c'.subscriptionIds = c.subscriptionIds)
    (_hfi : s'.datalog.filterIndexes = s.datalog.filterIndexes) (hsh : s'.shared = s.shared)
    (_htm : s'.turnMoved = s.turnMoved) : KStep s s' :=
  KStep.of_setk hc hconns (ConnOk.congr hcid hsubs) hsh

theorem KStep.of_set {s s' : RState} {id : Nat} {c c' : Conn} (hc : getConn s id = some c)
    (hconns : s'.conns = s.conns.set id c') (_hr : c'.tracker.requests = c.tracker.requests) (hcid : c'.brokerAliases = c.brokerAliases)
    (hsubs : c'.subscriptionIds = c.subscriptionIds)
    (hfi : s'.datalog.filterIndexes = s.datalog.filterIndexes) (hsh : s'.shared = s.shared)
    (htm : s'.turnMoved = s.turnMoved) : KStep s s' := KStep.of_setc hc hconns hcid hsubs hfi hsh htm

theorem handleShadow_kstep {s s' : RState} {id : Nat} {f : String} (h : handleShadow s id f = .ok s') : KStep s s' :=
  KStep.frame.handleShadow h

theorem wakeTurnMoved_kstep {s s' : RState} (h : wakeTurnMoved s = .ok s') : KStep s s' :=
  KStep.frame.wakeTurnMoved (fun _ => ⟨KConn.of_conns rfl, rfl⟩) h

end Router
