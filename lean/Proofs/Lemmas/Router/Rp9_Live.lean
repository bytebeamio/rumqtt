/-
`GL`: a shared group never sleeps with entries to hand out — its cursor is at the end of its log, or the log is about to be
woken, or the holder of the turn has no request of the group parked there. The condition takes the logs
about to be woken as a parameter (`LVeIn`); every step of it is `LVe.woken`.
-/
import Proofs.Lemmas.Router.Rp5_Cursor
import Proofs.Lemmas.Router.Rp6_Own
import Proofs.Lemmas.Router.Rp2_Wake
namespace Router
open CommitLog (logC cursorAbs)

/-- a read from `cur` returns nothing -/
def AbsEnd (fd : FilterData) (cur : Cursor) : Prop := cursorAbs (logC fd.log) cur = (logC fd.log).nextAbs

/-- the holder of the turn of `g` has no request of the group parked on log `i` -/
def NoneParked (s : RState) (g : String) (grp : SharedGroup) (i : Nat) : Prop :=
  ∀ id c r, getConn s id = some c → grp.current = some c.clientId → r.group = some g → ¬ ParkedAt s i id r

/-- `W`: the logs about to be woken -/
def LVeIn (s : RState) (W : List Nat) (g : String) (grp : SharedGroup) : Prop :=
  ∀ i, s.datalog.filterIdx? (Rp3.gpath g) = some i →
    (∃ fd, s.datalog.native[i]? = some fd ∧ AbsEnd fd grp.cursor) ∨ i ∈ W ∨ NoneParked s g grp i

/-- between two calls the logs about to be woken are those of `turn_moved` -/
def LVe (s : RState) (g : String) (grp : SharedGroup) : Prop :=
  ∀ i, s.datalog.filterIdx? (Rp3.gpath g) = some i →
    (∃ fd, s.datalog.native[i]? = some fd ∧ AbsEnd fd grp.cursor) ∨ i ∈ s.turnMoved ∨ NoneParked s g grp i

theorem LVeIn.more {s : RState} {W W' : List Nat} {g : String} {grp : SharedGroup} (h : LVeIn s W g grp)
    (hw : ∀ i ∈ W, i ∈ W') : LVeIn s W' g grp := fun i hi => (h i hi).imp id (.imp (hw i) id)

/-- what `GL` asks of one entry of the group table -/
def GOkW (s : RState) (W : List Nat) (p : String × SharedGroup) : Prop :=
  p.2.idx < p.2.clients.length ∧ (p.1.toList.idxOf? '/').isSome = true ∧ LVeIn s W p.1 p.2

structure GL (s : RState) : Prop where
  nodup : (s.shared.map (·.1)).Nodup
  wf : ∀ p ∈ s.shared, p.2.idx < p.2.clients.length
  key : ∀ p ∈ s.shared, (p.1.toList.idxOf? '/').isSome = true
  lv : ∀ p ∈ s.shared, LVe s p.1 p.2

theorem LVe.congr {s : RState} {g : String} {grp grp' : SharedGroup} (h : LVe s g grp) (hc : grp'.cursor = grp.cursor)
    (hcur : grp'.current = grp.current) : LVe s g grp' := by
  intro i hi
  rcases h i hi with ⟨fd, a, b⟩ | h | h
  · exact .inl ⟨fd, a, by rw [hc]; exact b⟩
  · exact .inr (.inl h)
  · exact .inr (.inr fun id c r hcn hh => h id c r hcn (hcur ▸ hh))

/-- what every step but `park` and the reset of `turn_moved` does, as far as `LVe` reads the state. The right disjuncts
    of `conn` and `fi` let a new connection and a new log through: nothing is parked for them yet -/
structure LMono (s s' : RState) : Prop where
  conn : ∀ id c', getConn s' id = some c' →
    (∃ c, getConn s id = some c ∧ c.clientId = c'.clientId) ∨ (∀ i r, ¬ ParkedAt s' i id r)
  parked : ∀ i id r, ParkedAt s' i id r → ParkedAt s i id r
  tm : ∀ i ∈ s.turnMoved, i ∈ s'.turnMoved
  fi : ∀ f i, s'.datalog.filterIdx? f = some i → s.datalog.filterIdx? f = some i ∨ ∀ id r, ¬ ParkedAt s' i id r
  logs : ∀ (i : Nat) fd, s.datalog.native[i]? = some fd →
    ∃ fd', s'.datalog.native[i]? = some fd' ∧ (fd'.log = fd.log ∨ fd'.waiters = [])

theorem LMono.of_conns {s s' : RState} (hc : s'.conns = s.conns) (hnat : s'.datalog.native = s.datalog.native)
    (hfi : s'.datalog.filterIndexes = s.datalog.filterIndexes) (htm : s'.turnMoved = s.turnMoved) : LMono s s' :=
  ⟨fun id c' h => .inl ⟨c', getConn_congr hc id ▸ h, rfl⟩, fun i id r => (parkedAt_of_native hnat i id r).mp,
    fun i h => by rw [htm]; exact h, fun f i h => .inl (filterIdx?_congr hfi f ▸ h),
    fun i fd h => ⟨fd, by rw [hnat]; exact h, .inl rfl⟩⟩

theorem LMono.refl (s : RState) : LMono s s := LMono.of_conns rfl rfl rfl rfl

theorem LMono.trans {a b c : RState} (h1 : LMono a b) (h2 : LMono b c) : LMono a c := by
  refine ⟨fun id c' hc => ?_, fun i id r h => h1.parked i id r (h2.parked i id r h), fun i h => h2.tm i (h1.tm i h),
    fun f i h => ?_, fun i fd h => ?_⟩
  · rcases h2.conn id c' hc with ⟨cb, hb, e⟩ | h
    · rcases h1.conn id cb hb with ⟨ca, ha, e'⟩ | h'
      · exact .inl ⟨ca, ha, e'.trans e⟩
      · exact .inr fun i r hp => h' i r (h2.parked i id r hp)
    · exact .inr h
  · rcases h2.fi f i h with hb | h'
    · rcases h1.fi f i hb with ha | h''
      · exact .inl ha
      · exact .inr fun id r hp => h'' id r (h2.parked i id r hp)
    · exact .inr h'
  · obtain ⟨fd1, g1, e1⟩ := h1.logs i fd h
    obtain ⟨fd2, g2, e2⟩ := h2.logs i fd1 g1
    refine ⟨fd2, g2, ?_⟩
    rcases e2 with e2 | e2
    · rcases e1 with e1 | e1
      · exact .inl (e2.trans e1)
      · -- a log the first step emptied stays empty: what is parked after the second step was parked before it
        refine .inr (List.eq_nil_iff_forall_not_mem.mpr fun w hw => ?_)
        have := h2.parked i w.1 w.2 ⟨fd2, g2, hw⟩
        obtain ⟨fd1', g1', hm⟩ := this
        rw [g1] at g1'; cases g1'
        rw [e1] at hm; cases hm
    · exact .inr e2

theorem LVe.woken {s s' : RState} {g : String} {grp : SharedGroup} {W : List Nat} (m : LMono s s')
    (hw : ∀ i ∈ W, i ∈ s'.turnMoved ∨ ∀ id r, ¬ ParkedAt s' i id r) (h : LVeIn s W g grp) : LVe s' g grp := by
  intro i hi
  rcases m.fi _ i hi with hi0 | hnp
  · rcases h i hi0 with ⟨fd, a, b⟩ | h1 | h1
    · obtain ⟨fd', a', e⟩ := m.logs i fd a
      rcases e with e | e
      · exact .inl ⟨fd', a', by unfold AbsEnd at b ⊢; rw [e]; exact b⟩
      · refine .inr (.inr fun id c r _ _ _ hpk => ?_)
        obtain ⟨fd'', a'', hm⟩ := hpk
        rw [a'] at a''; cases a''
        rw [e] at hm; cases hm
    · rcases hw i h1 with h2 | h2
      · exact .inr (.inl h2)
      · exact .inr (.inr fun id c r _ _ _ hpk => h2 id r hpk)
    · refine .inr (.inr fun id c' r hc' hcur hg hpk => ?_)
      rcases m.conn id c' hc' with ⟨c, hc, e⟩ | hn
      · exact h1 id c r hc (e ▸ hcur) hg (m.parked i id r hpk)
      · exact hn i r hpk
  · exact .inr (.inr fun id c r _ _ _ hpk => hnp id r hpk)

theorem LVe.mono {s s' : RState} {g : String} {grp : SharedGroup} (h : LVe s g grp) (m : LMono s s') : LVe s' g grp :=
  LVe.woken m (fun i hi => .inl (m.tm i hi)) h

structure LStep (s s' : RState) : Prop where
  mono : LMono s s'
  shared : s'.shared = s.shared

theorem LStep.refl (s : RState) : LStep s s := ⟨LMono.refl s, rfl⟩
theorem LStep.trans {a b c : RState} (h1 : LStep a b) (h2 : LStep b c) : LStep a c :=
  ⟨h1.mono.trans h2.mono, h2.shared.trans h1.shared⟩

theorem GL.of_entries {s s' : RState} (h : GL s) (m : LMono s s') (hn : (s'.shared.map (·.1)).Nodup)
    (he : ∀ p ∈ s'.shared, p ∈ s.shared ∨ GOkW s' s'.turnMoved p) : GL s' :=
  have e : ∀ p ∈ s'.shared, GOkW s' s'.turnMoved p := fun p hp =>
    (he p hp).elim (fun h0 => ⟨h.wf p h0, h.key p h0, (h.lv p h0).mono m⟩) id
  ⟨hn, fun p hp => (e p hp).1, fun p hp => (e p hp).2.1, fun p hp => (e p hp).2.2⟩

theorem GL.step {s s' : RState} (h : GL s) (m : LStep s s') : GL s' :=
  h.of_entries m.mono (by rw [m.shared]; exact h.nodup) fun p hp => .inl (m.shared ▸ hp)

theorem LStep.of_conns {s s' : RState} (hc : s'.conns = s.conns) (hnat : s'.datalog.native = s.datalog.native)
    (hfi : s'.datalog.filterIndexes = s.datalog.filterIndexes) (hsh : s'.shared = s.shared)
    (htm : s'.turnMoved = s.turnMoved) : LStep s s' := ⟨LMono.of_conns hc hnat hfi htm, hsh⟩

theorem LStep.of_setc {s s' : RState} {id : Nat} {c c' : Conn} (hc : getConn s id = some c)
    (hconns : s'.conns = s.conns.set id c') (hcid : c'.clientId = c.clientId)
    (hnat : s'.datalog.native = s.datalog.native)
    (hfi : s'.datalog.filterIndexes = s.datalog.filterIndexes) (hsh : s'.shared = s.shared)
    (htm : s'.turnMoved = s.turnMoved) : LStep s s' :=
  ⟨⟨Walk.conns_of_set hc hconns (.inl ⟨c, hc, hcid.symm⟩) fun j d _ hd => .inl ⟨d, hd, rfl⟩,
    fun i j r => (parkedAt_of_native hnat i j r).mp,
    fun i h => by rw [htm]; exact h, fun f i h => .inl (filterIdx?_congr hfi f ▸ h),
    fun i fd h => ⟨fd, by rw [hnat]; exact h, .inl rfl⟩⟩, hsh⟩

theorem LStep.of_native_set {s s' : RState} {i : Nat} {fd fd' : FilterData} (hfd : s.datalog.native[i]? = some fd)
    (hc : s'.conns = s.conns) (hnat : s'.datalog.native = s.datalog.native.set i fd') (hw : fd'.waiters = [])
    (hfi : s'.datalog.filterIndexes = s.datalog.filterIndexes) (hsh : s'.shared = s.shared)
    (htm : s'.turnMoved = s.turnMoved) : LStep s s' := by
  have hlt := lt_of_getElem?_some hfd
  refine ⟨⟨fun id c' h => .inl ⟨c', getConn_congr hc id ▸ h, rfl⟩, fun k id r h => ?_,
    fun k h => by rw [htm]; exact h, fun f k h => .inl (filterIdx?_congr hfi f ▸ h),
    fun k fdk h => ?_⟩, hsh⟩
  · rw [parkedAt_set hfd hnat] at h
    by_cases e : k = i
    · subst e
      simp only [if_true] at h
      rw [hw] at h; cases h
    · simp only [e, if_false] at h; exact h
  · rw [hnat, List.getElem?_set]
    by_cases e : i = k
    · subst e
      simp only [hlt, if_true]
      exact ⟨fd', rfl, .inr hw⟩
    · simp only [e, if_false]; exact ⟨fdk, h, .inl rfl⟩

theorem LStep.of_new_log {s s' : RState} {f : String} {fd : FilterData} (hw : fd.waiters = []) (hc : s'.conns = s.conns)
    (hnat : s'.datalog.native = s.datalog.native ++ [fd])
    (hfi : s'.datalog.filterIndexes = s.datalog.filterIndexes ++ [(f, s.datalog.native.length)])
    (hsh : s'.shared = s.shared) (htm : s'.turnMoved = s.turnMoved) : LStep s s' := by
  -- what is parked on a log of `s'` is parked on a log of `s`: the new log has no waiters
  have old : ∀ {i id r}, ParkedAt s' i id r → i < s.datalog.native.length := fun {i id r} hp => by
    obtain ⟨fd1, hfd1, hm⟩ := hp
    rcases Nat.lt_or_ge i s.datalog.native.length with h | h
    · exact h
    · rw [hnat, List.getElem?_append_right h] at hfd1
      by_cases e : i - s.datalog.native.length = 0
      · simp only [e, List.getElem?_cons_zero, Option.some.injEq] at hfd1; subst hfd1; rw [hw] at hm; cases hm
      · rw [List.getElem?_eq_none (by simp; omega)] at hfd1; cases hfd1
  refine ⟨⟨fun id c' h => .inl ⟨c', getConn_congr hc id ▸ h, rfl⟩, fun i id r h => ?_,
    fun i h => by rw [htm]; exact h, fun g i h => ?_, fun i fd0 h => ?_⟩, hsh⟩
  · have hlt := old h
    obtain ⟨fd1, hfd1, hm⟩ := h
    rw [hnat, List.getElem?_append_left hlt] at hfd1
    exact ⟨fd1, hfd1, hm⟩
  · unfold DataLog.filterIdx? at h ⊢
    rw [hfi, alookup_append] at h
    cases ho : alookup g s.datalog.filterIndexes with
    | some j => rw [ho] at h; exact .inl h
    | none =>
      rw [ho] at h
      refine .inr fun id r hp => ?_
      simp only [Option.none_or, alookup] at h
      split at h
      · simp only [Option.some.injEq] at h; subst h; exact absurd (old hp) (Nat.lt_irrefl _)
      · cases h
  · have hlt := lt_of_getElem?_some h
    exact ⟨fd0, by rw [hnat, List.getElem?_append_left hlt]; exact h, .inl rfl⟩

theorem LStep.frame : StepFrame LStep where
  refl := LStep.refl
  trans := LStep.trans
  of_conns := fun hc hnat hfi hsh htm _ => LStep.of_conns hc hnat hfi hsh htm
  of_set := fun hc hs _ hnat hfi hsh htm _ => LStep.of_setc hc hs rfl hnat hfi hsh htm
  of_native_set := fun hfd hc hnat hw hfi hsh htm _ => LStep.of_native_set hfd hc hnat hw hfi hsh htm
  of_new_log := fun _ hw hc hnat hfi hsh htm _ => LStep.of_new_log hw hc hnat hfi hsh htm
  of_turn := fun _ _ => ⟨⟨fun _ c' h => .inl ⟨c', h, rfl⟩, fun _ _ _ h => h, fun _ h => List.mem_append_left _ h,
    fun _ _ h => .inl h, fun _ fd h => ⟨fd, h, .inl rfl⟩⟩, rfl⟩
  of_tracker := fun hc hs _ hnat hfi hsh htm => LStep.of_setc hc hs rfl hnat hfi hsh htm
  of_setc := fun hc hs hcid _ _ _ hnat hfi hsh htm => LStep.of_setc hc hs hcid hnat hfi hsh htm
  of_queue := fun _ _ => LStep.of_conns rfl rfl rfl rfl rfl

theorem wakeParked_unparked {s s' : RState} {logs : List Nat} (h : wakeParked s logs = .ok s') :
    ∀ i ∈ logs, ∀ id r, ¬ ParkedAt s' i id r := fun i hi id r hp => by
  obtain ⟨fd, hfd, _⟩ := (LStep.frame.wakeParked h).mono.parked i id r hp
  obtain ⟨fd', h1, h2⟩ := (wakeParked_woken h hi hfd).2
  obtain ⟨fd'', h3, hm⟩ := hp
  rw [h1] at h3; cases h3; rw [h2] at hm; cases hm

/-- before a wake-up of `logs`, "among `logs`" is as good as "in `turn_moved`" -/
theorem wakeParked_gl {s s' : RState} {logs : List Nat} (hw : wakeParked s logs = .ok s')
    (hn : (s.shared.map (·.1)).Nodup) (he : ∀ p ∈ s.shared, GOkW s (s.turnMoved ++ logs) p) : GL s' := by
  have m := LStep.frame.wakeParked hw
  refine ⟨by rw [m.shared]; exact hn, by rw [m.shared]; exact fun p hp => (he p hp).1,
    by rw [m.shared]; exact fun p hp => (he p hp).2.1, fun p hp => ?_⟩
  rw [m.shared] at hp
  exact LVe.woken m.mono (fun i hi => (List.mem_append.mp hi).imp (m.mono.tm i) (wakeParked_unparked hw i)) (he p hp).2.2

end Router
