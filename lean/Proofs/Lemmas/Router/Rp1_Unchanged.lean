/-
`config` never changes (`configFrame`, a `LogFrame`; `config_reachable`). `turn_moved` is empty between steps: the two
functions that fill it (`handle_device_payload` through UNSUBSCRIBE, `consume` through `noteTurn`) end with
`wakeTurnMoved`.
-/
import Proofs.Lemmas.Router.Base.Reach
import Proofs.Lemmas.Router.Base.Connect
import Proofs.Lemmas.Router.Base.Walk
namespace Router

theorem DataStep.config {s s' : RState} (h : DataStep s s') : s'.config = s.config := by
  obtain ⟨_, _, _, _, rfl⟩ := h; rfl

theorem configFrame : LogFrame (fun s s' => s'.config = s.config) where
  refl := fun _ => rfl
  trans := fun h1 h2 => h2.trans h1
  side := fun e => congrArg (·.2.2.2.1) e
  conn := fun _ e _ => congrArg (·.2.2.2.1) e
  cache := fun h => (dlMatches_data h).config
  newFilter := fun s f => (nextNativeOffset_data s f).config
  append := fun h => (appendToFilter_data h).config

theorem config_reachable {cfg : Config} {s : RState} (hr : Reachable cfg s) : s.config = cfg :=
  hr.induction (fun s => s.config = cfg) rfl fun _ _ _ _ _ hi h =>
    (configFrame.step (fun hd => (handleDisconnection_keys hd).2) (fun _ _ hn => (handleNewConnection_keys hn).2) h).trans hi

theorem DataStep.turnMoved {s s' : RState} (h : DataStep s s') : s'.turnMoved = s.turnMoved := by
  obtain ⟨_, _, _, _, rfl⟩ := h; rfl

theorem forwardDeviceData_turnMoved {s s' : RState} {id : Nat} {req req' : DataRequest} {st : ConsumeStatus}
    (h : forwardDeviceData s id req = .ok (s', req', st)) : s'.turnMoved = s.turnMoved := by
  obtain ⟨c, hc, ⟨o, rfl⟩ | ⟨r, pubs, ls, sh, o, rfl⟩⟩ := forwardDeviceData_upd h <;> rfl

theorem pause_turnMoved {s s' : RState} {id : Nat} {r : PauseReason} (h : pause s id r = .ok s') :
    s'.turnMoved = s.turnMoved := (pause_step h).wakeFrame.turnMoved

theorem trackv_turnMoved {s s' : RState} {id : Nat} {rs : List DataRequest} (h : trackv s id rs = .ok s') :
    s'.turnMoved = s.turnMoved := (trackv_step h).wakeFrame.turnMoved

theorem park_turnMoved {s s' : RState} {id : Nat} {r : DataRequest} (h : park s id r = .ok s') :
    s'.turnMoved = s.turnMoved := by
  obtain ⟨_, _, _, _, rfl⟩ := park_data h; rfl

theorem noteTurn_turnMoved (s0 s1 : RState) (req : DataRequest) :
    (noteTurn s0 s1 req).turnMoved =
      s1.turnMoved ++
        (match req.group.bind (fun g => alookup g s0.shared), req.group.bind (fun g => alookup g s1.shared) with
         | some g0, some g1 => if g1.current != g0.current then [req.filterIdx] else []
         | _, _ => []) := by
  unfold noteTurn
  generalize (req.group.bind fun g => alookup g s0.shared) = a
  generalize (req.group.bind fun g => alookup g s1.shared) = b
  cases a <;> cases b <;> simp only [List.append_nil]
  split <;> simp

theorem consumeLoop_turnMoved_sub {id : Nat} (fuel : Nat) {s s' : RState} {requests skipped : List DataRequest}
    (h : consumeLoop s id fuel requests skipped = .ok s') : ∀ i ∈ s.turnMoved, i ∈ s'.turnMoved :=
  consumeLoop_rel (fun s s' => ∀ i ∈ s.turnMoved, i ∈ s'.turnMoved) (fun _ _ hi => hi)
    (fun _ _ _ h1 h2 i hi => h2 i (h1 i hi))
    (fun s s1 _ req' _ h1 i hi => by
      rw [noteTurn_turnMoved, forwardDeviceData_turnMoved h1]; exact List.mem_append_left _ hi)
    (fun _ _ _ h i hi => by rw [park_turnMoved h]; exact hi)
    (fun _ _ h i hi => by rw [h.wakeFrame.turnMoved]; exact hi) fuel h

theorem handleDisconnection_turnMoved {s s' : RState} {id : Nat} {r : Option String}
    (h : handleDisconnection s id r = .ok s') : s'.turnMoved = s.turnMoved := by
  rcases handleDisconnection_cases h with ⟨_, rfl⟩ | ⟨c, _, h⟩
  · rfl
  · rw [(wakeParked_wakeFrame h).turnMoved]; exact (hdFinal_fields _ _ _ _).turnMoved

theorem handleNewConnection_turnMoved {s s' : RState} {spec : ConnectSpec}
    (h : handleNewConnection s spec = .ok s') : s'.turnMoved = s.turnMoved :=
  handleNewConnection_rel (I := fun t => t.turnMoved = s.turnMoved) (J := fun t => t.turnMoved = s.turnMoved) rfl
    (fun _ hd => (handleDisconnection_turnMoved hd :)) (fun e => e)
    (fun e _ _ hr => (reschedule_wakeFrame hr).turnMoved.trans e) h

theorem handleLastWill_turnMoved {s s' : RState} {cid : String} (h : handleLastWill s cid = .ok s') :
    s'.turnMoved = s.turnMoved :=
  handleLastWill_rel (fun s s' => s'.turnMoved = s.turnMoved) (fun _ => rfl) (fun _ _ _ h1 h2 => h2.trans h1)
    (fun _ _ => rfl) (fun _ s topic _ => (updateRetained_data s topic _).turnMoved)
    (fun _ _ _ _ h1 => (dlMatches_data h1).turnMoved) (fun _ _ _ _ _ h1 => (appendToFilter_data h1).turnMoved)
    (fun _ _ h1 => (drainNotifications_wakeFrame _ h1).turnMoved) h

theorem handleShadow_turnMoved {s s' : RState} {id : Nat} {f : String} (h : handleShadow s id f = .ok s') :
    s'.turnMoved = s.turnMoved := by
  obtain ⟨ls, e⟩ := handleShadow_upd s id f
  cases e.symm.trans h
  rfl

theorem turnMoved_step {s s' : RState} {op : Op} {out : Out} (h0 : s.turnMoved = [])
    (h : step s op = .ok (s', out)) : s'.turnMoved = [] := by
  cases op_cases h with
  | connect spec h1 => rw [handleNewConnection_turnMoved h1]; exact h0
  | push l p e => rcases e with rfl | rfl <;> exact h0
  | drain l e => rcases e with rfl | rfl <;> exact h0
  | consume b h1 =>
    rcases Walk.consume_cases h1 with ⟨_, _, rfl⟩ | ⟨_, _, _, _, _, _, _, _, hw⟩
    · exact h0
    · exact wakeTurnMoved_turnMoved hw
  | event id ev he =>
    cases event_cases he with
    | ready h1 =>
      rcases h1 with h1 | rfl
      · rw [(reschedule_wakeFrame h1).turnMoved]; exact h0
      · exact h0
    | disconnect h1 => rw [handleDisconnection_turnMoved h1]; exact h0
    | will c h1 => rw [handleLastWill_turnMoved h1]; exact h0
    | shadow f h1 => rw [handleShadow_turnMoved h1]; exact h0
    | meters e => rw [e]; exact h0
    | alerts e => rw [e]; exact h0
    | payload h1 =>
      cases hc : getConn s id with
      | none => rw [handleDevicePayload_none hc] at h1; cases h1; exact h0
      | some c =>
        obtain ⟨_, fl, _, _, s4, _, _, _, hw, h5⟩ := handleDevicePayload_phases hc h1
        have e4 := wakeTurnMoved_turnMoved hw
        split at h5
        · rw [handleDisconnection_turnMoved h5]; exact e4
        · cases h5; exact e4

theorem turnMoved_reachable {cfg : Config} {s : RState} (hr : Reachable cfg s) : s.turnMoved = [] :=
  hr.induction (fun s => s.turnMoved = []) rfl fun _ _ _ _ _ hi h => turnMoved_step (by exact hi) h

end Router
