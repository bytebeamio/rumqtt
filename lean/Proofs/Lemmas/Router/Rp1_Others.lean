/-
What a step does to the connections it is not about: they stay, equal up to their tracker — waking parked requests is
all that reaches across connections.
-/
import Proofs.Lemmas.Router.Rp1_ShapeOf
import Proofs.Lemmas.Router.Base.Adm
import Proofs.Lemmas.Router.Rp1_Unchanged
namespace Router

theorem handleDisconnection_other {s s' : RState} {id j : Nat} {r : Option String}
    (h : handleDisconnection s id r = .ok s') (hj : j ≠ id) :
    (getConn s j = none → getConn s' j = none) ∧
    ∀ c, getConn s j = some c → ∃ t, getConn s' j = some { c with tracker := t } := by
  rcases handleDisconnection_cases h with ⟨_, rfl⟩ | ⟨c, hc, hw⟩
  · exact ⟨fun e => e, fun c hc => ⟨c.tracker, hc⟩⟩
  · refine ⟨fun e => ?_, fun d => (handleDisconnection_conns hc h).2 j d hj⟩
    rw [(wakeParked_shape hw).none_iff, hdFinal_getConn, if_neg hj]; exact e

theorem events_frame {s s' : RState} {id j : Nat} {ev : Event} {c : Conn} (h : events s id ev = .ok s')
    (hj : j ≠ id) (hc : getConn s j = some c) : ∃ t, getConn s' j = some { c with tracker := t } := by
  obtain ⟨s1, hs, h'⟩ := events_split h
  obtain ⟨c', hc', r⟩ := hs.live hc
  obtain ⟨t, rfl⟩ := r.2.1 hj
  rcases h' with rfl | ⟨r, hd⟩
  · exact ⟨t, hc'⟩
  · exact (handleDisconnection_other hd hj).2 { c with tracker := t } hc'

theorem consume_frame {s s' : RState} {b : Bool} {j : Nat} {c : Conn} (h : consume s = .ok (s', b))
    (hc : getConn s j = some c) :
    ∃ c', getConn s' j = some c' ∧ c.sameId c' ∧ (polled s ≠ some j → ∃ t, c' = { c with tracker := t }) := by
  rcases consume_shape h with ⟨_, hcore⟩ | ⟨id, hp, hs⟩
  · exact ⟨c, by rw [hcore.getConn]; exact hc, c.sameId_refl, fun _ => ⟨c.tracker, rfl⟩⟩
  · obtain ⟨c', hc', r⟩ := hs.live hc
    refine ⟨c', hc', r.1, fun hne => ?_⟩
    have : j ≠ id := fun e => hne (by rw [hp, e])
    exact r.2 this

theorem handleNewConnection_frame {s s' : RState} {spec : ConnectSpec} {j : Nat} {c : Conn} (ha : AdmInv s)
    (h : handleNewConnection s spec = .ok s') (hc : getConn s j = some c)
    (hj : alookup spec.clientId s.connectionMap ≠ some j) : ∃ t, getConn s' j = some { c with tracker := t } := by
  refine handleNewConnection_inv (I := fun t => ∃ tr, getConn t j = some { c with tracker := tr })
    (J := fun t => ∃ tr, getConn t j = some { c with tracker := tr }) ha ⟨c.tracker, hc⟩
    (fun {s1 old} hold hd => (handleDisconnection_other hd (fun (e : j = old) => hj (by rw [e]; exact hold))).2 c hc) (fun i => i)
    (fun {s1} ⟨t, hc1⟩ _ a1 hnone hroom hr => ⟨t, ?_⟩) h
  have sl := hnPre_getConn a1 hnone hroom
  have hne : j ≠ hnKey s1 spec := fun e => by rw [e, sl.vacant] at hc1; cases hc1
  rw [(reschedule_step hr).other hne, sl.old j hne]; exact hc1

theorem step_push_drain_frame {s s' : RState} {op : Op} {out : Out} (h : step s op = .ok (s', out))
    (hop : (∃ l p, op = .push l p) ∨ ∃ l, op = .drain l) (j : Nat) : getConn s' j = getConn s j := by
  cases op_cases h with
  | connect spec h' => rcases hop with ⟨_, _, e⟩ | ⟨_, e⟩ <;> cases e
  | event id ev h' => rcases hop with ⟨_, _, e⟩ | ⟨_, e⟩ <;> cases e
  | consume b h' => rcases hop with ⟨_, _, e⟩ | ⟨_, e⟩ <;> cases e
  | push l p h' => rcases h' with rfl | rfl <;> rfl
  | drain l h' => rcases h' with rfl | rfl <;> rfl

end Router
