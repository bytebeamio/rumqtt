/-
`delivery_is_prefix` of C01 over the life of a data request (`ReqRun`): the offsets forwarded for a non-shared
subscription over any number of sweeps are the consecutive log offsets from its starting cursor.
-/
import Proofs.Lemmas.Router.Rp3_GroupRun
import Proofs.Lemmas.Router.Rp3_Accept
namespace Router
namespace Rp3
open CommitLog (Rep logC Issued cursorAbs U64)

/-- the life of one non-shared data request over a stretch of a run: sweeps, each started with the request the previous
    one handed back, interleaved with steps during which its cursor stays an issued, retained cursor of the log (a publish
    is such a step as long as it does not evict the cursor's segment) -/
inductive ReqRun (idx : Nat) : RState → DataRequest → List Nat → RState → DataRequest → Prop
  | done (s : RState) (req : DataRequest) : ReqRun idx s req [] s req
  | sweep {s s1 s2 : RState} {id : Nat} {c : Conn} {req req1 req2 : DataRequest} {st : ConsumeStatus}
      {offs more : List Nat} :
      getConn s id = some c → req.group = none → req.filterIdx = idx →
      forwardDeviceData s id req = .ok (s1, req1, st) →
      linkOffsets s1 c.link = linkOffsets s c.link ++ offs →
      ReqRun idx s1 req1 more s2 req2 → ReqRun idx s req (offs ++ more) s2 req2
  | other {s s1 s2 : RState} {req req2 : DataRequest} {more : List Nat} :
      (∀ cur, ReqAt idx s cur → ReqAt idx s1 cur) →
      ReqRun idx s1 req more s2 req2 → ReqRun idx s req more s2 req2

theorem reqRun_contiguous {idx : Nat} {s s2 : RState} {req req2 : DataRequest} {offs : List Nat}
    (hrun : ReqRun idx s req offs s2 req2) : ReqAt idx s req.cursor →
    Contig req.cursor.2 offs req2.cursor.2 ∧ ReqAt idx s2 req2.cursor := by
  induction hrun with
  | done s req => exact fun hat => ⟨Contig.nil _, hat⟩
  | other hq _ ih => exact fun hat => ih (hq _ hat)
  | @sweep s s1 _ _ _ req req1 _ _ _ _ hc hplain hidx h hoffs _ ih =>
    intro hat
    have e := fdCur_none (fdGrp_plain s hplain)
    obtain ⟨a, hat1, hg, _⟩ := sweep_contig hc hidx h hoffs (e ▸ hat)
    have e1 := fdCur_none (fdGrp_plain s1 (hg.trans hplain))
    rw [e, e1] at a; rw [e1] at hat1
    exact ⟨a.append (ih hat1).1, (ih hat1).2⟩

theorem ReqRun.trans {i : Nat} {a b c : RState} {r r1 r2 : DataRequest} {d1 d2 : List Nat}
    (h1 : ReqRun i a r d1 b r1) (h2 : ReqRun i b r1 d2 c r2) : ReqRun i a r (d1 ++ d2) c r2 := by
  induction h1 with
  | done s r => exact h2
  | sweep hc hp hi hf ho _ ih => rw [List.append_assoc]; exact ReqRun.sweep hc hp hi hf ho (ih h2)
  | other hq _ ih => exact ReqRun.other hq (ih h2)

/-- a subscription starts at the tail of its filter's log -/
theorem nextNativeOffset_tail {s : RState} {filter : String} (hi : DLInv s) :
    ∃ fd hist, (nextNativeOffset s filter).1.datalog.native[(nextNativeOffset s filter).2.1]? = some fd ∧
      fd.filter = filter ∧ Rep (logC fd.log) hist ∧
      Issued (logC fd.log) (nextNativeOffset s filter).2.2 ∧
      (logC fd.log).head ≤ (nextNativeOffset s filter).2.2.1 ∧
      (nextNativeOffset s filter).2.2.2 = hist.length := by
  have tail_ok : ∀ (l : CLog.Log Pub) (hist : List Pub), Rep (logC l) hist →
      Issued (logC l) l.nextOffset ∧ (logC l).head ≤ l.nextOffset.1 ∧ l.nextOffset.2 = hist.length := by
    intro l hist hrep
    obtain ⟨he, hi, hle⟩ := CommitLog.clog_nextOffset l hist hrep
    exact ⟨hi, by rw [he]; exact hle, by rw [he]⟩
  rcases nextNativeOffset_cases s filter with ⟨idx, hl, e⟩ | ⟨_, e⟩ <;> rw [e]
  · have := (hi.maps.lookup_iff filter idx).mp hl
    cases hg : s.datalog.native[idx]? with
    | none => simp [hg] at this
    | some fd =>
      simp only [hg, Option.map_some, Option.some.injEq] at this
      obtain ⟨hist, hrep⟩ := hi.logs fd.log (List.mem_map.mpr ⟨fd, List.mem_of_getElem? hg, rfl⟩)
      obtain ⟨a, b, c⟩ := tail_ok fd.log hist hrep
      exact ⟨fd, hist, rfl, this, hrep, a, b, c⟩
  · have hrep := CommitLog.clog_new (α := Pub) s.config.maxSegmentSize s.config.maxSegmentCount hi.segSize hi.segCount
    obtain ⟨a, b, c⟩ := tail_ok _ [] hrep
    refine ⟨{ filter, log := CLog.Log.new s.config.maxSegmentSize s.config.maxSegmentCount }, [], ?_, rfl, hrep, a, b, c⟩
    simp [DataLog.addFilter]

theorem deliver_keeps_issued {s s' : RState} {topic : String} {p : Pub} (hi : DLInv s)
    (h : deliver s topic p = .ok s') (idx : Nat) (fd : FilterData) (hist : List Pub) (cur : Cursor)
    (hfd : s.datalog.native[idx]? = some fd) (hrep : Rep (logC fd.log) hist) (hiss : Issued (logC fd.log) cur) :
    ∃ fd' hist', s'.datalog.native[idx]? = some fd' ∧ fd'.filter = fd.filter ∧ Rep (logC fd'.log) hist' ∧
      Issued (logC fd'.log) cur ∧
      hist' = (if topicMatches topic fd.filter then hist ++ [p] else hist) := by
  obtain ⟨hnat, _⟩ := deliver_spec hi h
  have := hnat idx
  rw [hfd] at this
  simp only [Option.map_some] at this
  by_cases hm : topicMatches topic fd.filter = true
  · simp only [hm, if_true] at this ⊢
    obtain ⟨hrep', hmm, _⟩ := CommitLog.clog_append fd.log hist hrep p (pubSize p)
    exact ⟨_, _, this, rfl, hrep', CommitLog.issued_of_segMono hmm hiss, rfl⟩
  · simp only [hm] at this ⊢
    exact ⟨fd, hist, this, rfl, hrep, hiss, rfl⟩

end Rp3
end Router
