/-
`GL` through SUBSCRIBE (a new group starts at the end of its log) and UNSUBSCRIBE (a turn that passes on has its log noted).
-/
import Proofs.Lemmas.Router.Rp3_ReqRun
import Proofs.Lemmas.Router.Rp4_Subs
import Proofs.Lemmas.Router.Rp6_Unsub
import Proofs.Lemmas.Router.Rp9_Live
namespace Router
open Router.Rp3

theorem prepareFilter_shared {s s' : RState} {id : Nat} {cursor : Cursor} {idx : Nat} {f : SubFilter}
    {group : Option String} {subId : Option Nat} {c : Conn} (hc : getConn s id = some c)
    (h : prepareFilter s id cursor idx f group subId = .ok s') :
    LMono s s' ∧ s'.shared = pfShared s cursor c.clientId group := by
  obtain ⟨c0, t, q, hc0, _, rfl⟩ := prepareFilter_post h
  rw [hc] at hc0; cases hc0
  have hc1 : getConn (pfState s id cursor f.path group c.clientId) id = some c := hc
  have m0 : LMono s (pfState s id cursor f.path group c.clientId) := LMono.of_conns rfl rfl rfl rfl
  exact ⟨m0.trans (LStep.of_setc (s := pfState s id cursor f.path group c.clientId)
    (s' := { setConn (pfState s id cursor f.path group c.clientId) id (pfNew c f.path subId _ t) with readyqueue := q, ghost := _ })
    hc1 rfl (pfNew_clientId c f.path subId _ t) rfl rfl rfl rfl).mono, rfl⟩

theorem prepareFilter_gl {s s' : RState} {id : Nat} {cursor : Cursor} {idx : Nat} {f : SubFilter} {subId : Option Nat}
    (hg : GL s)
    (hcur : ∀ g, sfGroup f.path = some g → ∀ i, s.datalog.filterIdx? (gpath g) = some i →
      ∃ fd, s.datalog.native[i]? = some fd ∧ AbsEnd fd cursor)
    (h : prepareFilter s id cursor idx f (sfGroup f.path) subId = .ok s') : GL s' := by
  obtain ⟨c, hc, _⟩ := Walk.prepareFilter_cases h
  obtain ⟨m, hsh⟩ := prepareFilter_shared hc h
  cases hgrp : sfGroup f.path with
  | none => rw [hgrp] at hsh; exact hg.step ⟨m, hsh⟩
  | some g =>
    rw [hgrp] at hsh
    obtain ⟨path, he⟩ := sfGroup_extract hgrp
    refine hg.of_entries m (by rw [hsh]; exact pfShared_nodup cursor c.clientId (some g) hg.nodup) fun p hp => ?_
    rw [hsh] at hp
    rcases mem_pfShared.mp hp with ⟨hp, _⟩ | ⟨grp, hl, rfl⟩ | ⟨hl, rfl⟩
    · exact .inl hp
    · have hmem := mem_of_alookup_eq_some hl
      have hw : grp.idx < grp.clients.length := hg.wf _ hmem
      exact .inr ⟨by simp only [List.length_append, List.length_singleton]; omega, hg.key (g, grp) hmem,
        ((hg.lv (g, grp) hmem).mono m).congr rfl (current_of_append_client grp c.clientId hw)⟩
    · -- a new group starts at the end of its log
      exact .inr ⟨Nat.zero_lt_one, extractGroup_key_wf he,
        LVe.woken (W := []) m (fun _ hi => by cases hi) fun i hi => .inl (hcur g hgrp i hi)⟩

theorem registerFilter_gl {s s' : RState} {id : Nat} {subId : Option Nat} {f : SubFilter} (hi : DLInv s) (hg : GL s)
    (h1 : prepareFilter (nextNativeOffset s (sfFilter f.path)).1 id (nextNativeOffset s (sfFilter f.path)).2.2
      (nextNativeOffset s (sfFilter f.path)).2.1 f (sfGroup f.path) subId = .ok s') : GL s' := by
  obtain ⟨fd, hist, hfd, _, hrep, _, hhead, hlen⟩ := nextNativeOffset_tail (filter := sfFilter f.path) hi
  refine prepareFilter_gl (hg.step (LStep.frame.nextNativeOffset s (sfFilter f.path))) (fun g hgg i hi' => ?_) h1
  obtain ⟨p', he⟩ := sfGroup_extract hgg
  have hp : gpath g = sfFilter f.path := by unfold sfFilter; rw [he]; exact (extractGroup_gpath he).symm
  rw [hp, nextNativeOffset_filterIdx] at hi'
  obtain rfl := Option.some.inj hi'
  refine ⟨fd, hfd, ?_⟩
  unfold AbsEnd
  rw [CommitLog.cursorAbs_of_le hhead, hlen, hrep.nextAbs_eq]

theorem subscribeFilters_gl {id : Nat} {subId : Option Nat} (fs : List SubFilter) {s s' : RState}
    {codes codes' : List Nat} {fl fl' : Flags} (hi : DLInv s) (hg : GL s)
    (h : subscribeFilters s id subId fs codes fl = .ok (s', codes', fl')) : GL s' :=
  (Walk.subscribeFilters_inv (I := fun t => DLInv t ∧ GL t)
    (fun p h1 => ⟨(nextNativeOffset_inv p.1).1.of_dkey (dkeyFrame.prepareFilter h1), registerFilter_gl p.1 p.2 h1⟩) fs ⟨hi, hg⟩ h).2

theorem ufState_lmono {s : RState} {id : Nat} (ids : List Nat) {c : Conn} (f : String) (hc : getConn s id = some c) :
    LMono s (ufState s id ids c f) := by
  have hd := ufState_datalog s id ids c f
  obtain ⟨w1, _⟩ := removeWaiterFor_parked s.datalog id f
  have hfi := (removeWaiterFor_fields s.datalog id f).1
  refine ⟨Walk.conns_of_set hc rfl (.inl ⟨c, hc, rfl⟩) fun j d _ hdj => .inl ⟨d, hdj, rfl⟩, fun i j r hp => ?_,
    (by rw [ufState_turnMoved]; exact ufTurnMoved_sub s f c.clientId), fun f' i h => .inl ?_, fun i fd h => ?_⟩
  · obtain ⟨fd', hfd', hm⟩ := hp
    rw [hd] at hfd'
    obtain ⟨fd, hfd, _, hs⟩ := w1 i fd' hfd'
    exact ⟨fd, hfd, hs _ hm⟩
  · unfold DataLog.filterIdx? at h ⊢; rw [hd, hfi] at h; exact h
  · have := (removeWaiterFor_same s.datalog id f).2.1
    have e : (s.datalog.native.map (·.log))[i]? = some fd.log := by simp [h]
    rw [← this] at e
    simp only [List.getElem?_map, Option.map_eq_some_iff] at e
    obtain ⟨fd', h', e'⟩ := e
    exact ⟨fd', by rw [hd]; exact h', .inl e'⟩

theorem ufState_gl {s : RState} {id : Nat} {ids : List Nat} {c : Conn} {f : String} (hg : GL s)
    (hc : getConn s id = some c) : GL (ufState s id ids c f) := by
  have m := ufState_lmono ids f hc
  have hsh := ufState_shared s id ids c f
  refine hg.of_entries m (by rw [hsh]; exact ufShared_nodup f c.clientId hg.nodup) fun p hp => ?_
  rw [hsh] at hp
  rcases mem_ufShared hp with ⟨hp, _⟩ | ⟨path, g, he, hl, hne, e⟩
  · exact .inl hp
  · obtain ⟨gname, g'⟩ := p
    simp only [] at he hl e; subst e
    have hmem := mem_of_alookup_eq_some hl
    refine .inr ⟨removeClient_wf g c.clientId hne, hg.key (gname, g) hmem, ?_⟩
    by_cases hcur : (g.removeClient c.clientId).current = g.current
    · exact ((hg.lv (gname, g) hmem).mono m).congr rfl hcur
    · -- the turn passed on: the group's log is noted
      intro i hi
      rcases m.fi _ i hi with hi0 | hnp
      · exact .inr (.inl (by rw [ufState_turnMoved]; exact mem_ufTurnMoved he hl hne hcur (by rw [extractGroup_gpath he]; exact hi0)))
      · exact .inr (.inr fun id' _ r _ _ _ hpk => hnp id' r hpk)

theorem unsubscribeFilters_gl {id : Nat} (fs : List String) {s s' : RState} {rs rs' : List Bool}
    (hg : GL s) (h : unsubscribeFilters s id fs rs = .ok (s', rs')) : GL s' :=
  Walk.unsubscribeFilters_inv (fun _ _ g => g.step (LStep.of_conns rfl rfl rfl rfl rfl))
    (fun _ g hc => ufState_gl g hc) fs hg h

theorem handlePacket_gl {s s' : RState} {id : Nat} {cid : String} {pkt : Packet} {fl fl' : Flags} (hi : DLInv s) (hg : GL s)
    (h : handlePacket s id cid pkt fl = .ok (s', fl')) : GL s' := by
  rcases Walk.handlePacket_cases LStep.frame h with ⟨_, _, filters, _, _, _, _, h1, h2⟩ | ⟨_, filters, _, _, _, h1, h2⟩ | m
  · exact (subscribeFilters_gl filters hi hg h1).step (LStep.frame.commitAck h2)
  · exact (unsubscribeFilters_gl filters hg h1).step (LStep.frame.commitAck h2)
  · exact hg.step m

theorem handlePackets_gl {id : Nat} {cid : String} (ps : List Packet) {s s' : RState} {fl fl' : Flags} (hi : DLInv s)
    (hg : GL s) (h : handlePackets s id cid ps fl = .ok (s', fl')) : GL s' :=
  (Walk.handlePackets_inv (I := fun s _ => DLInv s ∧ GL s)
    (fun a h1 => ⟨handlePacket_inv a.1 h1, handlePacket_gl a.1 a.2 h1⟩) ps ⟨hi, hg⟩ h).2

end Router
