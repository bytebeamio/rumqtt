/-
Isolation at run level (C14): the premises constrain client X's OWN ops only (`OwnRun`; the retention proviso apart,
`RetRun`); that X's connection stays is a consequence (`own_step`). The premises are recursive over the run because the
premise on an op reads the state the op is applied to. At the end `run_never_panics` (C14).
-/
import Proofs.Lemmas.Router.Rp13_Keep
import Proofs.Lemmas.Router.Rp1_Others
import Proofs.Lemmas.Router.Rp7_Run
namespace Router
open Router.Rp3

/-- X's batch does not close X's own connection (no DISCONNECT packet, protocol violation, bad ack, failed append) -/
def NotClosing (a : Nat) (t : RState) : Prop := ∀ t', handleDevicePayload t a = .ok t' → getConn t' a ≠ none

/-- the premise on an op, in the state `t` it is applied to; it constrains X's own ops only: no CONNECT under X's client
    id (a takeover), no `Disconnect` event for X's id (this also excludes a stale Disconnect for a REUSED slot id, which
    closes the new connection in that slot), a `DeviceData` for X's id without UNSUBSCRIBE of `f` that does not close X's
    connection. Ops of all other ids are unconstrained. -/
def OwnOp (a : Nat) (cid f : String) (t : RState) : Op → Prop
  | .connect spec => spec.clientId ≠ cid
  | .event id ev => id = a → ev ≠ .disconnect ∧
      (ev = .deviceData → (∀ c, getConn t a = some c → ∀ p ∈ (getLink t c.link).ibuf, f ∉ pktUnsubs p) ∧ NotClosing a t)
  | _ => True

def OwnRun (a : Nat) (cid f : String) : RState → List (Op × List Choice) → Prop
  | _, [] => True
  | s, (op, ch) :: rest => OwnOp a cid f { s with oracle := ch } op ∧
      ∀ s' out, step { s with oracle := ch } op = .ok (s', out) → OwnRun a cid f s' rest

/-- the retention proviso: the cursor of X's request for `f` stands in a segment its log still retains -/
def Retained (a : Nat) (f : String) (t : RState) : Prop :=
  ∀ r, Own t a r → r.filter = f → ∀ fd, t.datalog.native[r.filterIdx]? = some fd → (CommitLog.logC fd.log).head ≤ r.cursor.1

def RetRun (a : Nat) (f : String) : RState → List (Op × List Choice) → Prop
  | s, [] => Retained a f s
  | s, (op, ch) :: rest => Retained a f s ∧
      ∀ s' out, step { s with oracle := ch } op = .ok (s', out) → RetRun a f s' rest

theorem own_step {cfg : Config} {s s' : RState} {ch : List Choice} {op : Op} {out : Out} {a : Nat} {c : Conn}
    {f : String} (hr : Reachable cfg s) (hc : getConn s a = some c)
    (ho : OwnOp a c.clientId f { s with oracle := ch } op)
    (h : step { s with oracle := ch } op = .ok (s', out)) :
    ∃ c', getConn s' a = some c' ∧ c.sameId c' ∧
      (op ≠ .event a .deviceData → c'.subscriptions = c.subscriptions) ∧
      (op ≠ .event a .deviceData → (op = .consume → polled { s with oracle := ch } ≠ some a) →
        ∃ t, c' = { c with tracker := t }) := by
  have hc' : getConn { s with oracle := ch } a = some c := hc
  have tr : (∃ t, getConn s' a = some { c with tracker := t }) →
      ∃ c', getConn s' a = some c' ∧ c.sameId c' ∧
        (op ≠ .event a .deviceData → c'.subscriptions = c.subscriptions) ∧
        (op ≠ .event a .deviceData → (op = .consume → polled { s with oracle := ch } ≠ some a) →
          ∃ t, c' = { c with tracker := t }) :=
    fun ⟨t, ht⟩ => ⟨_, ht, ⟨rfl, rfl, rfl, rfl⟩, fun _ => rfl, fun _ _ => ⟨t, rfl⟩⟩
  cases op_cases h with
  | connect spec h' =>
    have ha : AdmInv { s with oracle := ch } := (AdmInv.reachable hr).oracle ch
    refine tr (handleNewConnection_frame ha h' hc' fun e => ?_)
    obtain ⟨d, hd, e'⟩ := ha.map.1 _ _ e
    rw [hc'] at hd; cases hd
    exact ho e'.symm
  | push l p e => rcases e with rfl | rfl <;> exact tr ⟨c.tracker, hc⟩
  | drain l e => rcases e with rfl | rfl <;> exact tr ⟨c.tracker, hc⟩
  | consume b h' =>
    obtain ⟨c1, hc1, hid, ht⟩ := consume_frame h' hc'
    obtain ⟨c2, hc2, _, hsub⟩ := EConn.frame.consume EConn.sweep h' a c hc'
    rw [hc1] at hc2; cases hc2
    exact ⟨c1, hc1, hid, fun _ => hsub, fun _ hp => ht (hp rfl)⟩
  | event id ev hev =>
    by_cases hj : a = id
    · subst hj
      cases event_cases hev with
      | payload h' =>
        obtain ⟨s1, sh, hcase⟩ := handleDevicePayload_split h'
        rcases hcase with rfl | ⟨r, hd⟩
        · obtain ⟨c1, hc1, rel⟩ := sh.live hc'
          exact ⟨c1, hc1, rel.1, fun hne => absurd rfl hne, fun hne => absurd rfl hne⟩
        · -- the batch closed the connection: excluded by the premise on X's own DeviceData
          have hopen : NotClosing a { s with oracle := ch } := ((ho rfl).2 rfl).2
          exact absurd (getConn_handleDisconnection hd) (hopen s' h')
      | ready h' =>
        rcases h' with h' | rfl
        · obtain ⟨c0, t, woke, hc0, _, hs'⟩ := reschedule_upd h'
          rw [hc'] at hc0; cases hc0
          refine tr ⟨t, ?_⟩
          subst hs'
          split <;> exact getConn_of_set hc' rfl a |>.trans (by simp)
        · exact tr ⟨c.tracker, hc⟩
      | disconnect _ => exact absurd rfl (ho rfl).1
      | will w h' =>
        obtain ⟨c1, hc1, t, rfl⟩ := (handleLastWill_shape h').live hc'
        exact tr ⟨t, hc1⟩
      | shadow g h' => exact tr ⟨c.tracker, by rw [(handleShadow_core h').getConn a]; exact hc⟩
      | meters e => subst e; exact tr ⟨c.tracker, hc⟩
      | alerts e => subst e; exact tr ⟨c.tracker, hc⟩
    · exact tr (events_frame hev hj hc')

theorem OwnRun.survives {cfg : Config} {a : Nat} {f : String} : ∀ (ops : List (Op × List Choice)) {s s2 : RState} {c : Conn},
    Reachable cfg s → getConn s a = some c → OwnRun a c.clientId f s ops → run s ops = .ok s2 →
    Reachable cfg s2 ∧ ∃ c2, getConn s2 a = some c2 ∧ c.sameId c2 ∧
      ((∀ ch, (Op.event a .deviceData, ch) ∉ ops) → c2.subscriptions = c.subscriptions)
  | ops, s, s2, c, hr, hc, ho, hrun => by
    obtain ⟨hr2, c2, hc2, hid2, _, hsub2, _⟩ := run_invariant_ops
      (fun t rest => Reachable cfg t ∧ ∃ ct, getConn t a = some ct ∧ c.sameId ct ∧ OwnRun a c.clientId f t rest ∧
        ((∀ ch, (Op.event a .deviceData, ch) ∉ ops) → ct.subscriptions = c.subscriptions) ∧ ∀ x ∈ rest, x ∈ ops)
      (fun t op ch rest t' out ⟨hrt, ct, hct, hid, hot, hsub, hin⟩ hs => by
        obtain ⟨c1, hc1, hid1, hsub1, _⟩ := own_step hrt hct (by rw [hid.1]; exact hot.1) hs
        refine ⟨hrt.step hs, c1, hc1, Conn.sameId_trans hid hid1, hot.2 t' out hs, fun hno => ?_,
          fun x hx => hin x (List.mem_cons_of_mem _ hx)⟩
        exact (hsub1 fun e => hno ch (e ▸ hin _ List.mem_cons_self)).trans (hsub hno))
      ops s s2 ⟨hr, c, hc, ⟨rfl, rfl, rfl, rfl⟩, ho, fun _ => rfl, fun _ hx => hx⟩ hrun
    exact ⟨hr2, c2, hc2, hid2, hsub2⟩

theorem OwnRun.along {cfg : Config} {a : Nat} {f : String} : ∀ (ops : List (Op × List Choice)) {s s2 : RState} {c : Conn},
    Reachable cfg s → getConn s a = some c → OwnRun a c.clientId f s ops → run s ops = .ok s2 →
    ∀ pre op ch post, ops = pre ++ (op, ch) :: post →
      ∃ t t' out ct, run s pre = .ok t ∧ Reachable cfg t ∧ getConn t a = some ct ∧ c.sameId ct ∧
        OwnOp a c.clientId f { t with oracle := ch } op ∧ step { t with oracle := ch } op = .ok (t', out) ∧
        run t' post = .ok s2
  | [], s, s2, c, _, _, _, _ => fun pre op ch post e => by cases pre <;> cases e
  | (op0, ch0) :: rest, s, s2, c, hr, hc, ho, hrun => fun pre op ch post e => by
    simp only [run] at hrun
    split at hrun
    · simp at hrun
    · rename_i s1 out hs
      cases pre with
      | nil =>
        simp only [List.nil_append, List.cons.injEq, Prod.mk.injEq] at e
        obtain ⟨⟨rfl, rfl⟩, rfl⟩ := e
        exact ⟨s, s1, out, c, rfl, hr, hc, ⟨rfl, rfl, rfl, rfl⟩, ho.1, hs, hrun⟩
      | cons x pre' =>
        simp only [List.cons_append, List.cons.injEq] at e
        obtain ⟨rfl, e'⟩ := e
        obtain ⟨c1, hc1, hid, _⟩ := own_step hr hc ho.1 hs
        have ho1 : OwnRun a c1.clientId f s1 rest := by rw [hid.1]; exact ho.2 s1 out hs
        obtain ⟨t, t', out', ct, h1, h2, h3, h4, h5, h6, h7⟩ :=
          OwnRun.along rest (hr.step hs) hc1 ho1 hrun pre' op ch post e'
        refine ⟨t, t', out', ct, ?_, h2, h3, Conn.sameId_trans hid h4, by rw [← hid.1]; exact h5, h6, h7⟩
        simp only [run, hs]; exact h1

theorem quietRun_of_own {cfg : Config} {a : Nat} {f : String} : ∀ (ops : List (Op × List Choice)) {s : RState} {c : Conn},
    Reachable cfg s → getConn s a = some c → OwnRun a c.clientId f s ops → RetRun a f s ops →
    QuietRun a c.clientId f s ops
  | [], s, c, _, hc, _, hret => ⟨⟨c, hc, rfl⟩, hret⟩
  | (op, ch) :: rest, s, c, hr, hc, ho, hret => by
    refine ⟨⟨⟨c, hc, rfl⟩, hret.1⟩, ?_, fun s1 out hs => ?_⟩
    · have h1 := ho.1
      cases op with
      | connect spec => exact h1
      | event id ev =>
        cases ev with
        | deviceData => exact fun e c0 hc0 p hp => ((h1 e).2 rfl).1 c0 hc0 p hp
        | _ => trivial
      | _ => trivial
    · obtain ⟨c1, hc1, hid, _⟩ := own_step hr hc ho.1 hs
      have ho1 : OwnRun a c1.clientId f s1 rest := by rw [hid.1]; exact ho.2 s1 out hs
      have := quietRun_of_own rest (hr.step hs) hc1 ho1 (hret.2 s1 out hs)
      rw [hid.1] at this; exact this

theorem own_key_mem {s : RState} {a : Nat} {r : DataRequest} (h : Own s a r) : r.key ∈ keysOf s a := by
  rw [keysOf_eq]; exact List.mem_map_of_mem ((own_iff s a r).mp h)

theorem own_subscribed {s : RState} {a : Nat} {r : DataRequest} {c : Conn} (hrc : RC s) (h : Own s a r)
    (hc : getConn s a = some c) : r.filter ∈ c.subscriptions := by
  obtain ⟨hK, _, _⟩ := (RC.iff s).mp hrc
  have := hK.subs a _ (own_key_mem h)
  exact subsOf_live hc ▸ this

theorem run_never_panics {cfg : Config} : ∀ (ops : List (Op × List Choice)) {s : RState}, Reachable cfg s →
    ∀ msg, run s ops ≠ .error (.panic msg)
  | [], s, _, msg => by simp [run]
  | (op, ch) :: rest, s, hr, msg => by
    simp only [run]
    split
    · rename_i e he
      intro h
      simp only [Except.error.injEq] at h; subst h
      exact step_no_panic ((Inv3.reachable hr).oracle ch) op msg he
    · rename_i s1 out hs
      exact run_never_panics rest (hr.step hs) msg

end Router
