/-
`Shape R s s'`: no connection appears or vanishes, and every live connection `j` is related to its successor by `R j`.
The relations form a chain `RT ⊂ RO id ⊂ RU id ⊂ RA id ⊂ RW id`: only trackers differ; others' trackers and nothing
of `id`'s window; `id`'s entries may forget cursors (UNSUBSCRIBE); acknowledged entries leave at the front (a packet
batch); `id`'s window is free (a sweep). `X.self` is `R id id`, `Shape.x_y` weakens along the chain.
-/
import Model.Router.Step
import Proofs.Lemmas.Router.Base.Basic
import Proofs.Lemmas.Router.Base.Outgoing
namespace Router

/-- the fields fixed at registration -/
def Conn.sameId (c c' : Conn) : Prop :=
  c'.clientId = c.clientId ∧ c'.link = c.link ∧ c'.clean = c.clean ∧ c'.dynamicFilters = c.dynamicFilters

theorem Conn.sameId_refl (c : Conn) : c.sameId c := ⟨rfl, rfl, rfl, rfl⟩
theorem Conn.sameId_trans {a b c : Conn} (h1 : a.sameId b) (h2 : b.sameId c) : a.sameId c :=
  ⟨h2.1.trans h1.1, h2.2.1.trans h1.2.1, h2.2.2.1.trans h1.2.2.1, h2.2.2.2.trans h1.2.2.2⟩

class ConnRel (R : Nat → Conn → Conn → Prop) : Prop where
  refl : ∀ j c, R j c c
  trans : ∀ j a b c, R j a b → R j b c → R j a c

def RT : Nat → Conn → Conn → Prop := fun _ c c' => ∃ t, c' = { c with tracker := t }
def RO (id : Nat) : Nat → Conn → Conn → Prop :=
  fun j c c' => c.sameId c' ∧ c'.out = c.out ∧ (j ≠ id → RT j c c')
def RW (id : Nat) : Nat → Conn → Conn → Prop :=
  fun j c c' => c.sameId c' ∧ (j ≠ id → RT j c c')

def RU (id : Nat) : Nat → Conn → Conn → Prop :=
  fun j c c' => c.sameId c' ∧ c.out.forgot c'.out ∧ (j ≠ id → RT j c c')

def RA (id : Nat) : Nat → Conn → Conn → Prop :=
  fun j c c' => c.sameId c' ∧ (j ≠ id → RT j c c') ∧
    ∃ n, Forgets (c.out.inflight.drop n) c'.out.inflight ∧ c'.out.lastPkid = c.out.lastPkid

theorem RT.mk (j : Nat) (c : Conn) (t : Tracker) : RT j c { c with tracker := t } := ⟨t, rfl⟩

instance : ConnRel RT where
  refl := fun _ c => ⟨c.tracker, rfl⟩
  trans := fun _ a b c h1 h2 => by
    obtain ⟨t1, rfl⟩ := h1; obtain ⟨t2, rfl⟩ := h2; exact ⟨t2, rfl⟩

theorem RT.sameId {j : Nat} {c c' : Conn} (h : RT j c c') : c.sameId c' := by
  obtain ⟨t, rfl⟩ := h; exact ⟨rfl, rfl, rfl, rfl⟩
theorem RT.out {j : Nat} {c c' : Conn} (h : RT j c c') : c'.out = c.out := by
  obtain ⟨t, rfl⟩ := h; rfl

instance (id : Nat) : ConnRel (RO id) where
  refl := fun j c => ⟨c.sameId_refl, rfl, fun _ => ConnRel.refl j c⟩
  trans := fun j a b c h1 h2 =>
    ⟨Conn.sameId_trans h1.1 h2.1, h2.2.1.trans h1.2.1, fun hj => ConnRel.trans j a b c (h1.2.2 hj) (h2.2.2 hj)⟩

instance (id : Nat) : ConnRel (RW id) where
  refl := fun j c => ⟨c.sameId_refl, fun _ => ConnRel.refl j c⟩
  trans := fun j a b c h1 h2 =>
    ⟨Conn.sameId_trans h1.1 h2.1, fun hj => ConnRel.trans j a b c (h1.2 hj) (h2.2 hj)⟩

instance (id : Nat) : ConnRel (RU id) where
  refl := fun j c => ⟨c.sameId_refl, c.out.forgot_refl, fun _ => ConnRel.refl j c⟩
  trans := fun j a b c h1 h2 =>
    ⟨Conn.sameId_trans h1.1 h2.1, Outgoing.forgot_trans h1.2.1 h2.2.1,
      fun hj => ConnRel.trans j a b c (h1.2.2 hj) (h2.2.2 hj)⟩

instance (id : Nat) : ConnRel (RA id) where
  refl := fun j c => ⟨c.sameId_refl, fun _ => ConnRel.refl j c, 0, by simpa using Forgets.refl _, rfl⟩
  trans := fun j a b c h1 h2 => by
    obtain ⟨n, e1, e2⟩ := h1.2.2
    obtain ⟨m, e3, e4⟩ := h2.2.2
    refine ⟨Conn.sameId_trans h1.1 h2.1, fun hj => ConnRel.trans j a b c (h1.2.1 hj) (h2.2.1 hj),
      n + m, ?_, e4.trans e2⟩
    have := (e1.drop m).trans e3
    rwa [List.drop_drop] at this

theorem RO.toRU {id j : Nat} {c c' : Conn} (h : RO id j c c') : RU id j c c' :=
  ⟨h.1, Outgoing.forgot_of_eq h.2.1, h.2.2⟩
theorem RU.toRA {id j : Nat} {c c' : Conn} (h : RU id j c c') : RA id j c c' :=
  ⟨h.1, h.2.2, 0, by simpa using h.2.1.1, h.2.1.2.1⟩
theorem RO.toRA {id j : Nat} {c c' : Conn} (h : RO id j c c') : RA id j c c' := h.toRU.toRA
theorem RA.toRW {id j : Nat} {c c' : Conn} (h : RA id j c c') : RW id j c c' := ⟨h.1, h.2.1⟩

theorem RT.toRO {id j : Nat} {c c' : Conn} (h : RT j c c') : RO id j c c' := ⟨h.sameId, h.out, fun _ => h⟩
theorem RO.toRW {id j : Nat} {c c' : Conn} (h : RO id j c c') : RW id j c c' := ⟨h.1, h.2.2⟩
theorem RT.toRW {id j : Nat} {c c' : Conn} (h : RT j c c') : RW id j c c' := h.toRO.toRW
theorem RT.toRA {id j : Nat} {c c' : Conn} (h : RT j c c') : RA id j c c' := h.toRO.toRA

structure Shape (R : Nat → Conn → Conn → Prop) (s s' : RState) : Prop where
  config : s'.config = s.config
  cmap : s'.connectionMap = s.connectionMap
  free : s'.conns.free = s.conns.free
  elen : s'.conns.entries.length = s.conns.entries.length
  len : s'.conns.len = s.conns.len
  conn : ∀ j, (getConn s j = none ∧ getConn s' j = none) ∨
    ∃ c c', getConn s j = some c ∧ getConn s' j = some c' ∧ R j c c'

namespace Shape
variable {R : Nat → Conn → Conn → Prop}

theorem refl [ConnRel R] (s : RState) : Shape R s s where
  config := rfl
  cmap := rfl
  free := rfl
  elen := rfl
  len := rfl
  conn := fun j => by
    cases h : getConn s j with
    | none => exact .inl ⟨rfl, rfl⟩
    | some c => exact .inr ⟨c, c, rfl, rfl, ConnRel.refl j c⟩

theorem trans [ConnRel R] {s1 s2 s3 : RState} (h1 : Shape R s1 s2) (h2 : Shape R s2 s3) : Shape R s1 s3 where
  config := h2.config.trans h1.config
  cmap := h2.cmap.trans h1.cmap
  free := h2.free.trans h1.free
  elen := h2.elen.trans h1.elen
  len := h2.len.trans h1.len
  conn := fun j => by
    rcases h1.conn j with ⟨a, b⟩ | ⟨c, c', a, b, r⟩
    · rcases h2.conn j with ⟨a', b'⟩ | ⟨d, d', a', b', r'⟩
      · exact .inl ⟨a, b'⟩
      · rw [b] at a'; simp at a'
    · rcases h2.conn j with ⟨a', b'⟩ | ⟨d, d', a', b', r'⟩
      · rw [b] at a'; simp at a'
      · rw [b] at a'
        simp only [Option.some.injEq] at a'
        subst a'
        exact .inr ⟨c, d', a, b', ConnRel.trans j _ _ _ r r'⟩

theorem mono {R' : Nat → Conn → Conn → Prop} {s s' : RState} (hm : ∀ j c c', R j c c' → R' j c c')
    (h : Shape R s s') : Shape R' s s' where
  config := h.config
  cmap := h.cmap
  free := h.free
  elen := h.elen
  len := h.len
  conn := fun j => by
    rcases h.conn j with a | ⟨c, c', a, b, r⟩
    · exact .inl a
    · exact .inr ⟨c, c', a, b, hm _ _ _ r⟩

theorem congr {s s1 s2 : RState} (h : Shape R s s1) (hc : s2.conns = s1.conns) (hg : s2.config = s1.config)
    (hm : s2.connectionMap = s1.connectionMap) : Shape R s s2 where
  config := hg.trans h.config
  cmap := hm.trans h.cmap
  free := by rw [hc]; exact h.free
  elen := by rw [hc]; exact h.elen
  len := by rw [hc]; exact h.len
  conn := fun j => by
    have : getConn s2 j = getConn s1 j := getConn_congr hc j
    rw [this]; exact h.conn j

theorem of_eq [ConnRel R] {s s' : RState} (hc : s'.conns = s.conns) (hg : s'.config = s.config)
    (hm : s'.connectionMap = s.connectionMap) : Shape R s s' :=
  (refl s).congr hc hg hm

theorem congr_left [ConnRel R] {s s1 s2 : RState} (h : Shape R s1 s) (hc : s2.conns = s1.conns)
    (hg : s2.config = s1.config) (hm : s2.connectionMap = s1.connectionMap) : Shape R s2 s :=
  (of_eq hc.symm hg.symm hm.symm).trans h

theorem setConn [ConnRel R] {s : RState} {id : Nat} {c c' : Conn} (h : getConn s id = some c)
    (hR : R id c c') : Shape R s (setConn s id c') where
  config := rfl
  cmap := rfl
  free := rfl
  elen := by simp [Router.setConn, Slab.set]
  len := Slab.len_set_live h c'
  conn := fun j => by
    have e : getConn (Router.setConn s id c') j = if j = id then some c' else getConn s j :=
      Slab.get?_set_live h j c'
    by_cases hj : j = id
    · subst hj
      exact .inr ⟨c, c', h, by simp [e], hR⟩
    · rw [e]; simp only [hj, if_false]
      cases hh : getConn s j with
      | none => exact .inl ⟨rfl, rfl⟩
      | some d => exact .inr ⟨d, d, rfl, rfl, ConnRel.refl j d⟩

theorem of_set [ConnRel R] {s s' : RState} {id : Nat} {c c' : Conn} (h : getConn s id = some c)
    (hc : s'.conns = s.conns.set id c') (hg : s'.config = s.config)
    (hm : s'.connectionMap = s.connectionMap) (hR : R id c c') : Shape R s s' :=
  (setConn (c' := c') h hR).congr hc hg hm

theorem live {s s' : RState} (h : Shape R s s') {j : Nat} {c : Conn} (hc : getConn s j = some c) :
    ∃ c', getConn s' j = some c' ∧ R j c c' := by
  rcases h.conn j with ⟨a, _⟩ | ⟨d, d', a, b, r⟩
  · rw [hc] at a; simp at a
  · rw [hc] at a; simp only [Option.some.injEq] at a; subst a; exact ⟨d', b, r⟩

theorem live_back {s s' : RState} (h : Shape R s s') {j : Nat} {c' : Conn} (hc : getConn s' j = some c') :
    ∃ c, getConn s j = some c ∧ R j c c' := by
  rcases h.conn j with ⟨_, b⟩ | ⟨d, d', a, b, r⟩
  · rw [hc] at b; simp at b
  · rw [hc] at b; simp only [Option.some.injEq] at b; subst b; exact ⟨d, a, r⟩

theorem none_iff {s s' : RState} (h : Shape R s s') (j : Nat) : getConn s' j = none ↔ getConn s j = none := by
  rcases h.conn j with ⟨a, b⟩ | ⟨d, d', a, b, r⟩
  · simp [a, b]
  · simp [a, b]

theorem isSome_eq {s s' : RState} (h : Shape R s s') (j : Nat) : (getConn s' j).isSome = (getConn s j).isSome := by
  rcases h.conn j with ⟨a, b⟩ | ⟨d, d', a, b, r⟩
  · simp [a, b]
  · simp [a, b]

end Shape

theorem RO.self {id : Nat} {c c' : Conn} (h1 : c.sameId c') (h2 : c'.out = c.out) : RO id id c c' :=
  ⟨h1, h2, fun h => absurd rfl h⟩
theorem RU.self {id : Nat} {c c' : Conn} (h1 : c.sameId c') (h2 : c.out.forgot c'.out) : RU id id c c' :=
  ⟨h1, h2, fun h => absurd rfl h⟩
theorem RA.self {id : Nat} {c c' : Conn} (h1 : c.sameId c')
    (h2 : ∃ n, c'.out.inflight = c.out.inflight.drop n ∧ c'.out.lastPkid = c.out.lastPkid) : RA id id c c' :=
  ⟨h1, fun h => absurd rfl h, h2.elim fun n h => ⟨n, Forgets.of_eq h.1, h.2⟩⟩
theorem RW.self {id : Nat} {c c' : Conn} (h1 : c.sameId c') : RW id id c c' :=
  ⟨h1, fun h => absurd rfl h⟩

theorem Shape.ro_rw {id : Nat} {s s' : RState} (h : Shape (RO id) s s') : Shape (RW id) s s' :=
  h.mono fun _ _ _ => RO.toRW
theorem Shape.rt_rw {id : Nat} {s s' : RState} (h : Shape RT s s') : Shape (RW id) s s' :=
  h.mono fun _ _ _ => RT.toRW
theorem Shape.ro_ra {id : Nat} {s s' : RState} (h : Shape (RO id) s s') : Shape (RA id) s s' :=
  h.mono fun _ _ _ => RO.toRA
theorem Shape.rt_ra {id : Nat} {s s' : RState} (h : Shape RT s s') : Shape (RA id) s s' :=
  h.mono fun _ _ _ => RT.toRA
theorem Shape.ro_ru {id : Nat} {s s' : RState} (h : Shape (RO id) s s') : Shape (RU id) s s' :=
  h.mono fun _ _ _ => RO.toRU
theorem Shape.ru_ra {id : Nat} {s s' : RState} (h : Shape (RU id) s s') : Shape (RA id) s s' :=
  h.mono fun _ _ _ => RU.toRA

def CoreEq (s s' : RState) : Prop :=
  s'.conns = s.conns ∧ s'.config = s.config ∧ s'.connectionMap = s.connectionMap

theorem CoreEq.refl (s : RState) : CoreEq s s := ⟨rfl, rfl, rfl⟩
theorem CoreEq.trans {a b c : RState} (h1 : CoreEq a b) (h2 : CoreEq b c) : CoreEq a c :=
  ⟨h2.1.trans h1.1, h2.2.1.trans h1.2.1, h2.2.2.trans h1.2.2⟩
theorem CoreEq.shape {R : Nat → Conn → Conn → Prop} [ConnRel R] {s s' : RState} (h : CoreEq s s') :
    Shape R s s' := Shape.of_eq h.1 h.2.1 h.2.2
theorem CoreEq.getConn {s s' : RState} (h : CoreEq s s') (j : Nat) : getConn s' j = getConn s j := by
  unfold Router.getConn; rw [h.1]

end Router
