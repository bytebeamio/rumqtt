/-
The resume point (C08): a saved request is restored with the LEAST cursor (tuple order) among the window entries of its
filter index that carry one, else with its own or its group's cursor. At the end `register_ready` (C08): the registration
leaves the new connection `Ready` and queued.
-/
import Proofs.Lemmas.Router.Rp5_Consume
namespace Router
open Router.Rp3

/-- among the window entries `(pkid, k, some cur)` of filter index `k` -/
def leastCursor (k : Nat) (w : List (Nat × Nat × Option Cursor)) : Option Cursor := leastFrom k w none

theorem retx_lookup_least (k : Nat) (l : List (Nat × Nat × Option Cursor)) :
    nlookup k (retransmissionMap l []) = leastCursor k l := by
  rw [retx_leastFrom]; rfl

theorem leastCursor_some_iff (k : Nat) (cur : Cursor) (w : List (Nat × Nat × Option Cursor)) :
    leastCursor k w = some cur ↔
      (∃ e ∈ w, e.2.1 = k ∧ e.2.2 = some cur) ∧ ∀ e ∈ w, e.2.1 = k → ∀ c, e.2.2 = some c → cursorLe cur c := by
  unfold leastCursor
  rw [leastFrom_some_iff]
  simp only [reduceCtorEq, false_or, false_imp_iff, implies_true, true_and]

theorem leastCursor_none_iff (k : Nat) (w : List (Nat × Nat × Option Cursor)) :
    leastCursor k w = none ↔ ∀ e ∈ w, e.2.1 = k → e.2.2 = none := by
  unfold leastCursor; rw [leastFrom_none_iff]; simp

theorem retx_lookup_some_iff (k : Nat) (w : List (Nat × Nat × Option Cursor)) (cur : Cursor) :
    nlookup k (retransmissionMap w []) = some cur ↔
      (∃ e ∈ w, e.2.1 = k ∧ e.2.2 = some cur) ∧ ∀ e ∈ w, e.2.1 = k → ∀ c, e.2.2 = some c → cursorLe cur c := by
  rw [retx_lookup_least]; exact leastCursor_some_iff k cur w

def resumeCursor (sh : List (String × SharedGroup)) (w : List (Nat × Nat × Option Cursor)) (q : DataRequest) : Cursor :=
  match leastCursor q.filterIdx w with
  | some cur => cur
  | none => (atGroupCursor sh q).cursor

theorem resumeCursor_of_some {sh : List (String × SharedGroup)} {w : List (Nat × Nat × Option Cursor)} {q : DataRequest}
    {cur : Cursor} (h : leastCursor q.filterIdx w = some cur) : resumeCursor sh w q = cur := by
  unfold resumeCursor; rw [h]

theorem resumeCursor_of_none {sh : List (String × SharedGroup)} {w : List (Nat × Nat × Option Cursor)} {q : DataRequest}
    (h : leastCursor q.filterIdx w = none) : resumeCursor sh w q = (atGroupCursor sh q).cursor := by
  unfold resumeCursor; rw [h]

def savedOf (sh : List (String × SharedGroup)) (w : List (Nat × Nat × Option Cursor)) (q : DataRequest) : DataRequest :=
  rewindOne (retransmissionMap w []) (atGroupCursor sh q)

theorem savedOf_fields (sh : List (String × SharedGroup)) (w : List (Nat × Nat × Option Cursor)) (q : DataRequest) :
    (savedOf sh w q).filter = q.filter ∧ (savedOf sh w q).filterIdx = q.filterIdx ∧ (savedOf sh w q).qos = q.qos ∧
    (savedOf sh w q).group = q.group ∧ (savedOf sh w q).forwardRetained = q.forwardRetained ∧
    (savedOf sh w q).cursor = resumeCursor sh w q := by
  obtain ⟨a1, a2, a3, a4, a5⟩ := atGroupCursor_fields sh q
  obtain ⟨b1, b2, b3, b4, b5, b6⟩ := rewindOne_fields (retransmissionMap w []) (atGroupCursor sh q)
  refine ⟨b1.trans a1, b2.trans a2, b3.trans a3, b4.trans a4, b5.trans a5, ?_⟩
  unfold savedOf resumeCursor
  rw [b6, a2, retx_lookup_least]
  cases leastCursor q.filterIdx w <;> rfl

theorem register_ready {s s' : RState} {spec : ConnectSpec}
    (hr : reschedule (hnPre s spec) (hnKey s spec) .init = .ok s')
    (hbusy : (hnTracker spec (hnRestored s spec)).status = .paused .busy) :
    ∃ c', getConn s' (hnKey s spec) = some c' ∧ c'.tracker.status = .ready ∧ hnKey s spec ∈ s'.readyqueue := by
  obtain ⟨t, woke, hR⟩ := register_spec hr
  cases (tryReady_init hbusy).symm.trans hR.ready
  exact ⟨_, hR.conn, rfl, by rw [hR.readyqueue]; simp⟩

end Router
