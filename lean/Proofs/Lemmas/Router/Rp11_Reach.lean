/-
`AI` through the events and `consume`; `AI.reachable` (C06, C14).
-/
import Proofs.Lemmas.Router.Rp11_Packets
import Proofs.Lemmas.Router.Rp8_Reach
namespace Router

theorem handleDisconnection_arel {s s' : RState} {id : Nat} {r : Option String}
    (hd : handleDisconnection s id r = .ok s') : ARel s s' := by
  rcases handleDisconnection_cases hd with ⟨_, rfl⟩ | ⟨c, hc, hd⟩
  · exact ARel.refl _
  exact ARel.trans (ConnAll.hdFinal (ARel.refl s) id c r) (ARel.sched.wakeParked hd)

theorem hnRegister_ai {s s' : RState} {spec : ConnectSpec} (hs : AI s) (hdi : DInv s) (ha : AdmInv s)
    (hnone : alookup spec.clientId s.connectionMap = none) (hroom : s.conns.len < s.config.maxConnections)
    (hre : reschedule (hnPre s spec) (hnKey s spec) .init = .ok s') : AI s' := by
  have hbusy : (hnNew s spec).tracker.status = .paused .busy := (hnTracker_ok hdi spec).2
  exact AI.rel (ConnAll.hnPre (P := fun _ c => c.tracker.status = .paused .caughtup → c.acks.committed = []) hs ha hnone hroom
    fun e => by rw [hbusy] at e; cases e) (ARel.sched.reschedule hre)

theorem handleNewConnection_ai {s s' : RState} {spec : ConnectSpec} (hb : BR s) (ha : AdmInv s) (hs : AI s)
    (h : handleNewConnection s spec = .ok s') : AI s' :=
  have s0 : AI (setLink s spec.link {}) := hs.rel (ARel.of_conns rfl)
  handleNewConnection_inv (I := AI) ha s0 (fun _ h1 => s0.rel (handleDisconnection_arel h1)) (fun t => t.rel (ARel.of_conns rfl))
    (fun t ht a1 hnone hroom hr => hnRegister_ai t (hnTakeover_br hb ht).1.1 a1 hnone hroom hr) h

/-- the replies committed for the batch are followed by the reschedule (or the removal of the connection) in the same event -/
theorem handleDevicePayload_ai {s s' : RState} {id : Nat} (hs : AI s) (h : handleDevicePayload s id = .ok s') : AI s' := by
  cases hc : getConn s id with
  | none => rw [handleDevicePayload_none hc] at h; cases h; exact hs
  | some c =>
    obtain ⟨s1, fl, s2, s3, s4, h1, h2, h3, h4, h5⟩ := handleDevicePayload_phases hc h
    have q1 := handlePackets_aix _ ((hs.rel (ARel.of_conns (s' := setLink s c.link { getLink s c.link with ibuf := [] }) rfl)).toX id (FlagsOwe {})) h1
    -- after the reschedule for the committed replies only a pending disconnection is an excuse
    have q2 : AIx s2 id (fl.disconnect = true) := by
      split at h2
      · exact (reschedule_discharges q1 h2 (.inl rfl)).toX _ _
      · rename_i hfa; cases h2
        exact q1.weaken fun x => x.elim (fun y => absurd y hfa) (fun y => y)
    have q3 : AIx s3 id (fl.disconnect = true) := by
      split at h3
      · exact q2.rel (ARel.sched.drain_all h3)
      · cases h3; exact q2
    have q4 := q3.rel (ARel.sched.wakeTurnMoved (fun _ => ARel.of_conns rfl) h4)
    split at h5
    · have hgone := getConn_handleDisconnection h5
      intro j d hd e
      have hj : j ≠ id := fun e' => by rw [e', hgone] at hd; cases hd
      exact ((q4.rel (handleDisconnection_arel h5)) j d hd e).elim (fun x => x) fun x => absurd x.1 hj
    · rename_i hdc; cases h5; exact q4.toAI hdc

/-- in `consume` the ack log of `id` is flushed first and stays empty through the loop -/
def ALI (s : RState) (id : Nat) : Prop := AI s ∧ ∀ c, getConn s id = some c → c.acks.committed = []

theorem ALI.rel {s s' : RState} {id : Nat} (h : ALI s id) (m : ARel s s') : ALI s' id :=
  ⟨h.1.rel m, fun c' hc' => by
    obtain ⟨c, hc, k⟩ := m id c' hc'
    exact k.2 (h.2 c hc)⟩

theorem ALI.paused {s s' : RState} {id : Nat} {r : PauseReason} (h : ALI s id) (hp : pause s id r = .ok s') : ALI s' id := by
  obtain ⟨_, c, hc, rfl⟩ := pause_upd hp
  have hcm := h.2 c hc
  refine ⟨Walk.conns_of_set (s := { s with readyqueue := s.readyqueue.dropLast }) hc rfl (fun _ => hcm)
    fun j d _ hd => h.1 j d hd, fun d hd => ?_⟩
  rw [getConn_setConn_live (s := { s with readyqueue := s.readyqueue.dropLast }) hc, if_pos rfl] at hd
  cases hd; exact hcm

theorem consumeLoop_ai {id : Nat} (fuel : Nat) {s s' : RState} {requests skipped : List DataRequest}
    (h : ALI s id) (hc : consumeLoop s id fuel requests skipped = .ok s') : AI s' := by
  obtain ⟨s0, l, a, ht⟩ := consumeLoop_inv (id := id) (P := fun t _ => ALI t id) (fun _ a => a)
    (fun hp a => a.paused hp)
    (fun h1 a => a.rel ((ARel.sweep.forwardDeviceData h1).trans (ARel.sweep.noteTurn _ _ _)))
    (fun h1 h3 a => (a.rel ((ARel.sweep.forwardDeviceData h1).trans (ARel.sweep.noteTurn _ _ _))).rel (ARel.sweep.park h3))
    fuel hc h
  exact a.1.rel (ARel.sched.trackv ht)

theorem ackDeviceData_committed {s : RState} {id : Nat} {d : Conn} (hd : getConn (ackDeviceData s id) id = some d) :
    d.acks.committed = [] := by
  rcases ackDeviceData_cases s id with ⟨e, hn | ⟨c, hc, hemp⟩⟩ | ⟨c, hc, _, e⟩
  · rw [e, hn] at hd; cases hd
  · rw [e, hc] at hd; cases hd; exact hemp
  · have hc1 : getConn (wakeLink (pushNotifs s c.link (c.acks.committed.map Notif.ack)) c.link) id = some c := by
      rw [getConn_wakeLink, getConn_pushNotifs]; exact hc
    rw [e, getConn_setConn_live hc1, if_pos rfl] at hd; cases hd; rfl

theorem consume_ai {s s' : RState} {b : Bool} (hs : AI s) (hc : consume s = .ok (s', b)) : AI s' := by
  rcases Walk.consume_cases hc with ⟨_, _, rfl⟩ | ⟨id, rq, c, s1, _, hcn, _, h1, h2⟩
  · exact hs.rel (ARel.of_conns rfl)
  · refine AI.rel (consumeLoop_ai _ ?_ h1) (ARel.sched.wakeTurnMoved (fun _ => ARel.of_conns rfl) h2)
    have la : ARel s (Walk.takeRequests s id c rq) :=
      ARel.of_set (c' := { c with tracker := { c.tracker with requests := [] } }) hcn rfl ⟨fun h => h, fun h => h⟩
    exact ⟨(hs.rel la).rel (ARel.sweep.ackDeviceData _ id), fun d hd => ackDeviceData_committed hd⟩

theorem step_ai {s s' : RState} {op : Op} {out : Out} (h3 : Inv3 s) (hs : AI s) (hst : step s op = .ok (s', out)) : AI s' :=
  Walk.step_inv hs (fun _ _ => hs.rel (ARel.of_conns rfl)) (handleNewConnection_ai h3.br h3.inv2.inv1.adm hs)
    (handleDevicePayload_ai hs) (fun he => hs.rel (ARel.sched.reschedule he))
    (fun he => hs.rel (handleDisconnection_arel he)) (fun he => hs.rel (ARel.sched.handleLastWill he))
    (fun he => hs.rel (ARel.sweep.handleShadow he)) (consume_ai hs) hst

theorem AI.init (cfg : Config) : AI (init cfg) := ConnAll.init cfg

theorem AI.reachable {cfg : Config} {s : RState} (hr : Reachable cfg s) : AI s :=
  hr.induction' AI (AI.init cfg) fun _ o _ _ _ hrs hs hstep =>
    step_ai ((Inv3.reachable hrs).oracle o) (hs.rel (ARel.of_conns rfl)) hstep

end Router
