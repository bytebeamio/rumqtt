/-
The panic sites of `consume()`: the polled id is live, every request's filter index is valid (`forward_device_data`,
`park`), groups are non-empty (`update_next_client`), and the polled id stays at the back of the ready queue until `pause`.
-/
import Proofs.Lemmas.Router.Rp1_DEvents
import Proofs.Lemmas.Router.Rp1_ShapeOf
namespace Router

/-- post-condition of the pieces of one sweep -/
def CQ (s s' : RState) : Prop :=
  DInv s' ∧ s'.readyqueue = s.readyqueue ∧ s'.notifications = s.notifications ∧ N s' = N s

theorem CQ.refl {s : RState} (h : DInv s) : CQ s s := ⟨h, rfl, rfl, rfl⟩
theorem CQ.trans {a b c : RState} (h1 : CQ a b) (h2 : CQ b c) : CQ a c :=
  ⟨h2.1, h2.2.1.trans h1.2.1, h2.2.2.1.trans h1.2.2.1, h2.2.2.2.trans h1.2.2.2⟩

theorem readRetained_good {s : RState} {f : String} :
    Good (fun r => ∃ o, r.1 = { s with oracle := o }) (readRetained s f) := by
  unfold readRetained
  simp only []
  split
  · split
    · exact ⟨_, rfl⟩
    · exact Good.badChoice _
  · exact Good.badChoice _

theorem fdRetained_good {s : RState} {req : DataRequest} {slots : Nat} :
    Good (fun r => ∃ o, r.1 = { s with oracle := o }) (fdRetained s req slots) := by
  unfold fdRetained
  split
  · have hr := readRetained_good (s := s) (f := req.filter)
    split
    · rename_i e he; exact Good.error_of he hr
    · rename_i s1 ps h1
      obtain ⟨o, ho⟩ := Good.ok_of h1 hr
      exact ⟨o, ho⟩
  · exact ⟨s.oracle, rfl⟩

theorem updateNextClient_good {s : RState} {g : SharedGroup} (hg : g.clients ≠ []) :
    Good (fun r => (∃ o, r.1 = { s with oracle := o }) ∧ r.2.clients = g.clients) (updateNextClient s g) := by
  have hne : g.clients.isEmpty = false := by cases hc : g.clients with
    | nil => exact absurd hc hg
    | cons a l => rfl
  unfold updateNextClient
  split
  · exact ⟨⟨s.oracle, rfl⟩, rfl⟩
  · simp only [hne, Bool.false_eq_true, if_false]
    exact ⟨⟨s.oracle, rfl⟩, rfl⟩
  · simp only [hne, Bool.false_eq_true, if_false]
    split
    · split
      · exact ⟨⟨_, rfl⟩, rfl⟩
      · exact Good.badChoice _
    · exact Good.badChoice _

theorem fdGroupUpd_good {s : RState} {req : DataRequest} {grp : Option SharedGroup} (h : DInv s) :
    Good (CQ s) (fdGroupUpd s req grp) := by
  unfold fdGroupUpd
  split
  · rename_i gname _
    split
    · exact CQ.refl h
    · rename_i g hg
      have hne := h.grp _ (mem_of_alookup_eq_some hg)
      have hu := updateNextClient_good (s := s) hne
      split
      · rename_i e he; exact Good.error_of he hu
      · rename_i s1 g1 h1
        obtain ⟨⟨o, rfl⟩, hcl⟩ := Good.ok_of h1 hu
        have h1' : DInv ({ s with oracle := o } : RState) := h.of_reads rfl
        refine ⟨(h1'.with_shared _ fun p hp => ?_), rfl, rfl, rfl⟩
        rcases mem_ainsert_iff.mp hp with ⟨hp, _⟩ | rfl
        · exact h.grp p hp
        · show g1.clients ≠ []
          rw [show g1.clients = g.clients from hcl]; exact hne
  · exact CQ.refl h

theorem fdPush_good {s : RState} {id : Nat} {c : Conn} {req : DataRequest} {grp : Option SharedGroup}
    {pubs : List (Pub × Option Cursor)} {cu : Bool} (h : DInv s) (hc : getConn s id = some c) :
    Good (fun r => CQ s r.1 ∧ r.2.1 = req) (fdPush s id c req grp pubs cu) := by
  unfold fdPush
  simp only []
  have h1 := h.set (s' := pushNotifs (setConn s id { c with out := (fdOut c req pubs).1, brokerAliases := (fdAliases c req.filter).1 }) c.link (fdOut c req pubs).2) hc rfl (h.trk id c hc)
  have hg := fdGroupUpd_good (req := req) (grp := grp) h1
  split
  · rename_i e he; exact Good.error_of he hg
  · rename_i s2 h2
    have q2 := Good.ok_of h2 hg
    split
    · obtain ⟨ls, e⟩ := wakeLink_pushNotifs_upd s2 c.link [Notif.unschedule]
      rw [e]; exact ⟨⟨q2.1.of_reads rfl, q2.2.1, q2.2.2.1, q2.2.2.2⟩, rfl⟩
    · obtain ⟨ls, e⟩ := wakeLink_upd s2 c.link
      rw [e]; exact ⟨⟨q2.1.of_reads rfl, q2.2.1, q2.2.2.1, q2.2.2.2⟩, rfl⟩

theorem forwardDeviceData_good {s : RState} {id : Nat} {req : DataRequest} (h : DInv s) (hl : Live s id)
    (hi : req.filterIdx < N s) :
    Good (fun r => CQ s r.1 ∧ r.2.1.filterIdx = req.filterIdx) (forwardDeviceData s id req) := by
  obtain ⟨c, hc⟩ := hl.get
  rw [forwardDeviceData_eq]
  simp only [hc]
  have hidx := (fdReq0_fields req (fdGrp s req)).1
  split
  · exact ⟨CQ.refl h, hidx⟩
  · have hr := fdRetained_good (s := s) (req := fdReq0 req (fdGrp s req)) (slots := fdSlots s c (fdReq0 req (fdGrp s req)).qos (fdGrp s req))
    split
    · rename_i e he; exact Good.error_of he hr
    · rename_i s1 rp slots h1
      obtain ⟨o, rfl⟩ := Good.ok_of h1 hr
      have h1' : DInv ({ s with oracle := o } : RState) := h.of_reads rfl
      have hlt : (fdReq0 req (fdGrp s req)).filterIdx < s.datalog.native.length := by rw [hidx]; exact hi
      simp only []
      rw [show ({ s with oracle := o } : RState).datalog.native = s.datalog.native from rfl,
        List.getElem?_eq_getElem hlt]
      simp only []
      split
      · exact ⟨⟨h1', rfl, rfl, rfl⟩, hidx⟩
      · split
        · exact ⟨⟨h1', rfl, rfl, rfl⟩, hidx⟩
        · have hc1 : getConn ({ s with oracle := o } : RState) id = some c := hc
          refine (fdPush_good h1' hc1).mono fun r q => ⟨⟨q.1.1, q.1.2.1, q.1.2.2.1, q.1.2.2.2⟩, ?_⟩
          rw [q.2]; exact hidx

theorem park_good {s : RState} {id : Nat} {r : DataRequest} (h : DInv s) (hl : Live s id)
    (hi : r.filterIdx < N s) : Good (CQ s) (park s id r) := by
  unfold park
  have hlt : r.filterIdx < s.datalog.native.length := hi
  rw [List.getElem?_eq_getElem hlt]
  simp only []
  have hfd : s.datalog.native[r.filterIdx] ∈ s.datalog.native := List.getElem_mem hlt
  refine ⟨(h.native_set r.filterIdx _ (fun w hw => ?_) s.notifications h.ntf s.ghost).of_reads rfl,
    rfl, rfl, ?_⟩
  · rcases List.mem_append.mp hw with hw | hw
    · exact h.wt _ hfd w hw
    · simp only [List.mem_singleton] at hw; subst hw; exact ⟨hi, hl⟩
  · show (s.datalog.native.set _ _).length = _
    rw [List.length_set]; rfl

theorem ackDeviceData_dinv {s : RState} (h : DInv s) (id : Nat) : CQ s (ackDeviceData s id) := by
  rcases ackDeviceData_upd s id with e | ⟨c, ls, hc, e⟩ <;> rw [e]
  · exact CQ.refl h
  · exact ⟨h.set hc rfl (h.trk id c hc), rfl, rfl, rfl⟩

theorem pause_trackv_good {s : RState} {id : Nat} {r : PauseReason} {rs : List DataRequest} (h : DInv s)
    (hl : Live s id) (hq : s.readyqueue.getLast? = some id) (hr : ReqsOK (N s) rs) :
    Good (fun s' => DInv s' ∧ s'.notifications = s.notifications)
      (match pause s id r with | .error e => .error e | .ok s => trackv s id rs) := by
  gbind (pause_good (r := r) h hl hq) with s1 h1 q1
  have hN : N s1 = N s := by unfold N; rw [(pause_step h1).datalog]
  refine (trackv_good q1.1 (hl.shape (pause_shape h1)) (by rw [hN]; exact hr)).mono fun s' q => ⟨q.1, ?_⟩
  rw [q.2, q1.2]

theorem consumeLoop_good {id : Nat} : ∀ (fuel : Nat) {s : RState} {requests skipped : List DataRequest}, DInv s →
    Live s id → ReqsOK (N s) requests → ReqsOK (N s) skipped → s.readyqueue.getLast? = some id →
    Good (fun s' => DInv s' ∧ s'.notifications = s.notifications) (consumeLoop s id fuel requests skipped)
  | 0, s, requests, skipped, h, hl, hr, hs, _ => by
    simp only [consumeLoop]
    exact trackv_good h hl (hr.append hs)
  | fuel + 1, s, requests, skipped, h, hl, hr, hs, hq => by
    cases requests with
    | nil =>
      simp only [consumeLoop]
      by_cases he : skipped.isEmpty = true
      · simp only [he, if_true]
        exact pause_trackv_good h hl hq hs
      · simp only [he, Bool.false_eq_true, if_false]
        exact trackv_good h hl hs
    | cons req rest =>
      obtain ⟨hr0, hrest⟩ := hr.of_cons
      simp only [consumeLoop]
      have hf := forwardDeviceData_good (req := req) h hl hr0
      split
      · rename_i e he; exact Good.error_of he hf
      · rename_i s1 req1 st h1
        obtain ⟨⟨d1, rq1, nt1, n1⟩, hidx⟩ := Good.ok_of h1 hf
        have l1 : Live s1 id := hl.shape (forwardDeviceData_shape h1)
        have hq1 : s1.readyqueue.getLast? = some id := by rw [rq1]; exact hq
        have hreq1 : req1.filterIdx < N s1 := by rw [n1]; exact hidx ▸ hr0
        have hrest1 : ReqsOK (N s1) rest := by rw [n1]; exact hrest
        have hs1 : ReqsOK (N s1) skipped := by rw [n1]; exact hs
        have hone : ReqsOK (N s1) [req1] := ReqsOK.cons hreq1 (ReqsOK.nil _)
        obtain ⟨tm, etm⟩ := noteTurn_upd s s1 req1
        simp only [etm]
        -- noting the turn changes `turnMoved` only, which nothing below reads
        replace d1 : DInv ({ s1 with turnMoved := tm } : RState) := d1.of_reads rfl
        replace l1 : Live ({ s1 with turnMoved := tm } : RState) id := l1
        split
        · exact (pause_trackv_good d1 l1 hq1 ((hrest1.append hone).append hs1)).mono fun s' q => ⟨q.1, by rw [q.2, nt1]⟩
        · exact (pause_trackv_good d1 l1 hq1 ((hrest1.append hone).append hs1)).mono fun s' q => ⟨q.1, by rw [q.2, nt1]⟩
        · gbind (park_good d1 l1 hreq1) with s2 h2 q2
          have l2 : Live s2 id := l1.core (park_core h2)
          refine (consumeLoop_good fuel q2.1 l2 (by rw [q2.2.2.2]; exact hrest1) (by rw [q2.2.2.2]; exact hs1)
            (by rw [q2.2.1]; exact hq1)).mono fun s' q => ⟨q.1, by rw [q.2, q2.2.2.1, nt1]⟩
        · exact (consumeLoop_good fuel d1 l1 (hrest1.append hone) hs1 hq1).mono fun s' q => ⟨q.1, by rw [q.2, nt1]⟩
        · exact (consumeLoop_good fuel d1 l1 hrest1 (hs1.append hone) hq1).mono fun s' q => ⟨q.1, by rw [q.2, nt1]⟩

theorem consume_good {s : RState} (h : BInv s) : Good (fun r => BInv r.1) (consume s) := by
  unfold consume
  split
  · exact ⟨h.1.of_reads rfl, h.2⟩
  · rename_i id rq hq
    simp only []
    split
    · exact ⟨h.1.of_reads rfl, h.2⟩
    · rename_i c hc
      have hc' : getConn s id = some c := hc
      have h1 : DInv (Walk.takeRequests s id c rq) := h.1.set hc' rfl (ReqsOK.nil _)
      have l1 : Live (Walk.takeRequests s id c rq) id :=
        Live.of_get ((getConn_of_set (s := { s with readyqueue := rq }) hc rfl id).trans (if_pos rfl))
      obtain ⟨d2, rq2, nt2, n2⟩ := ackDeviceData_dinv h1 id
      have l2 := l1.shape (ackDeviceData_shape _ id)
      have hl := consumeLoop_good (id := id) MAX_SCHEDULE_ITERATIONS (requests := c.tracker.requests) (skipped := []) d2 l2
        (by rw [n2]; exact h.1.trk id c hc') (ReqsOK.nil _)
        (by rw [rq2]; show (rq ++ [id]).getLast? = some id; simp)
      split
      · rename_i e he; exact Good.error_of he hl
      · rename_i s3 h3
        have q3 := Good.ok_of h3 hl
        gbind (wakeTurnMoved_total q3.1).good with s4 h4 q4
        exact ⟨q4.1, by rw [q4.2, q3.2, nt2]; exact h.2⟩

end Router
