/-
The log offsets forwarded to connection `a` through its subscription `f`: `loopFwd` (Base/Decomp) / `consumeFwd` /
`stepFwd` / `runFwd` mirror the control flow of `consume` and collect, sweep by sweep, the offsets appended to the
connection's link buffer.
-/
import Proofs.Lemmas.Router.Rp3_ReqRun
import Proofs.Lemmas.Router.Rp6_Own
namespace Router
open Router.Rp3

def consumeFwd (a : Nat) (f : String) (s : RState) : List Nat :=
  match s.readyqueue.dropWhile (fun id => (s.conns.get? id).isNone) with
  | [] => []
  | id :: rq =>
    if id ≠ a then [] else
    let s := { s with readyqueue := rq }
    match getConn s id with
    | none => []
    | some c =>
      let s := setConn s id { c with tracker := { c.tracker with requests := [] } }
      let s := { s with readyqueue := s.readyqueue ++ [id] }
      let s := ackDeviceData s id
      loopFwd f id MAX_SCHEDULE_ITERATIONS s c.tracker.requests []

def stepFwd (a : Nat) (f : String) (s : RState) : Op → List Nat
  | .consume => consumeFwd a f s
  | _ => []

def runFwd (a : Nat) (f : String) : RState → List (Op × List Choice) → List Nat
  | _, [] => []
  | s, (op, ch) :: rest =>
    match step { s with oracle := ch } op with
    | .error _ => []
    | .ok (s', _) => stepFwd a f { s with oracle := ch } op ++ runFwd a f s' rest

theorem reqAt_of_dkey {i : Nat} {s s' : RState} {cur : Cursor} (h : ReqAt i s cur) (e : dkey s' = dkey s) : ReqAt i s' cur := by
  obtain ⟨fd, hist, hfd, hrep, hiss, hret, hU⟩ := h
  simp only [dkey, Prod.mk.injEq] at e
  obtain ⟨_, e2, _, _, e5⟩ := e
  have : (s.datalog.native.map (·.log))[i]? = some fd.log := by simp [hfd]
  rw [← e2] at this
  simp only [List.getElem?_map, Option.map_eq_some_iff] at this
  obtain ⟨fd', hfd', el⟩ := this
  exact ⟨fd', hist, hfd', by rw [el]; exact hrep, by rw [el]; exact hiss, by rw [el]; exact hret, by rw [e5]; exact hU⟩

theorem reqRun_idle {i : Nat} {s s' : RState} (r : DataRequest) (e : dkey s' = dkey s) : ReqRun i s r [] s' r :=
  ReqRun.other (fun _ h => reqAt_of_dkey h e) (ReqRun.done s' r)

theorem Rp3.ReqRun.idle {i : Nat} {s s1 s2 : RState} {r r1 : DataRequest} {offs : List Nat}
    (h : ReqRun i s r offs s1 r1) (e : dkey s2 = dkey s1) : ReqRun i s r offs s2 r1 := by
  simpa using h.trans (reqRun_idle r1 e)

theorem sweepDelta_spec {s s1 : RState} {id : Nat} {c : Conn} {req req1 : DataRequest} {st : ConsumeStatus}
    (hc : getConn s id = some c) (h : forwardDeviceData s id req = .ok (s1, req1, st)) :
    linkOffsets s1 c.link = linkOffsets s c.link ++ sweepDelta s s1 id := by
  unfold sweepDelta
  rw [hc]
  show linkOffsets s1 c.link = linkOffsets s c.link ++ (linkOffsets s1 c.link).drop (linkOffsets s c.link).length
  rcases (sweep_offsets hc h).offsets with ⟨e, _⟩ | ⟨n, fd, _, _, e, _⟩
  · rw [e, List.drop_length, List.append_nil]
  · rw [e, List.drop_left]

theorem consumeLoop_own {id : Nat} (fuel : Nat) {s s' : RState} {requests skipped : List DataRequest}
    (hc : consumeLoop s id fuel requests skipped = .ok s') (j : Nat) (x : DataRequest) (ho : Own s j x) : Own s' j x :=
  (own_iff s' j x).mpr ((consumeLoop_held fuel hc).2.1 j x ((own_iff s j x).mp ho))

end Router
