/-
The group table `s.shared` under the six operations that change it: for each a description of the entries of the new table
in terms of the old one, strong enough for every invariant of the form "each entry of the table satisfies P"; the keys stay
distinct. (The sweep's `ainsert` is `mem_ainsert_iff`.) Also which logs a disconnect wakes (`mem_turnMovedLogs_iff`,
`mem_rewoundLogs`) and `subscriptionMapAdd`.
-/
import Proofs.Lemmas.Router.Base.Decomp
namespace Router

theorem pfShared_none (s : RState) (cursor : Cursor) (cid : String) : pfShared s cursor cid none = s.shared := rfl

theorem mem_pfShared {s : RState} {cursor : Cursor} {cid g : String} {p : String × SharedGroup} :
    p ∈ pfShared s cursor cid (some g) ↔
      (p ∈ s.shared ∧ p.1 ≠ g) ∨
      (∃ grp, alookup g s.shared = some grp ∧ p = (g, { grp with clients := grp.clients ++ [cid] })) ∨
      (alookup g s.shared = none ∧ p = (g, { clients := [cid], cursor := cursor, strategy := s.config.strategy })) := by
  unfold pfShared
  rw [mem_ainsert_iff]
  refine or_congr_right ?_
  cases hl : alookup g s.shared with
  | some grp => simp
  | none => simp

theorem pfShared_nodup {s : RState} (cursor : Cursor) (cid : String) (group : Option String)
    (h : (s.shared.map (·.1)).Nodup) : ((pfShared s cursor cid group).map (·.1)).Nodup := by
  cases group with
  | none => exact h
  | some g => exact nodup_map_fst_ainsert h

theorem ufShared_cases (s : RState) (f cid : String) :
    (ufShared s f cid = s.shared ∧ ∀ gname path, extractGroup f = some (gname, path) → alookup gname s.shared = none) ∨
    ∃ gname path g, extractGroup f = some (gname, path) ∧ alookup gname s.shared = some g ∧
      (((g.removeClient cid).clients.isEmpty = true ∧ ufShared s f cid = aremove gname s.shared) ∨
       ((g.removeClient cid).clients.isEmpty = false ∧ ufShared s f cid = ainsert gname (g.removeClient cid) s.shared)) := by
  unfold ufShared
  cases he : extractGroup f with
  | none => exact .inl ⟨rfl, fun _ _ e => by cases e⟩
  | some gp =>
    obtain ⟨gname, path0⟩ := gp
    simp only []
    cases hl : alookup gname s.shared with
    | none =>
      refine .inl ⟨rfl, fun g p e => ?_⟩
      simp only [Option.some.injEq, Prod.mk.injEq] at e
      rw [← e.1]; exact hl
    | some g =>
      refine .inr ⟨gname, path0, g, rfl, hl, ?_⟩
      simp only []
      cases hemp : (g.removeClient cid).clients.isEmpty
      · exact .inr ⟨rfl, by simp⟩
      · exact .inl ⟨rfl, by simp⟩

theorem mem_ufShared {s : RState} {f cid : String} {p' : String × SharedGroup} (h : p' ∈ ufShared s f cid) :
    (p' ∈ s.shared ∧ ∀ path, extractGroup f ≠ some (p'.1, path)) ∨
    ∃ path g, extractGroup f = some (p'.1, path) ∧ alookup p'.1 s.shared = some g ∧
      (g.removeClient cid).clients.isEmpty = false ∧ p'.2 = g.removeClient cid := by
  rcases ufShared_cases s f cid with ⟨e, hnone⟩ | ⟨gname, path, g, he, hl, ⟨_, e⟩ | ⟨hne, e⟩⟩
  · rw [e] at h
    exact .inl ⟨h, fun path he => alookup_eq_none_iff.mp (hnone _ _ he) p' h rfl⟩
  all_goals
    have other : p' ∈ s.shared → p'.1 ≠ gname → (p' ∈ s.shared ∧ ∀ path, extractGroup f ≠ some (p'.1, path)) :=
      fun hm hk => ⟨hm, fun _ e' => by rw [he] at e'; cases e'; exact hk rfl⟩
    rw [e] at h
  · obtain ⟨hm, hk⟩ := mem_aremove_iff.mp h
    exact .inl (other hm hk)
  · rcases mem_ainsert_iff.mp h with ⟨hm, hk⟩ | rfl
    · exact .inl (other hm hk)
    · exact .inr ⟨path, g, he, hl, hne, rfl⟩

theorem ufShared_nodup {s : RState} (f cid : String) (h : (s.shared.map (·.1)).Nodup) :
    ((ufShared s f cid).map (·.1)).Nodup := by
  rcases ufShared_cases s f cid with ⟨e, _⟩ | ⟨gname, _, g, _, _, ⟨_, e⟩ | ⟨_, e⟩⟩ <;> rw [e]
  · exact h
  · exact nodup_map_fst_aremove gname h
  · exact nodup_map_fst_ainsert h

theorem ufTurnMoved_sub (s : RState) (f cid : String) : ∀ i ∈ s.turnMoved, i ∈ ufTurnMoved s f cid := by
  intro i hi
  unfold ufTurnMoved
  split
  · exact hi
  · split
    · exact hi
    · simp only []
      split
      · exact hi
      · exact List.mem_append_left _ hi

theorem mem_ufTurnMoved {s : RState} {f cid gname path : String} {g : SharedGroup} {i : Nat}
    (he : extractGroup f = some (gname, path)) (hl : alookup gname s.shared = some g)
    (hne : (g.removeClient cid).clients.isEmpty = false) (hcur : (g.removeClient cid).current ≠ g.current)
    (hi : s.datalog.filterIdx? path = some i) : i ∈ ufTurnMoved s f cid := by
  unfold ufTurnMoved
  have hb : ((g.removeClient cid).current != g.current) = true := by simpa using hcur
  simp [he, hl, hne, hb, hi]

theorem mem_removeFromGroups_iff {sh : List (String × SharedGroup)} {cid : String} {p' : String × SharedGroup} :
    p' ∈ removeFromGroups sh cid ↔
      ∃ p ∈ sh, p' = (p.1, p.2.removeClient cid) ∧ (p.2.removeClient cid).clients.isEmpty = false := by
  unfold removeFromGroups
  rw [List.mem_filter, List.mem_map]
  constructor
  · rintro ⟨⟨p, hp, rfl⟩, hne⟩
    exact ⟨p, hp, rfl, by simpa using hne⟩
  · rintro ⟨p, hp, rfl, hne⟩
    exact ⟨⟨p, hp, rfl⟩, by simpa using hne⟩

theorem removeFromGroups_nodup {sh : List (String × SharedGroup)} (cid : String) (h : (sh.map (·.1)).Nodup) :
    ((removeFromGroups sh cid).map (·.1)).Nodup := by
  unfold removeFromGroups
  refine List.Nodup.sublist (List.Sublist.map _ List.filter_sublist) ?_
  rw [List.map_map]
  exact h

theorem rewindRequests_reqs (retx : List (Nat × Cursor)) : ∀ (rs : List DataRequest) (sh : List (String × SharedGroup))
    (acc : List DataRequest),
    (rewindRequests sh retx rs acc).2 =
      acc ++ rs.map (fun r => match nlookup r.filterIdx retx with | none => r | some c => { r with cursor := c })
  | [], sh, acc => by simp [rewindRequests]
  | r :: rest, sh, acc => by
    unfold rewindRequests
    cases hl : nlookup r.filterIdx retx with
    | none => simp only []; rw [rewindRequests_reqs retx rest]; simp [hl]
    | some c =>
      simp only []
      cases hg : r.group with
      | none => simp only []; rw [rewindRequests_reqs retx rest]; simp [hl, hg]
      | some g =>
        simp only []
        cases hs : alookup g sh with
        | none => simp only []; rw [rewindRequests_reqs retx rest]; simp [hl, hg]
        | some grp => simp only []; rw [rewindRequests_reqs retx rest]; simp [hl, hg]

theorem mem_rewindRequests (retx : List (Nat × Cursor)) : ∀ (rs : List DataRequest) (sh : List (String × SharedGroup))
    (acc : List DataRequest),
    ((rewindRequests sh retx rs acc).1.map (·.1) = sh.map (·.1)) ∧
    ∀ p' ∈ (rewindRequests sh retx rs acc).1, ∃ p ∈ sh, p'.1 = p.1 ∧ p'.2.clients = p.2.clients ∧ p'.2.idx = p.2.idx ∧
      (p'.2.cursor = p.2.cursor ∨ ∃ r ∈ rs, r.group = some p.1 ∧ nlookup r.filterIdx retx = some p'.2.cursor)
  | [], sh, acc => ⟨rfl, fun p' hp => ⟨p', hp, rfl, rfl, rfl, .inl rfl⟩⟩
  | r :: rest, sh, acc => by
    -- the tail, from the same table
    have same : ∀ acc', ((rewindRequests sh retx rest acc').1.map (·.1) = sh.map (·.1)) ∧
        ∀ p' ∈ (rewindRequests sh retx rest acc').1, ∃ p ∈ sh, p'.1 = p.1 ∧ p'.2.clients = p.2.clients ∧ p'.2.idx = p.2.idx ∧
          (p'.2.cursor = p.2.cursor ∨ ∃ r' ∈ r :: rest, r'.group = some p.1 ∧ nlookup r'.filterIdx retx = some p'.2.cursor) :=
      fun acc' => by
        obtain ⟨a, b⟩ := mem_rewindRequests retx rest sh acc'
        refine ⟨a, fun p' hp' => ?_⟩
        obtain ⟨p, hp, e1, e2, e3, e4⟩ := b p' hp'
        exact ⟨p, hp, e1, e2, e3, e4.imp id fun ⟨x, hx, y⟩ => ⟨x, List.mem_cons_of_mem _ hx, y⟩⟩
    unfold rewindRequests
    cases hl : nlookup r.filterIdx retx with
    | none => exact same _
    | some cur =>
      simp only []
      cases hg : r.group with
      | none => exact same _
      | some g =>
        simp only []
        cases hgl : alookup g sh with
        | none => exact same _
        | some grp =>
          simp only []
          obtain ⟨a, b⟩ := mem_rewindRequests retx rest (ainsert g { grp with cursor := cur } sh) _
          refine ⟨by rw [a, map_fst_ainsert, hgl]; rfl, fun p' hp' => ?_⟩
          obtain ⟨p, hp, e1, e2, e3, e4⟩ := b p' hp'
          rcases (mem_ainsert_iff.mp hp).symm with rfl | ⟨hp0, _⟩
          · refine ⟨(g, grp), mem_of_alookup_eq_some hgl, e1, e2, e3, ?_⟩
            rcases e4 with e4 | ⟨x, hx, y⟩
            · exact .inr ⟨r, by simp, hg, by rw [hl, e4]⟩
            · exact .inr ⟨x, List.mem_cons_of_mem _ hx, y⟩
          · exact ⟨p, hp0, e1, e2, e3, e4.imp id fun ⟨x, hx, y⟩ => ⟨x, List.mem_cons_of_mem _ hx, y⟩⟩

theorem rejoinGroups_spec (st : Strategy) (cid : String) : ∀ (rs : List DataRequest) (sh : List (String × SharedGroup)),
    ∀ p' ∈ rejoinGroups st cid rs sh, ∃ n, (n ≠ 0 → ∃ r ∈ rs, r.group = some p'.1) ∧
      ((∃ p ∈ sh, p.1 = p'.1 ∧ p'.2 = { p.2 with clients := p.2.clients ++ List.replicate n cid }) ∨
       (n ≠ 0 ∧ ∃ r ∈ rs, r.group = some p'.1 ∧
          p'.2 = { cursor := r.cursor, strategy := st, clients := List.replicate n cid }))
  | [], sh, p', hp' => ⟨0, fun h => absurd rfl h, .inl ⟨p', hp', rfl, by simp⟩⟩
  | r :: rest, sh, p', hp' => by
    have lift : ∀ {P : DataRequest → Prop}, (∃ r' ∈ rest, P r') → ∃ r' ∈ r :: rest, P r' :=
      fun ⟨r', hr', h⟩ => ⟨r', List.mem_cons_of_mem _ hr', h⟩
    simp only [rejoinGroups] at hp'
    split at hp'
    · obtain ⟨n, w, h⟩ := rejoinGroups_spec st cid rest sh p' hp'
      exact ⟨n, fun hn => lift (w hn), h.imp id fun ⟨hn, h⟩ => ⟨hn, lift h⟩⟩
    · rename_i g hg
      obtain ⟨n, w, ⟨p, hp, e1, e2⟩ | ⟨hn, h⟩⟩ := rejoinGroups_spec st cid rest _ p' hp'
      · rcases mem_ainsert_iff.mp hp with ⟨hp0, _⟩ | rfl
        · exact ⟨n, fun hn => lift (w hn), .inl ⟨p, hp0, e1, e2⟩⟩
        · have hr : ∃ r' ∈ r :: rest, r'.group = some p'.1 := ⟨r, List.mem_cons_self, by rw [hg, ← e1]⟩
          refine ⟨n + 1, fun _ => hr, ?_⟩
          cases hl : alookup g sh with
          | some grp0 =>
            refine .inl ⟨(g, grp0), mem_of_alookup_eq_some hl, e1, ?_⟩
            rw [e2]; simp [hl, List.replicate_succ]
          | none =>
            refine .inr ⟨by omega, r, List.mem_cons_self, by rw [hg, ← e1], ?_⟩
            rw [e2]; simp [hl, List.replicate_succ]
      · exact ⟨n, fun hn => lift (w hn), .inr ⟨hn, lift h⟩⟩

theorem rejoinGroups_lookup (st : Strategy) (cid : String) : ∀ (rs : List DataRequest) (sh : List (String × SharedGroup)) (g : String),
    (∀ grp, alookup g sh = some grp → ∃ grp', alookup g (rejoinGroups st cid rs sh) = some grp' ∧ ∀ x ∈ grp.clients, x ∈ grp'.clients) ∧
    ((∃ r ∈ rs, r.group = some g) → ∃ grp', alookup g (rejoinGroups st cid rs sh) = some grp' ∧ cid ∈ grp'.clients)
  | [], sh, g => ⟨fun grp h => ⟨grp, h, fun _ hx => hx⟩, fun ⟨_, hr, _⟩ => by cases hr⟩
  | r :: rest, sh, g => by
    simp only [rejoinGroups]
    split
    · rename_i hg
      obtain ⟨a, b⟩ := rejoinGroups_lookup st cid rest sh g
      refine ⟨a, fun ⟨q, hq, e⟩ => b ?_⟩
      rcases List.mem_cons.mp hq with rfl | hq
      · rw [hg] at e; cases e
      · exact ⟨q, hq, e⟩
    · rename_i g' hg
      obtain ⟨a, b⟩ := rejoinGroups_lookup st cid rest
        (ainsert g' { (alookup g' sh).getD { cursor := r.cursor, strategy := st } with
          clients := ((alookup g' sh).getD { cursor := r.cursor, strategy := st }).clients ++ [cid] } sh) g
      by_cases hgg : g = g'
      · subst hgg
        obtain ⟨grp', h1, h2⟩ := a _ (alookup_ainsert_same _ _ _)
        refine ⟨fun grp hl => ⟨grp', h1, fun x hx => h2 x ?_⟩, fun _ => ⟨grp', h1, h2 cid (by simp)⟩⟩
        simp [hl, hx]
      · refine ⟨fun grp hl => a grp (by rw [alookup_ainsert_ne _ _ _ _ hgg]; exact hl), fun ⟨q, hq, e⟩ => b ?_⟩
        rcases List.mem_cons.mp hq with rfl | hq
        · rw [hg] at e; cases e; exact absurd rfl hgg
        · exact ⟨q, hq, e⟩

theorem rejoinGroups_nodup (st : Strategy) (cid : String) : ∀ (rs : List DataRequest) (sh : List (String × SharedGroup)),
    (sh.map (·.1)).Nodup → ((rejoinGroups st cid rs sh).map (·.1)).Nodup
  | [], _, hn => hn
  | r :: rest, sh, hn => by
    simp only [rejoinGroups]
    split
    · exact rejoinGroups_nodup st cid rest sh hn
    · exact rejoinGroups_nodup st cid rest _ (nodup_map_fst_ainsert hn)

theorem alookup_subscriptionMapAdd (m : List (String × List Nat)) (f g : String) (id : Nat) :
    alookup g (subscriptionMapAdd m f id) =
      if g = f then
        some (match alookup f m with
          | some ids => if ids.contains id then ids else ids ++ [id]
          | none => [id])
      else alookup g m := by
  unfold subscriptionMapAdd
  by_cases hg : g = f
  · subst hg
    rw [if_pos rfl]
    cases hl : alookup g m with
    | some ids => exact alookup_ainsert_same _ _ _
    | none => simp only []; rw [alookup_append, hl]; simp [alookup]
  · rw [if_neg hg]
    cases hl : alookup f m with
    | some ids => exact alookup_ainsert_ne _ _ _ _ hg
    | none =>
      have : ¬ f = g := fun e => hg e.symm
      simp only []; rw [alookup_append]; simp [alookup, this]

theorem mem_foldl_subscriptionMapAdd (id : Nat) : ∀ (subs : List String) (m : List (String × List Nat)) (g : String),
    (g ∈ subs ∨ ∃ ids, alookup g m = some ids ∧ id ∈ ids) →
    ∃ ids, alookup g (subs.foldl (fun m f => subscriptionMapAdd m f id) m) = some ids ∧ id ∈ ids
  | [], m, g, h => by
    rcases h with h | h
    · cases h
    · exact h
  | f :: rest, m, g, h => by
    simp only [List.foldl_cons]
    refine mem_foldl_subscriptionMapAdd id rest _ g ?_
    by_cases hg : g = f
    · subst hg
      refine .inr ⟨_, by rw [alookup_subscriptionMapAdd, if_pos rfl], ?_⟩
      cases alookup g m with
      | none => simp
      | some ids =>
        simp only []
        split
        · rename_i hc; simpa using hc
        · simp
    · rcases h with h | ⟨ids, h1, h2⟩
      · exact .inl ((List.mem_cons.mp h).resolve_left hg)
      · exact .inr ⟨ids, by rw [alookup_subscriptionMapAdd, if_neg hg]; exact h1, h2⟩

theorem removeFromGroups_mem {sh : List (String × SharedGroup)} {cid : String} {p : String × SharedGroup}
    (h : p ∈ removeFromGroups sh cid) : ∃ q ∈ sh, q.1 = p.1 ∧ q.2.cursor = p.2.cursor := by
  obtain ⟨q, hq, rfl, _⟩ := mem_removeFromGroups_iff.mp h
  exact ⟨q, hq, rfl, rfl⟩

theorem rewindRequests_shared (retx : List (Nat × Cursor)) (rs : List DataRequest)
    (sh : List (String × SharedGroup)) (acc : List DataRequest) :
    ∀ p ∈ (rewindRequests sh retx rs acc).1,
      (∃ q ∈ sh, q.1 = p.1 ∧ q.2.cursor = p.2.cursor) ∨
      (∃ r ∈ rs, r.group = some p.1 ∧ nlookup r.filterIdx retx = some p.2.cursor) := fun p hp => by
  obtain ⟨q, hq, e1, _, _, e2 | ⟨r, hr, hg, hl⟩⟩ := (mem_rewindRequests retx rs sh acc).2 p hp
  · exact .inl ⟨q, hq, e1.symm, e2.symm⟩
  · exact .inr ⟨r, hr, by rw [e1]; exact hg, hl⟩

theorem rejoinGroups_shared (st : Strategy) (cid : String) (rs : List DataRequest) (sh : List (String × SharedGroup)) :
    ∀ p ∈ rejoinGroups st cid rs sh,
      (∃ q ∈ sh, q.1 = p.1 ∧ q.2.cursor = p.2.cursor) ∨ (∃ r ∈ rs, r.group = some p.1 ∧ p.2.cursor = r.cursor) := fun p hp => by
  obtain ⟨n, _, ⟨q, hq, e1, e2⟩ | ⟨_, r, hr, hg, e2⟩⟩ := rejoinGroups_spec st cid rs sh p hp
  · exact .inl ⟨q, hq, e1, by rw [e2]⟩
  · exact .inr ⟨r, hr, hg, by rw [e2]⟩

theorem removeClient_wf (g : SharedGroup) (cid : String) (hne : (g.removeClient cid).clients.isEmpty = false) :
    (g.removeClient cid).idx < (g.removeClient cid).clients.length := by
  unfold SharedGroup.removeClient at hne ⊢
  simp only [] at hne ⊢
  simp only [hne, Bool.false_eq_true, if_false]
  apply Nat.mod_lt
  cases hl : g.clients.filter (· ≠ cid) with
  | nil => rw [hl] at hne; simp at hne
  | cons a l => simp

theorem current_of_append_client (grp : SharedGroup) (cid : String) (hw : grp.idx < grp.clients.length) :
    ({ grp with clients := grp.clients ++ [cid] } : SharedGroup).current = grp.current := by
  unfold SharedGroup.current
  simp only []
  rw [List.getElem?_append_left hw]

theorem replicate_current (n : Nat) (cid : String) (g : SharedGroup)
    (hc : g.clients = List.replicate (n + 1) cid) (hi : g.idx = 0) : g.current = some cid := by
  unfold SharedGroup.current
  rw [hc, hi]; simp [List.replicate_succ]

theorem mem_turnMovedLogs_iff (d : DataLog) (sh : List (String × SharedGroup)) (client : String) (i : Nat) :
    i ∈ turnMovedLogs d sh client ↔
      ∃ p ∈ sh, (p.2.removeClient client).clients ≠ [] ∧ (p.2.removeClient client).current ≠ p.2.current ∧
        ∃ share path, extractGroup ("$share/" ++ p.1) = some (share, path) ∧ d.filterIdx? path = some i := by
  unfold turnMovedLogs
  simp only [List.mem_flatMap]
  constructor
  · rintro ⟨p, hp, hi⟩
    refine ⟨p, hp, ?_⟩
    split at hi
    · rename_i hc
      simp only [Bool.and_eq_true, Bool.not_eq_true', bne_iff_ne, ne_eq] at hc
      refine ⟨fun e => by simp [e] at hc, hc.2, ?_⟩
      split at hi
      · rename_i sh' path he
        exact ⟨sh', path, he, by simpa using hi⟩
      · simp at hi
    · simp at hi
  · rintro ⟨p, hp, hne, hcur, share, path, he, hfi⟩
    refine ⟨p, hp, ?_⟩
    have hc : (!(p.2.removeClient client).clients.isEmpty && (p.2.removeClient client).current != p.2.current) = true := by
      simp only [Bool.and_eq_true, Bool.not_eq_true', bne_iff_ne, ne_eq]
      exact ⟨by cases h : (p.2.removeClient client).clients with
                | nil => exact absurd h hne
                | cons _ _ => rfl, hcur⟩
    simp only [hc, if_true, he, hfi]
    simp

theorem mem_turnMovedLogs_of {d : DataLog} {sh : List (String × SharedGroup)} {cid : String} {p : String × SharedGroup} {i : Nat}
    (hp : p ∈ sh) (hk : (p.1.toList.idxOf? '/').isSome = true) (hne : (p.2.removeClient cid).clients.isEmpty = false)
    (hcur : (p.2.removeClient cid).current ≠ p.2.current) (hi : d.filterIdx? (Rp3.gpath p.1) = some i) :
    i ∈ turnMovedLogs d sh cid :=
  (mem_turnMovedLogs_iff d sh cid i).mpr
    ⟨p, hp, fun e => (by rw [e] at hne; cases hne), hcur, p.1, Rp3.gpath p.1, extractGroup_share_key hk, hi⟩

theorem mem_rewoundLogs {sh : List (String × SharedGroup)} {retx : List (Nat × Cursor)} {rs : List DataRequest}
    {r : DataRequest} {p : String × SharedGroup} (hr : r ∈ rs) (hp : p ∈ sh) (hg : r.group = some p.1)
    (hx : (nlookup r.filterIdx retx).isSome = true) : r.filterIdx ∈ rewoundLogs sh retx rs := by
  unfold rewoundLogs
  refine List.mem_filterMap.mpr ⟨r, hr, ?_⟩
  have h2 : (alookup p.1 sh).isSome = true := by
    cases hl : alookup p.1 sh with
    | some _ => rfl
    | none => exact absurd rfl (alookup_eq_none_iff.mp hl p hp)
  cases h1 : nlookup r.filterIdx retx with
  | none => rw [h1] at hx; cases hx
  | some cur =>
    rw [hg]
    simp only [Option.bind_some]
    cases h3 : alookup p.1 sh with
    | none => rw [h3] at h2; cases h2
    | some _ => rfl

end Router
