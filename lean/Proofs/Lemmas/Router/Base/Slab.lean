/-
`slab::Slab` as modelled in Model/Router/Types.lean; `WF` is about its LIFO free list.
-/
import Model.Router.Types
namespace Router
namespace Slab
variable {α : Type}

theorem filter_isSome_set : ∀ (l : List (Option α)) (k : Nat) (x : Option α) (hk : k < l.length),
    ((l.set k x).filter Option.isSome).length + (if (l[k]).isSome then 1 else 0) =
      (l.filter Option.isSome).length + (if x.isSome then 1 else 0)
  | [], k, x, hk => by simp at hk
  | a :: l, 0, x, _ => by
    simp only [List.set_cons_zero, List.filter_cons, List.getElem_cons_zero]
    cases a <;> cases x <;> simp
  | a :: l, k + 1, x, hk => by
    have ih := filter_isSome_set l k x (by simpa using hk)
    simp only [List.set_cons_succ, List.filter_cons, List.getElem_cons_succ]
    cases a <;> simp <;> omega

theorem get?_set (s : Slab α) (k j : Nat) (a : α) :
    (s.set k a).get? j = if j = k ∧ k < s.entries.length then some a else s.get? j := by
  unfold Slab.set Slab.get?
  by_cases h : j = k
  · subst h
    by_cases hl : j < s.entries.length
    · simp [hl]
    · simp [hl]
  · have : ¬ k = j := fun e => h e.symm
    simp [h, this]

theorem lt_of_get? {s : Slab α} {k : Nat} {a : α} (h : s.get? k = some a) : k < s.entries.length := by
  unfold Slab.get? at h
  by_cases hl : k < s.entries.length
  · exact hl
  · simp [List.getElem?_eq_none (Nat.le_of_not_lt hl)] at h

theorem getElem_of_get? {s : Slab α} {k : Nat} {a : α} (h : s.get? k = some a) :
    ∃ hk : k < s.entries.length, s.entries[k] = some a := by
  have hk := lt_of_get? h
  refine ⟨hk, ?_⟩
  unfold Slab.get? at h
  simpa [List.getElem?_eq_getElem hk] using h

theorem get?_set_live {s : Slab α} {k : Nat} {c : α} (h : s.get? k = some c) (j : Nat) (a : α) :
    (s.set k a).get? j = if j = k then some a else s.get? j := by
  rw [get?_set]; simp [lt_of_get? h]

theorem len_set_live {s : Slab α} {k : Nat} {c : α} (h : s.get? k = some c) (a : α) :
    (s.set k a).len = s.len := by
  obtain ⟨hk, he⟩ := getElem_of_get? h
  have := filter_isSome_set s.entries k (some a) hk
  simp only [he, Option.isSome_some, if_true] at this
  unfold Slab.len Slab.set
  simp only
  omega

theorem get?_remove (s : Slab α) (k j : Nat) :
    (s.remove k).get? j = if j = k then none else s.get? j := by
  unfold Slab.remove Slab.get?
  by_cases h : j = k
  · subst h
    by_cases hl : j < s.entries.length
    · simp [hl]
    · simp [hl]
  · have : ¬ k = j := fun e => h e.symm
    simp [h, this]

theorem len_remove_live {s : Slab α} {k : Nat} {c : α} (h : s.get? k = some c) :
    (s.remove k).len + 1 = s.len := by
  obtain ⟨hk, he⟩ := getElem_of_get? h
  have := filter_isSome_set s.entries k none hk
  simp only [he, Option.isSome_some, if_true, Option.isSome_none] at this
  unfold Slab.len Slab.remove
  simp only
  simpa using this

def WF (s : Slab α) : Prop :=
  s.free.Nodup ∧ ∀ k ∈ s.free, k < s.entries.length ∧ s.get? k = none

theorem wf_empty : WF ({} : Slab α) := by
  simp [WF]

theorem wf_set {s : Slab α} {k : Nat} {c : α} (h : s.get? k = some c) (a : α) (hw : s.WF) :
    (s.set k a).WF := by
  refine ⟨hw.1, fun j hj => ?_⟩
  have := hw.2 j hj
  refine ⟨by simpa [Slab.set] using this.1, ?_⟩
  rw [get?_set_live h]
  have : j ≠ k := fun e => by subst e; rw [h] at this; simp at this
  simp [this, (hw.2 j hj).2]

theorem wf_remove {s : Slab α} {k : Nat} {c : α} (h : s.get? k = some c) (hw : s.WF) :
    (s.remove k).WF := by
  have hk := lt_of_get? h
  have hnot : k ∉ s.free := fun hm => by
    have := (hw.2 k hm).2; rw [h] at this; simp at this
  refine ⟨?_, fun j hj => ?_⟩
  · show (k :: s.free).Nodup
    exact List.nodup_cons.mpr ⟨hnot, hw.1⟩
  · have hj' : j = k ∨ j ∈ s.free := by simpa [Slab.remove] using hj
    rw [get?_remove]
    refine ⟨?_, ?_⟩
    · rcases hj' with rfl | hm
      · simpa [Slab.remove] using hk
      · simpa [Slab.remove] using (hw.2 j hm).1
    · by_cases e : j = k
      · simp [e]
      · rcases hj' with rfl | hm
        · exact absurd rfl e
        · simp [e, (hw.2 j hm).2]

theorem insert_spec (s : Slab α) (a : α) (hw : s.WF) :
    s.get? (s.insert a).2 = none ∧
    (∀ j, (s.insert a).1.get? j = if j = (s.insert a).2 then some a else s.get? j) ∧
    (s.insert a).1.len = s.len + 1 ∧ (s.insert a).1.WF := by
  unfold Slab.insert
  cases hf : s.free with
  | nil =>
    simp only
    refine ⟨?_, ?_, ?_, ?_⟩
    · simp [Slab.get?]
    · intro j
      unfold Slab.get?
      by_cases h : j = s.entries.length
      · subst h; simp
      · by_cases hl : j < s.entries.length
        · simp [h, List.getElem?_append_left hl]
        · have : s.entries.length < j := by omega
          simp [h, Nat.le_of_lt this]
          rw [List.getElem?_eq_none (by simp; omega)]
          simp
    · simp [Slab.len, List.filter_append]
    · simp [WF]
  | cons k r =>
    simp only
    have hk := hw.2 k (by simp [hf])
    have hnd : (k :: r).Nodup := hf ▸ hw.1
    have hkr : k ∉ r := (List.nodup_cons.mp hnd).1
    refine ⟨hk.2, ?_, ?_, ?_⟩
    · intro j
      unfold Slab.get?
      by_cases h : j = k
      · subst h; simp [hk.1]
      · have : ¬ k = j := fun e => h e.symm
        simp [h, this]
    · have he : s.entries[k]'hk.1 = none := by
        have := hk.2
        unfold Slab.get? at this
        rw [List.getElem?_eq_getElem hk.1] at this
        simpa using this
      have := filter_isSome_set s.entries k (some a) hk.1
      simp only [he, Option.isSome_none, Option.isSome_some, if_true] at this
      unfold Slab.len
      simpa using this
    · refine ⟨(List.nodup_cons.mp hnd).2, fun j hj => ?_⟩
      have hj' := hw.2 j (by simp [hf, hj])
      have hne : j ≠ k := fun e => hkr (e ▸ hj)
      have : ¬ k = j := fun e => hne e.symm
      refine ⟨by simpa using hj'.1, ?_⟩
      have h2 := hj'.2
      unfold Slab.get? at h2 ⊢
      simpa [List.getElem?_set, this] using h2

theorem len_insert_le (s : Slab α) (a : α) : (s.insert a).1.len ≤ s.len + 1 := by
  unfold Slab.insert
  cases hf : s.free with
  | nil => simp [Slab.len, List.filter_append]
  | cons k r =>
    simp only [Slab.len]
    by_cases hk : k < s.entries.length
    · have := filter_isSome_set s.entries k (some a) hk
      simp only [Option.isSome_some, if_true] at this
      split at this <;> omega
    · rw [List.set_eq_of_length_le (Nat.le_of_not_lt hk)]; omega

theorem get?_insert_set (sl : Slab α) (a b : α) {j : Nat} {d : α}
    (h : ((sl.insert a).1.set (sl.insert a).2 b).get? j = some d) : d = b ∨ sl.get? j = some d := by
  unfold Slab.insert at h
  split at h
  · simp only [Slab.set, Slab.get?] at h ⊢
    by_cases hj : j < sl.entries.length
    · rw [List.getElem?_set_ne (by omega), List.getElem?_append_left hj] at h
      exact .inr h
    · by_cases hj' : j = sl.entries.length
      · subst hj'
        rw [List.getElem?_set_self (by simp)] at h
        simp only [Option.bind_some, id, Option.some.injEq] at h
        exact .inl h.symm
      · rw [List.getElem?_eq_none (by simp; omega)] at h; simp at h
  · simp only [Slab.set, Slab.get?, List.set_set] at h ⊢
    rw [List.getElem?_set] at h
    split at h
    · split at h
      · simp only [Option.bind_some, id, Option.some.injEq] at h; exact .inl h.symm
      · simp at h
    · exact .inr h

theorem get?_set_self (sl : Slab α) (k : Nat) (a : α) :
    (sl.set k a).get? k = if k < sl.entries.length then some a else none := by
  unfold Slab.set Slab.get?
  by_cases h : k < sl.entries.length
  · simp [h]
  · simp [h]

end Slab
end Router
