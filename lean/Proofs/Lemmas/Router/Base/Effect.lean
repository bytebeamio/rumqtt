/-
What the leaf functions of the router model do: a successful call returns the input state with named fields replaced. Where
a leaf has two statements, `f_cases` names the new values exactly and `f_upd` only the fields, as a frame wants them
(`∃ ls, … = { s with links := ls }`). Preservation facts follow by `obtain ⟨…, rfl⟩` and `rfl`.

The link-side updates nest (`wakeLink (pushNotifs …)`): each level mentions `links` several times, so
`rfl` through two or more levels compares terms that grow exponentially. The `_upd` lemmas here go through
one level at a time and hand on a variable for the new `links`; `wakeLink_pushNotifs_cases` and `pushWake_cases` say
what the nest writes, as one `setLink`.
-/
import Proofs.Lemmas.Router.Base.Decomp
namespace Router


theorem pushNotifs_upd (s : RState) (l : Nat) (ns : List Notif) : ∃ ls, pushNotifs s l ns = { s with links := ls } :=
  ⟨_, rfl⟩

theorem getLink_pushNotifs_same (s : RState) (l : Nat) (ns : List Notif) :
    getLink (pushNotifs s l ns) l = { getLink s l with obuf := (getLink s l).obuf ++ ns } := by
  unfold pushNotifs; exact getLink_setLink_same _ _ _

theorem wake_ibuf (b : LinkBuf) : b.wake.ibuf = b.ibuf := by
  unfold LinkBuf.wake; split <;> rfl

theorem wake_obuf (b : LinkBuf) : b.wake.obuf = b.obuf := by
  unfold LinkBuf.wake; split <;> rfl

theorem wakeLink_upd (s : RState) (l : Nat) : ∃ ls, wakeLink s l = { s with links := ls } := ⟨_, rfl⟩

theorem wakeLink_pushNotifs_cases (s : RState) (l : Nat) (ns : List Notif) :
    wakeLink (pushNotifs s l ns) l = setLink s l ({ getLink s l with obuf := (getLink s l).obuf ++ ns } : LinkBuf).wake := by
  unfold wakeLink pushNotifs
  rw [getLink_setLink_same, setLink_setLink]

theorem wakeLink_pushNotifs_upd (s : RState) (l : Nat) (ns : List Notif) :
    ∃ ls, wakeLink (pushNotifs s l ns) l = { s with links := ls } := ⟨_, wakeLink_pushNotifs_cases s l ns⟩

/-- the tail of `forward_device_data` and of `retrieve_shadow`: push, `Unschedule` if the buffer is then full, wake -/
def pushWake (s : RState) (l : Nat) (ns : List Notif) : RState :=
  wakeLink (if (getLink (pushNotifs s l ns) l).obuf.length ≥ MAX_CHANNEL_CAPACITY - 1
    then pushNotifs (pushNotifs s l ns) l [.unschedule] else pushNotifs s l ns) l

abbrev fullAfter (s : RState) (l : Nat) (ns : List Notif) : Prop :=
  ((getLink s l).obuf ++ ns).length ≥ MAX_CHANNEL_CAPACITY - 1

theorem pushWake_cases (s : RState) (l : Nat) (ns : List Notif) :
    pushWake s l ns = setLink s l ({ getLink s l with
      obuf := (getLink s l).obuf ++ ns ++ if fullAfter s l ns then [.unschedule] else [] } : LinkBuf).wake := by
  have e : (getLink (pushNotifs s l ns) l).obuf = (getLink s l).obuf ++ ns := by rw [getLink_pushNotifs_same]
  unfold pushWake
  rw [e]
  by_cases hf : fullAfter s l ns
  · rw [if_pos hf, if_pos hf, wakeLink_pushNotifs_cases, getLink_pushNotifs_same]
    unfold pushNotifs
    rw [setLink_setLink]
  · rw [if_neg hf, if_neg hf, wakeLink_pushNotifs_cases, List.append_nil]

theorem pushWake_upd (s : RState) (l : Nat) (ns : List Notif) : ∃ ls, pushWake s l ns = { s with links := ls } :=
  ⟨_, pushWake_cases s l ns⟩

theorem handleShadow_cases (s : RState) (id : Nat) (f : String) :
    handleShadow s id f = .ok s ∨
    ∃ c, ∃ p : Pub, getConn s id = some c ∧ handleShadow s id f = .ok (pushWake s c.link [.shadow p.topic p.payload]) := by
  unfold handleShadow
  split
  · exact .inl rfl
  · rename_i c hc
    split
    · exact .inl rfl
    · split
      · exact .inl rfl
      · rename_i p _; exact .inr ⟨c, p, hc, rfl⟩

theorem handleShadow_upd (s : RState) (id : Nat) (f : String) :
    ∃ ls, handleShadow s id f = .ok { s with links := ls } := by
  rcases handleShadow_cases s id f with e | ⟨c, p, _, e⟩ <;> rw [e]
  · exact ⟨s.links, rfl⟩
  · exact (pushWake_upd s _ _).imp fun _ e => congrArg Except.ok e


theorem commitAck_upd {s s' : RState} {id : Nat} {a : Ack} (h : commitAck s id a = .ok s') :
    ∃ c, getConn s id = some c ∧
      s' = (setConn s id { c with acks := { c.acks with committed := c.acks.committed ++ [a] } }).g (.committed id a) := by
  unfold commitAck at h
  split at h
  · cases h
  · rename_i c hc; exact ⟨c, hc, (Except.ok.inj h).symm⟩

def DataStep (s s' : RState) : Prop :=
  ∃ d n o g, s' = { s with datalog := d, notifications := n, oracle := o, ghost := g }

theorem DataStep.refl (s : RState) : DataStep s s := ⟨_, _, _, _, rfl⟩

theorem DataStep.trans {a b c : RState} (h1 : DataStep a b) (h2 : DataStep b c) : DataStep a c := by
  obtain ⟨_, _, _, _, rfl⟩ := h1
  obtain ⟨_, _, _, _, rfl⟩ := h2
  exact ⟨_, _, _, _, rfl⟩

theorem DataStep.g {s s' : RState} (h : DataStep s s') (e : Ghost) : DataStep s (s'.g e) := by
  obtain ⟨_, _, _, _, rfl⟩ := h; exact ⟨_, _, _, _, rfl⟩

theorem DataStep.ite {s a b : RState} (p : Prop) [Decidable p] (ha : DataStep s a) (hb : DataStep s b) :
    DataStep s (if p then a else b) := by
  split <;> assumption

theorem dlMatches_cases {s s' : RState} {topic : String} {v : List Nat} (h : dlMatches s topic = .ok (s', v)) :
    (alookup topic s.datalog.publishFilters = some v ∧ s' = s) ∨
    (alookup topic s.datalog.publishFilters = none ∧
      sameMembers v ((s.datalog.filterIndexes.filter (fun p => topicMatches topic p.1)).map (·.2)) = true ∧ ∃ rest,
      s' = { s with
        datalog := { s.datalog with publishFilters :=
          (if v.isEmpty then s.datalog.publishFilters else s.datalog.publishFilters ++ [(topic, v)]) }
        oracle := rest }) := by
  unfold dlMatches at h
  split at h
  · rename_i w hw
    cases h; exact .inl ⟨hw, rfl⟩
  · rename_i hnone
    split at h
    · simp only [] at h
      split at h
      · rename_i hs
        cases h
        exact .inr ⟨hnone, hs, _, by split <;> rfl⟩
      · cases h
    · cases h

theorem dlMatches_upd {s s' : RState} {topic : String} {v : List Nat} (h : dlMatches s topic = .ok (s', v)) :
    ∃ pf o, s' = { s with datalog := { s.datalog with publishFilters := pf }, oracle := o } := by
  rcases dlMatches_cases h with ⟨_, rfl⟩ | ⟨_, _, o, rfl⟩
  · exact ⟨_, _, rfl⟩
  · exact ⟨_, o, rfl⟩

theorem dlMatches_data {s s' : RState} {topic : String} {v : List Nat}
    (h : dlMatches s topic = .ok (s', v)) : DataStep s s' := by
  obtain ⟨_, _, rfl⟩ := dlMatches_upd h; exact ⟨_, _, _, _, rfl⟩

theorem appendToFilter_upd {s s' : RState} {i : Nat} {p : Pub} (h : appendToFilter s i p = .ok s') :
    ∃ fd evs, s.datalog.native[i]? = some fd ∧
      (evs = [.appended i ((fd.log.append p (pubSize p)).2.2 - 1) p] ∨
       evs = [.evicted i (((fd.log.append p (pubSize p)).1.segs.head?.map (·.abs)).getD 0),
              .appended i ((fd.log.append p (pubSize p)).2.2 - 1) p]) ∧
      s' = { s with
        datalog := { s.datalog with native := s.datalog.native.set i { fd with log := (fd.log.append p (pubSize p)).1, waiters := [] } },
        notifications := s.notifications ++ fd.waiters, ghost := s.ghost ++ evs } := by
  unfold appendToFilter at h
  split at h
  · simp at h
  · rename_i fd hfd
    simp only [Except.ok.injEq] at h
    subst h
    split
    · exact ⟨fd, _, hfd, .inr rfl, by simp [RState.g]⟩
    · exact ⟨fd, _, hfd, .inl rfl, rfl⟩

theorem appendToFilter_data {s s' : RState} {idx : Nat} {p : Pub}
    (h : appendToFilter s idx p = .ok s') : DataStep s s' := by
  obtain ⟨_, _, _, _, rfl⟩ := appendToFilter_upd h
  exact ⟨_, _, _, _, rfl⟩

theorem appendToFilters_data : ∀ (idxs : List Nat) {s s' : RState} {p : Pub},
    appendToFilters s idxs p = .ok s' → DataStep s s'
  | [], s, s', p, h => by rw [appendToFilters] at h; cases h; exact DataStep.refl _
  | i :: is, s, s', p, h => by
    rw [appendToFilters] at h
    split at h
    · cases h
    · rename_i s1 h1
      exact (appendToFilter_data h1).trans (appendToFilters_data is h)

theorem updateRetained_cases (s : RState) (topic : String) (p : Pub) :
    (p.retain = true ∧ p.payload = [] ∧
      updateRetained s topic p = { s with datalog := { s.datalog with retained := aremove topic s.datalog.retained } }) ∨
    (p.retain = true ∧ p.payload ≠ [] ∧
      updateRetained s topic p = { s with datalog := { s.datalog with retained := ainsert topic p s.datalog.retained } }) ∨
    (p.retain = false ∧ updateRetained s topic p = s) := by
  unfold updateRetained
  cases hr : p.retain
  · exact .inr (.inr ⟨rfl, by simp⟩)
  · cases hp : p.payload with
    | nil => exact .inl ⟨rfl, rfl, by simp⟩
    | cons b l => exact .inr (.inl ⟨rfl, List.cons_ne_nil b l, by simp⟩)

theorem updateRetained_upd (s : RState) (topic : String) (p : Pub) :
    ∃ r, updateRetained s topic p = { s with datalog := { s.datalog with retained := r } } := by
  rcases updateRetained_cases s topic p with ⟨_, _, e⟩ | ⟨_, _, e⟩ | ⟨_, e⟩ <;> rw [e]
  · exact ⟨_, rfl⟩
  · exact ⟨_, rfl⟩
  · exact ⟨s.datalog.retained, rfl⟩

theorem updateRetained_data (s : RState) (topic : String) (p : Pub) : DataStep s (updateRetained s topic p) := by
  obtain ⟨r, e⟩ := updateRetained_upd s topic p
  rw [e]; exact ⟨_, _, _, _, rfl⟩

/-- what `next_native_offset` does to the data log for a filter that has no log yet -/
def DataLog.addFilter (d : DataLog) (filter : String) (l : CLog.Log Pub) : DataLog :=
  { d with native := d.native ++ [{ filter, log := l }], filterIndexes := d.filterIndexes ++ [(filter, d.native.length)],
           publishFilters := d.publishFilters.map fun p => if topicMatches p.1 filter then (p.1, p.2 ++ [d.native.length]) else p }

/-- `next_native_offset`, exactly: the index and the tail of the filter's log; a filter without a log gets an empty one
    at the next index first -/
theorem nextNativeOffset_cases (s : RState) (filter : String) :
    (∃ idx, s.datalog.filterIdx? filter = some idx ∧ nextNativeOffset s filter =
      (s, idx, match s.datalog.native[idx]? with | some fd => fd.log.nextOffset | none => (0, 0))) ∨
    s.datalog.filterIdx? filter = none ∧ nextNativeOffset s filter =
      ({ s with datalog := s.datalog.addFilter filter (CLog.Log.new s.config.maxSegmentSize s.config.maxSegmentCount) },
        s.datalog.native.length, (CLog.Log.new s.config.maxSegmentSize s.config.maxSegmentCount : CLog.Log Pub).nextOffset) := by
  unfold nextNativeOffset
  split
  · rename_i idx h; exact .inl ⟨idx, h, rfl⟩
  · rename_i h; exact .inr ⟨h, rfl⟩

theorem nextNativeOffset_upd (s : RState) (filter : String) :
    (nextNativeOffset s filter).1 = s ∨
    ∃ fd pf, fd.waiters = [] ∧ (nextNativeOffset s filter).1 = { s with datalog := { s.datalog with
      native := s.datalog.native ++ [fd], filterIndexes := s.datalog.filterIndexes ++ [(filter, s.datalog.native.length)],
      publishFilters := pf } } := by
  rcases nextNativeOffset_cases s filter with ⟨_, _, e⟩ | ⟨_, e⟩ <;> rw [e]
  · exact .inl rfl
  · exact .inr ⟨_, _, rfl, rfl⟩

theorem nextNativeOffset_data (s : RState) (filter : String) : DataStep s (nextNativeOffset s filter).1 := by
  rcases nextNativeOffset_upd s filter with e | ⟨_, _, _, e⟩ <;> rw [e]
  · exact DataStep.refl _
  · exact ⟨_, _, _, _, rfl⟩

theorem park_upd {s s' : RState} {id : Nat} {r : DataRequest} (h : park s id r = .ok s') :
    ∃ fd, s.datalog.native[r.filterIdx]? = some fd ∧
      s' = { s with datalog := { s.datalog with
        native := s.datalog.native.set r.filterIdx { fd with waiters := fd.waiters ++ [(id, r)] } } } := by
  unfold park at h
  split at h
  · cases h
  · rename_i fd hfd
    cases h; exact ⟨fd, hfd, rfl⟩

theorem park_data {s s' : RState} {id : Nat} {r : DataRequest} (h : park s id r = .ok s') : DataStep s s' := by
  obtain ⟨_, _, rfl⟩ := park_upd h; exact ⟨_, _, _, _, rfl⟩


theorem perm_of_sameMembers {α} [DecidableEq α] {a b : List α} (h : sameMembers a b = true) : a.Perm b := by
  unfold sameMembers at h
  simp only [Bool.and_eq_true, beq_iff_eq, List.all_eq_true] at h
  rw [List.perm_iff_count]
  intro x
  by_cases ha : x ∈ a
  · exact h.1 x ha
  · by_cases hb : x ∈ b
    · exact h.2 x hb
    · rw [List.count_eq_zero_of_not_mem ha, List.count_eq_zero_of_not_mem hb]

theorem dlMatches_fresh {s s' : RState} {topic : String} {v : List Nat}
    (hcache : alookup topic s.datalog.publishFilters = none) (h : dlMatches s topic = .ok (s', v)) :
    v.Perm ((s.datalog.filterIndexes.filter (fun p => topicMatches topic p.1)).map (·.2)) := by
  rcases dlMatches_cases h with ⟨hc, _⟩ | ⟨_, hs, _⟩
  · rw [hcache] at hc; cases hc
  · exact perm_of_sameMembers hs

theorem readRetained_upd {s s' : RState} {filter : String} {ps : List Pub} (h : readRetained s filter = .ok (s', ps)) :
    ∃ order rest, s.oracle = .retained order :: rest ∧ s' = { s with oracle := rest } ∧
      ps = order.filterMap (fun t => alookup t s.datalog.retained) ∧
      order.Perm ((s.datalog.retained.filter (fun p => topicMatches p.1 filter)).map (·.1)) := by
  unfold readRetained at h
  split at h
  · rename_i order rest hor
    simp only [] at h
    split at h
    · rename_i hs
      simp only [Except.ok.injEq, Prod.mk.injEq] at h
      obtain ⟨rfl, rfl⟩ := h
      exact ⟨order, rest, hor, rfl, rfl, perm_of_sameMembers hs⟩
    · simp at h
  · simp at h

theorem updateNextClient_upd {s s' : RState} {g g' : SharedGroup} (h : updateNextClient s g = .ok (s', g')) :
    ∃ o i, s' = { s with oracle := o } ∧ g' = { g with idx := i } ∧
      (g.strategy = .sticky → i = g.idx ∧ o = s.oracle) ∧
      (g.strategy = .roundRobin → g.clients ≠ [] ∧ i = (g.idx + 1) % g.clients.length ∧ o = s.oracle) ∧
      (g.strategy = .random → i < g.clients.length ∧ s.oracle = .random i :: o) := by
  unfold updateNextClient at h
  split at h
  · rename_i hs
    cases h
    exact ⟨s.oracle, g.idx, rfl, rfl, fun _ => ⟨rfl, rfl⟩, fun e => (nomatch hs.symm.trans e), fun e => (nomatch hs.symm.trans e)⟩
  · rename_i hs
    split at h
    · cases h
    · rename_i hne
      cases h
      exact ⟨s.oracle, _, rfl, rfl, fun e => (nomatch hs.symm.trans e),
        fun _ => ⟨fun e => hne (by simp [e]), rfl, rfl⟩, fun e => (nomatch hs.symm.trans e)⟩
  · rename_i hs
    split at h
    · cases h
    · split at h
      · rename_i n rest hor
        split at h
        · rename_i hn
          cases h
          exact ⟨rest, n, rfl, rfl, fun e => (nomatch hs.symm.trans e), fun e => (nomatch hs.symm.trans e),
            fun _ => ⟨hn, hor⟩⟩
        · cases h
      · cases h

theorem fdGroupUpd_upd {s s' : RState} {req : DataRequest} {grp : Option SharedGroup}
    (h : fdGroupUpd s req grp = .ok s') : ∃ sh o, s' = { s with shared := sh, oracle := o } := by
  unfold fdGroupUpd at h
  split at h
  · split at h
    · cases h; exact ⟨s.shared, s.oracle, rfl⟩
    · split at h
      · cases h
      · rename_i h1
        obtain ⟨o, _, rfl, _⟩ := updateNextClient_upd h1
        cases h; exact ⟨_, o, rfl⟩
  · cases h; exact ⟨s.shared, s.oracle, rfl⟩

/-- the connection after a sweep forwarded `pubs` for `req`: window and broker aliases updated -/
def fdConn (c : Conn) (req : DataRequest) (pubs : List (Pub × Option Cursor)) : Conn :=
  { c with out := (fdOut c req pubs).1, brokerAliases := (fdAliases c req.filter).1 }

theorem fdPush_upd {s s' : RState} {id : Nat} {c : Conn} {req req' : DataRequest} {grp : Option SharedGroup}
    {pubs : List (Pub × Option Cursor)} {cu : Bool} {st : ConsumeStatus}
    (h : fdPush s id c req grp pubs cu = .ok (s', req', st)) :
    ∃ ls sh o, s' = { setConn s id (fdConn c req pubs) with links := ls, shared := sh, oracle := o } := by
  unfold fdPush at h
  obtain ⟨a, ha⟩ := pushNotifs_upd (setConn s id (fdConn c req pubs)) c.link (fdOut c req pubs).2
  simp only [] at h
  split at h
  · cases h
  · rename_i s1 h1
    change fdGroupUpd (pushNotifs (setConn s id (fdConn c req pubs)) c.link (fdOut c req pubs).2) req grp = _ at h1
    rw [ha] at h1
    obtain ⟨sh, o, rfl⟩ := fdGroupUpd_upd h1
    split at h
    · cases h
      exact (wakeLink_pushNotifs_upd _ _ _).imp fun ls e => ⟨sh, o, e⟩
    · cases h
      exact (wakeLink_upd _ _).imp fun ls e => ⟨sh, o, e⟩

theorem ackDeviceData_cases (s : RState) (id : Nat) :
    (ackDeviceData s id = s ∧ (getConn s id = none ∨ ∃ c, getConn s id = some c ∧ c.acks.committed = [])) ∨
    ∃ c, getConn s id = some c ∧ c.acks.committed ≠ [] ∧
      ackDeviceData s id = setConn (wakeLink (pushNotifs s c.link (c.acks.committed.map Notif.ack)) c.link) id
        { c with acks := { c.acks with committed := [] } } := by
  unfold ackDeviceData
  split
  · rename_i hc; exact .inl ⟨rfl, .inl hc⟩
  · rename_i c hc
    split
    · rename_i he; exact .inl ⟨rfl, .inr ⟨c, hc, List.isEmpty_iff.mp he⟩⟩
    · rename_i he; exact .inr ⟨c, hc, fun e => he (by simp [e]), rfl⟩

theorem ackDeviceData_upd (s : RState) (id : Nat) :
    ackDeviceData s id = s ∨ ∃ c ls, getConn s id = some c ∧
      ackDeviceData s id = { setConn s id { c with acks := { c.acks with committed := [] } } with links := ls } := by
  rcases ackDeviceData_cases s id with ⟨e, _⟩ | ⟨c, hc, _, e⟩
  · exact .inl e
  · obtain ⟨ls, e'⟩ := wakeLink_pushNotifs_upd s c.link (c.acks.committed.map Notif.ack)
    exact .inr ⟨c, ls, hc, by rw [e, e']; rfl⟩

theorem perm_getElem_cons_eraseIdx {α} (l : List α) (i : Nat) (h : i < l.length) : l.Perm (l[i] :: l.eraseIdx i) := by
  have e1 : l = l.take i ++ l[i] :: l.drop (i + 1) := by
    conv => lhs; rw [← List.take_append_drop i l]
    rw [List.drop_eq_getElem_cons h]
  have e2 : l.eraseIdx i = l.take i ++ l.drop (i + 1) := List.eraseIdx_eq_take_drop_succ l i
  rw [e2]
  conv => lhs; rw [e1]
  exact List.perm_middle

theorem swapRemoveBack_perm_eraseIdx {α} (l : List α) (i : Nat) (h : i < l.length) :
    (swapRemoveBack l i).Perm (l.eraseIdx i) := by
  unfold swapRemoveBack
  have hne : l ≠ [] := by intro e; rw [e] at h; simp at h
  have hlast : l.getLast? = some (l.getLast hne) := List.getLast?_eq_some_getLast hne
  rw [hlast]
  simp only []
  have hl : l = l.dropLast ++ [l.getLast hne] := (List.dropLast_concat_getLast hne).symm
  by_cases hi : i + 1 = l.length
  · simp only [hi, if_true]
    have : i = l.length - 1 := by omega
    rw [this, List.eraseIdx_length_sub_one]
  · simp only [hi, if_false]
    have hil : i < l.dropLast.length := by simp; omega
    generalize hd : l.dropLast = init at hl hil
    generalize l.getLast hne = last at hl
    rw [hl]
    rw [List.set_append_left _ _ hil, List.dropLast_concat, List.eraseIdx_append_of_lt_length hil]
    rw [List.set_eq_take_append_cons_drop, if_pos hil, List.eraseIdx_eq_take_drop_succ]
    exact List.perm_middle.trans (List.perm_append_comm (l₁ := [last])).symm.symm

theorem swapRemoveBack_perm {α : Type} (l : List α) (i : Nat) (hi : i < l.length) :
    l.Perm (l[i] :: swapRemoveBack l i) :=
  (perm_getElem_cons_eraseIdx l i hi).trans ((swapRemoveBack_perm_eraseIdx l i hi).symm.cons _)

theorem mem_of_mem_swapRemoveBack {α} {l : List α} {i : Nat} {x : α} (hi : i < l.length) (h : x ∈ swapRemoveBack l i) :
    x ∈ l :=
  List.mem_of_mem_eraseIdx ((swapRemoveBack_perm_eraseIdx l i hi).mem_iff.mp h)

/-- `Waiters::remove(id)`, with enough fuel, as `DataLog::clean` gives it; up to order: `swap_remove_back` reorders -/
theorem waitersRemove_perm_filter (id : Nat) : ∀ (fuel : Nat) (ws : List (Nat × DataRequest)) (acc : List DataRequest),
    (ws.filter (fun w => w.1 == id)).length ≤ fuel →
    (waitersRemove fuel ws id acc).1.Perm (ws.filter (fun w => !(w.1 == id))) ∧
    (waitersRemove fuel ws id acc).2.Perm (acc ++ (ws.filter (fun w => w.1 == id)).map (·.2))
  | 0, ws, acc, h => by
    have hnil : ws.filter (fun w => w.1 == id) = [] := List.eq_nil_of_length_eq_zero (by omega)
    have hall : ∀ w ∈ ws, ¬ (w.1 == id) = true := by
      intro w hw hm
      have : w ∈ ws.filter (fun w => w.1 == id) := List.mem_filter.mpr ⟨hw, hm⟩
      rw [hnil] at this; cases this
    simp only [waitersRemove, hnil, List.map_nil, List.append_nil]
    refine ⟨?_, List.Perm.refl _⟩
    rw [List.filter_eq_self.mpr]
    intro w hw; simpa using hall w hw
  | fuel + 1, ws, acc, h => by
    simp only [waitersRemove]
    cases hf : ws.findIdx? (fun w => w.1 == id) with
    | none =>
      have hall : ∀ w ∈ ws, ¬ (w.1 == id) = true := by
        intro w hw hm
        have := List.findIdx?_eq_none_iff.mp hf w hw
        simp [hm] at this
      simp only []
      have hnil : ws.filter (fun w => w.1 == id) = [] := by
        rw [List.filter_eq_nil_iff]; exact hall
      rw [hnil, List.map_nil, List.append_nil]
      refine ⟨?_, List.Perm.refl _⟩
      rw [List.filter_eq_self.mpr]
      intro w hw; simpa using hall w hw
    | some i =>
      simp only []
      obtain ⟨hlt, hm, _⟩ := List.findIdx?_eq_some_iff_getElem.mp hf
      have hget : ws[i]? = some ws[i] := List.getElem?_eq_getElem hlt
      rw [hget]
      simp only []
      have hp1 := swapRemoveBack_perm_eraseIdx ws i hlt
      have hp2 := perm_getElem_cons_eraseIdx ws i hlt
      have hcnt : (ws.filter (fun w => w.1 == id)).length =
          ((swapRemoveBack ws i).filter (fun w => w.1 == id)).length + 1 := by
        have := (hp2.filter (fun w => w.1 == id)).length_eq
        rw [List.filter_cons_of_pos (p := fun w : Nat × DataRequest => w.1 == id) (a := ws[i]) hm] at this
        rw [this, (hp1.filter _).length_eq]; rfl
      obtain ⟨ih1, ih2⟩ := waitersRemove_perm_filter id fuel (swapRemoveBack ws i) (acc ++ [ws[i].2]) (by omega)
      constructor
      · refine ih1.trans ((hp1.filter _).trans ?_)
        have := hp2.filter (fun w => !(w.1 == id))
        rw [List.filter_cons_of_neg (p := fun w : Nat × DataRequest => !(w.1 == id)) (a := ws[i]) (by simp [hm])] at this
        exact this.symm
      · refine ih2.trans ?_
        have h3 := ((hp1.filter (fun w => w.1 == id)).map (·.2))
        have h4 := (hp2.filter (fun w => w.1 == id)).map (·.2)
        rw [List.filter_cons_of_pos (p := fun w : Nat × DataRequest => w.1 == id) (a := ws[i]) hm, List.map_cons] at h4
        rw [List.append_assoc]
        refine List.Perm.append_left acc ?_
        simp only [List.singleton_append]
        exact (List.Perm.cons _ h3).trans h4.symm

def NoWaiterFor (d : DataLog) (id : Nat) (f : String) : Prop :=
  alookup (logPath f) d.filterIndexes = none ∨
  (∃ idx, alookup (logPath f) d.filterIndexes = some idx ∧ d.native[idx]? = none) ∨
  (∃ idx fd, alookup (logPath f) d.filterIndexes = some idx ∧ d.native[idx]? = some fd ∧
    ∀ w ∈ fd.waiters, ¬ (w.1 = id ∧ w.2.filter = f))

theorem removeWaiterFor_cases (d : DataLog) (id : Nat) (f : String) :
    (removeWaiterFor d id f = d ∧ NoWaiterFor d id f) ∨
    (∃ idx fd i, ∃ hi : i < fd.waiters.length, d.native[idx]? = some fd ∧
      (fd.waiters[i]).1 = id ∧ (fd.waiters[i]).2.filter = f ∧
      removeWaiterFor d id f = { d with native := d.native.set idx { fd with waiters := swapRemoveBack fd.waiters i } }) := by
  unfold removeWaiterFor
  simp only []
  split
  · rename_i hl; exact .inl ⟨rfl, .inl hl⟩
  · rename_i idx hl
    split
    · rename_i hn; exact .inl ⟨rfl, .inr (.inl ⟨idx, hl, hn⟩)⟩
    · rename_i fd hn
      split
      · rename_i hf
        refine .inl ⟨rfl, .inr (.inr ⟨idx, fd, hl, hn, fun w hw hp => ?_⟩)⟩
        have := List.findIdx?_eq_none_iff.mp hf w hw
        simp [hp.1, hp.2] at this
      · rename_i i hf
        obtain ⟨hlt, hp, _⟩ := List.findIdx?_eq_some_iff_getElem.mp hf
        simp only [Bool.and_eq_true, beq_iff_eq] at hp
        exact .inr ⟨idx, fd, i, hlt, hn, hp.1, hp.2, rfl⟩

theorem removeWaiterFor_upd (d : DataLog) (id : Nat) (f : String) :
    removeWaiterFor d id f = d ∨ ∃ idx fd w, d.native[idx]? = some fd ∧
      removeWaiterFor d id f = { d with native := d.native.set idx { fd with waiters := w } } := by
  rcases removeWaiterFor_cases d id f with ⟨e, _⟩ | ⟨idx, fd, i, _, hfd, _, _, e⟩
  · exact .inl e
  · exact .inr ⟨idx, fd, _, hfd, e⟩

theorem nextNativeOffset_filterIdx (s : RState) (filter : String) :
    (nextNativeOffset s filter).1.datalog.filterIdx? filter = some (nextNativeOffset s filter).2.1 := by
  rcases nextNativeOffset_cases s filter with ⟨idx, h, e⟩ | ⟨h, e⟩ <;> rw [e]
  · exact h
  · show alookup filter (s.datalog.filterIndexes ++ [(filter, s.datalog.native.length)]) = _
    rw [alookup_append, show alookup filter s.datalog.filterIndexes = none from h]; simp [alookup]

end Router
