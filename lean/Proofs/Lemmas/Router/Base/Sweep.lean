/-
One sweep (`forward_device_data`). `Sweep s id c req s' req' st` lists the four outcomes (window full, not this member's
turn, nothing to push, push), each with the new state as an explicit term; `forwardDeviceData_sweep` is the inversion.
`pushWake` is the link side of a push, `Turned` the group side.
-/
import Proofs.Lemmas.Router.Base.Basic
import Proofs.Lemmas.Router.Base.Effect
namespace Router

theorem pushWake_obuf (s : RState) (l : Nat) (ns : List Notif) :
    (getLink (pushWake s l ns) l).obuf =
      (getLink s l).obuf ++ ns ++ (if fullAfter s l ns then [Notif.unschedule] else []) ∧
    ∀ l', l' ≠ l → getLink (pushWake s l ns) l' = getLink s l' := by
  rw [pushWake_cases]
  exact ⟨by rw [getLink_setLink_same, wake_obuf], fun l' hl => getLink_setLink_ne _ _ _ _ hl⟩

/-- the cursor a sweep for `req` reads from: its group's, if the group exists -/
def fdCur (s : RState) (req : DataRequest) : Cursor := (fdReq0 req (fdGrp s req)).cursor

/-- the request a sweep that reads hands back -/
def fdNext (req : DataRequest) (grp : Option SharedGroup) (cur : Cursor) : DataRequest :=
  { fdReq0 req grp with forwardRetained := false, cursor := cur }

/-- the publishes of a sweep: the retained replay, then the entries read from the log -/
def fdPubs (rp : List (Pub × Option Cursor)) (r : List (Pub × Cursor) × CLog.Pos) : List (Pub × Option Cursor) :=
  rp ++ r.1.map (fun e => (e.1, some e.2))

theorem fdReq0_fields (req : DataRequest) (grp : Option SharedGroup) :
    (fdReq0 req grp).filterIdx = req.filterIdx ∧ (fdReq0 req grp).qos = req.qos ∧
    (fdReq0 req grp).filter = req.filter ∧ (fdReq0 req grp).group = req.group ∧
    (fdReq0 req grp).forwardRetained = req.forwardRetained := by
  cases grp <;> exact ⟨rfl, rfl, rfl, rfl, rfl⟩

theorem fdRetained_cases {s s' : RState} {req : DataRequest} {slots n : Nat} {rp : List (Pub × Option Cursor)}
    (h : fdRetained s req slots = .ok (s', rp, n)) :
    (req.forwardRetained = false ∧ rp = [] ∧ s' = s ∧ n = slots) ∨
    (req.forwardRetained = true ∧ ∃ ps, readRetained s req.filter = .ok (s', ps) ∧
      rp = (ps.take slots).map (fun p => (p, none)) ∧ n = slots - (ps.take slots).length) := by
  unfold fdRetained at h
  split at h
  · rename_i hfr
    split at h
    · cases h
    · rename_i s2 ps hr
      cases h
      exact .inr ⟨hfr, ps, hr, rfl, rfl⟩
  · rename_i hfr
    cases h
    exact .inl ⟨by simpa using hfr, rfl, rfl, rfl⟩

theorem fdRetained_spec {s s' : RState} {req : DataRequest} {slots n : Nat} {rp : List (Pub × Option Cursor)}
    (h : fdRetained s req slots = .ok (s', rp, n)) :
    (∃ o, s' = { s with oracle := o }) ∧ rp.length + n = slots ∧ (∀ pc ∈ rp, pc.2 = none) ∧
    (req.forwardRetained = false → rp = [] ∧ s' = s) := by
  rcases fdRetained_cases h with ⟨_, rfl, rfl, rfl⟩ | ⟨hfr, ps, hr, rfl, rfl⟩
  · exact ⟨⟨s'.oracle, rfl⟩, by simp, by simp, fun _ => ⟨rfl, rfl⟩⟩
  · obtain ⟨_, o, _, rfl, _⟩ := readRetained_upd hr
    refine ⟨⟨o, rfl⟩, ?_, fun pc hpc => ?_, fun hf => ?_⟩
    · simp only [List.length_map, List.length_take]; omega
    · obtain ⟨p, _, rfl⟩ := List.mem_map.mp hpc; rfl
    · rw [hf] at hfr; cases hfr

/-- the read phase of a sweep that is not stopped by a full window -/
structure SweepRead (s : RState) (c : Conn) (req : DataRequest) (o : List Choice) (rp : List (Pub × Option Cursor))
    (n : Nat) (fd : FilterData) : Prop where
  notFull : ¬ (req.qos ≠ 0 ∧ c.out.freeSlots = 0)
  retained : fdRetained s (fdReq0 req (fdGrp s req)) (fdSlots s c req.qos (fdGrp s req)) = .ok ({ s with oracle := o }, rp, n)
  log : s.datalog.native[req.filterIdx]? = some fd

/-- the group table and oracle after a sweep for `req` pushed and continues at `cur` -/
def Turned (s : RState) (o : List Choice) (req : DataRequest) (cur : Cursor)
    (sh : List (String × SharedGroup)) (o' : List Choice) : Prop :=
  match req.group, fdGrp s req with
  | some gname, some g => ∃ x g2, x.oracle = o ∧ updateNextClient x g = .ok ({ x with oracle := o' }, g2) ∧
      sh = ainsert gname { g2 with cursor := cur } s.shared
  | _, _ => sh = s.shared ∧ o' = o

inductive Sweep (s : RState) (id : Nat) (c : Conn) (req : DataRequest) : RState → DataRequest → ConsumeStatus → Prop
  | full : req.qos ≠ 0 → c.out.freeSlots = 0 → Sweep s id c req s (fdReq0 req (fdGrp s req)) .inflightFull
  | skip {o rp n fd} : SweepRead s c req o rp n fd → fdSkip c (fdGrp s req) = true →
      Sweep s id c req { s with oracle := o } { fdReq0 req (fdGrp s req) with forwardRetained := false }
        (if (fdPos (fd.log.readv (fdCur s req) n).2).2 then .filterCaughtup else .skipRequest)
  | empty {o n fd} : SweepRead s c req o [] n fd → fdSkip c (fdGrp s req) = false →
      (fd.log.readv (fdCur s req) n).1 = [] →
      Sweep s id c req { s with oracle := o } (fdNext req (fdGrp s req) (fdPos (fd.log.readv (fdCur s req) n).2).1)
        .filterCaughtup
  | push {o rp n fd sh o' req1 pubs} : SweepRead s c req o rp n fd → fdSkip c (fdGrp s req) = false →
      req1 = fdNext req (fdGrp s req) (fdPos (fd.log.readv (fdCur s req) n).2).1 →
      pubs = fdPubs rp (fd.log.readv (fdCur s req) n) → pubs ≠ [] → Turned s o req req1.cursor sh o' →
      Sweep s id c req
        { pushWake (setConn s id (fdConn c req1 pubs)) c.link (fdOut c req1 pubs).2 with shared := sh, oracle := o' } req1
        (if fullAfter s c.link (fdOut c req1 pubs).2 then .bufferFull
          else if (fdPos (fd.log.readv (fdCur s req) n).2).2 then .filterCaughtup else .partialRead)

theorem fdGrp_some {s : RState} {req : DataRequest} {g : SharedGroup} (h : fdGrp s req = some g) :
    ∃ gname, req.group = some gname ∧ alookup gname s.shared = some g := by
  unfold fdGrp at h
  cases hg : req.group with
  | none => rw [hg] at h; cases h
  | some gname => rw [hg] at h; exact ⟨gname, rfl, h⟩

theorem fdGrp_of {s : RState} {req : DataRequest} {g : SharedGroup} {gname : String}
    (hgn : req.group = some gname) (hg : alookup gname s.shared = some g) : fdGrp s req = some g := by
  unfold fdGrp; rw [hgn]; exact hg

theorem updateNextClient_spec {s s' : RState} {g g' : SharedGroup} (h : updateNextClient s g = .ok (s', g')) :
    s' = { s with oracle := s'.oracle } ∧ g'.clients = g.clients ∧ g'.cursor = g.cursor ∧ g'.strategy = g.strategy ∧
    (g.strategy = .sticky → g'.idx = g.idx) ∧
    (g.strategy = .roundRobin → g'.idx = (g.idx + 1) % g.clients.length) ∧
    (g.strategy = .random → g'.idx < g.clients.length) := by
  obtain ⟨o, i, rfl, rfl, h1, h2, h3⟩ := updateNextClient_upd h
  exact ⟨rfl, rfl, rfl, rfl, fun e => (h1 e).1, fun e => (h2 e).2.1, fun e => (h3 e).1⟩

theorem updateNextClient_wf {s s' : RState} {g g' : SharedGroup} (h : updateNextClient s g = .ok (s', g'))
    (hw : g.idx < g.clients.length) : g'.idx < g'.clients.length := by
  obtain ⟨_, e1, _, _, e4, e5, e6⟩ := updateNextClient_spec h
  rw [e1]
  cases hs : g.strategy with
  | sticky => rw [e4 hs]; exact hw
  | roundRobin => rw [e5 hs]; exact Nat.mod_lt _ (by omega)
  | random => exact e6 hs

theorem fdGroupUpd_turned {s s1 s2 : RState} {req req1 : DataRequest} {o : List Choice}
    (h : fdGroupUpd s1 req1 (fdGrp s req) = .ok s2)
    (hsh : s1.shared = s.shared) (ho : s1.oracle = o) (hg : req1.group = req.group) :
    ∃ sh o', s2 = { s1 with shared := sh, oracle := o' } ∧ Turned s o req req1.cursor sh o' := by
  unfold fdGroupUpd at h
  unfold Turned
  rw [hg] at h
  cases hgn : req.group with
  | none =>
    rw [hgn] at h; cases h
    exact ⟨_, _, rfl, hsh, ho⟩
  | some gname =>
    cases hgr : fdGrp s req with
    | none =>
      rw [hgn, hgr] at h; cases h
      exact ⟨_, _, rfl, hsh, ho⟩
    | some g =>
      rw [hgn, hgr] at h
      obtain ⟨gn', e1, e2⟩ := fdGrp_some hgr
      rw [hgn] at e1; cases e1
      simp only [] at h
      rw [hsh, e2] at h
      simp only [] at h
      split at h
      · cases h
      · rename_i s4 g2 hu
        cases h
        obtain ⟨o', i, rfl, rfl, _⟩ := updateNextClient_upd hu
        exact ⟨_, o', rfl, s1, { g with idx := i }, ho, hu, by rw [← hsh]⟩

theorem fdPush_tail (s0 : RState) (id : Nat) (c : Conn) (req : DataRequest) (grp : Option SharedGroup)
    (pubs : List (Pub × Option Cursor)) (cu : Bool) :
    fdPush s0 id c req grp pubs cu =
      match fdGroupUpd (pushNotifs (setConn s0 id (fdConn c req pubs)) c.link (fdOut c req pubs).2) req grp with
      | .error e => .error e
      | .ok s2 =>
        if (getLink (pushNotifs (setConn s0 id (fdConn c req pubs)) c.link (fdOut c req pubs).2) c.link).obuf.length ≥
            MAX_CHANNEL_CAPACITY - 1 then
          .ok (wakeLink (pushNotifs s2 c.link [Notif.unschedule]) c.link, req, .bufferFull)
        else .ok (wakeLink s2 c.link, req, if cu then .filterCaughtup else .partialRead) := rfl

theorem fdPush_spec {s s' : RState} {o : List Choice} {id : Nat} {c : Conn} {req req1 req' : DataRequest}
    {pubs : List (Pub × Option Cursor)} {cu : Bool} {st : ConsumeStatus} (hg : req1.group = req.group)
    (h : fdPush { s with oracle := o } id c req1 (fdGrp s req) pubs cu = .ok (s', req', st)) :
    req' = req1 ∧ ∃ sh o', Turned s o req req1.cursor sh o' ∧
      s' = { pushWake (setConn s id (fdConn c req1 pubs)) c.link (fdOut c req1 pubs).2 with shared := sh, oracle := o' } ∧
      st = (if fullAfter s c.link (fdOut c req1 pubs).2 then .bufferFull else if cu then .filterCaughtup else .partialRead) := by
  rw [fdPush_tail] at h
  -- the state with the notifications pushed is named `y`: what follows is `rfl` on a variable, no link term is looked through
  have hy : pushNotifs (setConn { s with oracle := o } id (fdConn c req1 pubs)) c.link (fdOut c req1 pubs).2 =
      { pushNotifs (setConn s id (fdConn c req1 pubs)) c.link (fdOut c req1 pubs).2 with oracle := o } := rfl
  have hob : (getLink (pushNotifs (setConn s id (fdConn c req1 pubs)) c.link (fdOut c req1 pubs).2) c.link).obuf =
      (getLink s c.link).obuf ++ (fdOut c req1 pubs).2 := by rw [getLink_pushNotifs_same]; rfl
  have hsh : (pushNotifs (setConn s id (fdConn c req1 pubs)) c.link (fdOut c req1 pubs).2).shared = s.shared := rfl
  unfold pushWake
  rw [hy] at h
  generalize pushNotifs (setConn s id (fdConn c req1 pubs)) c.link (fdOut c req1 pubs).2 = y at h hob hsh ⊢
  split at h
  · cases h
  · rename_i s2 h2
    obtain ⟨sh, o', rfl, ht⟩ := fdGroupUpd_turned (s := s) (o := o) h2 hsh rfl hg
    have hlen : (getLink ({ y with oracle := o } : RState) c.link).obuf.length = ((getLink s c.link).obuf ++ (fdOut c req1 pubs).2).length :=
      congrArg List.length hob
    rw [hlen] at h
    rw [congrArg List.length hob]
    by_cases hf : fullAfter s c.link (fdOut c req1 pubs).2
    · rw [if_pos hf] at h; cases h
      exact ⟨rfl, sh, o', ht, by rw [if_pos hf]; rfl, by rw [if_pos hf]⟩
    · rw [if_neg hf] at h; cases h
      exact ⟨rfl, sh, o', ht, by rw [if_neg hf]; rfl, by rw [if_neg hf]⟩

theorem forwardDeviceData_phases {s s' : RState} {id : Nat} {c : Conn} {req req' : DataRequest} {st : ConsumeStatus}
    (hc : getConn s id = some c) (h : forwardDeviceData s id req = .ok (s', req', st)) :
    (req.qos ≠ 0 ∧ c.out.freeSlots = 0 ∧ s' = s ∧ req' = fdReq0 req (fdGrp s req) ∧ st = .inflightFull) ∨
    ∃ o rp n fd, SweepRead s c req o rp n fd ∧
      ((fdSkip c (fdGrp s req) = true ∧ s' = { s with oracle := o } ∧
          req' = { fdReq0 req (fdGrp s req) with forwardRetained := false } ∧
          st = (if (fdPos (fd.log.readv (fdCur s req) n).2).2 then .filterCaughtup else .skipRequest)) ∨
       (fdSkip c (fdGrp s req) = false ∧ rp = [] ∧ (fd.log.readv (fdCur s req) n).1 = [] ∧ s' = { s with oracle := o } ∧
          req' = fdNext req (fdGrp s req) (fdPos (fd.log.readv (fdCur s req) n).2).1 ∧ st = .filterCaughtup) ∨
       (fdSkip c (fdGrp s req) = false ∧ fdPubs rp (fd.log.readv (fdCur s req) n) ≠ [] ∧
          fdPush { s with oracle := o } id c (fdNext req (fdGrp s req) (fdPos (fd.log.readv (fdCur s req) n).2).1) (fdGrp s req)
            (fdPubs rp (fd.log.readv (fdCur s req) n)) (fdPos (fd.log.readv (fdCur s req) n).2).2 = .ok (s', req', st))) := by
  rw [forwardDeviceData_eq, hc] at h
  simp only [] at h
  obtain ⟨hx, hq, _, _, _⟩ := fdReq0_fields req (fdGrp s req)
  split at h
  · rename_i hfull
    cases h
    rw [hq] at hfull
    simp only [Bool.and_eq_true, decide_eq_true_eq, ne_eq] at hfull
    exact .inl ⟨by simpa using hfull.1, by simpa using hfull.2, rfl, rfl, rfl⟩
  · rename_i hnf
    rw [hq] at hnf
    have hnf' : ¬ (req.qos ≠ 0 ∧ c.out.freeSlots = 0) := fun hh => hnf (by simp [hh.1, hh.2])
    split at h
    · cases h
    · rename_i s0 rp n h0
      obtain ⟨⟨o, rfl⟩, _⟩ := fdRetained_spec h0
      rw [hq] at h0
      split at h
      · cases h
      · rename_i fd hfd
        refine .inr ⟨o, rp, n, fd, ⟨hnf', h0, by rw [← hx]; exact hfd⟩, ?_⟩
        split at h
        · rename_i hsk
          cases h
          exact .inl ⟨hsk, rfl, rfl, rfl⟩
        · rename_i hsk
          have hsk' : fdSkip c (fdGrp s req) = false := by simpa using hsk
          split at h
          · rename_i hemp
            cases h
            obtain ⟨rfl, y⟩ := List.append_eq_nil_iff.mp (List.isEmpty_iff.mp hemp)
            exact .inr (.inl ⟨hsk', rfl, by unfold fdCur; simpa using y, rfl, rfl, rfl⟩)
          · rename_i hne
            exact .inr (.inr ⟨hsk', fun e => hne (List.isEmpty_iff.mpr e), h⟩)

theorem forwardDeviceData_sweep_of {s s' : RState} {id : Nat} {c : Conn} {req req' : DataRequest} {st : ConsumeStatus}
    (hc : getConn s id = some c) (h : forwardDeviceData s id req = .ok (s', req', st)) : Sweep s id c req s' req' st := by
  rcases forwardDeviceData_phases hc h with ⟨h1, h2, rfl, rfl, rfl⟩ | ⟨o, rp, n, fd, hr, hcase⟩
  · exact .full h1 h2
  · rcases hcase with ⟨hsk, rfl, rfl, rfl⟩ | ⟨hsk, rfl, hemp, rfl, rfl, rfl⟩ | ⟨hsk, hne, hp⟩
    · exact .skip hr hsk
    · exact .empty hr hsk hemp
    · obtain ⟨rfl, sh, o', ht, rfl, rfl⟩ := fdPush_spec (s := s) (o := o) (req := req)
        (req1 := fdNext req (fdGrp s req) (fdPos (fd.log.readv (fdCur s req) n).2).1) (fdReq0_fields req (fdGrp s req)).2.2.2.1 hp
      exact .push hr hsk rfl rfl hne ht

theorem forwardDeviceData_sweep {s s' : RState} {id : Nat} {req req' : DataRequest} {st : ConsumeStatus}
    (h : forwardDeviceData s id req = .ok (s', req', st)) : ∃ c, getConn s id = some c ∧ Sweep s id c req s' req' st :=
  (forwardDeviceData_conn h).imp fun _ hc => ⟨hc, forwardDeviceData_sweep_of hc h⟩

theorem forwardDeviceData_fields {s s' : RState} {id : Nat} {req req' : DataRequest} {st : ConsumeStatus}
    (h : forwardDeviceData s id req = .ok (s', req', st)) :
    req'.filter = req.filter ∧ req'.group = req.group ∧ req'.filterIdx = req.filterIdx ∧ req'.qos = req.qos := by
  obtain ⟨a1, a2, a3, a4, _⟩ := fdReq0_fields req (fdGrp s req)
  obtain ⟨_, _, hs⟩ := forwardDeviceData_sweep h
  cases hs with
  | push _ _ hrq => rw [hrq]; exact ⟨a3, a4, a1, a2⟩
  | _ => exact ⟨a3, a4, a1, a2⟩

theorem forwardDeviceData_pushed {s s' : RState} {id : Nat} {c : Conn} {req req' : DataRequest} {st : ConsumeStatus}
    (hc : getConn s id = some c) (h : forwardDeviceData s id req = .ok (s', req', st)) :
    (∃ o, s' = { s with oracle := o }) ∨
    ∃ o rp n fd, SweepRead s c req o rp n fd ∧ fdPubs rp (fd.log.readv (fdCur s req) n) ≠ [] ∧
      fdPush { s with oracle := o } id c (fdNext req (fdGrp s req) (fdPos (fd.log.readv (fdCur s req) n).2).1) (fdGrp s req)
        (fdPubs rp (fd.log.readv (fdCur s req) n)) (fdPos (fd.log.readv (fdCur s req) n).2).2 = .ok (s', req', st) := by
  rcases forwardDeviceData_phases hc h with ⟨_, _, rfl, _⟩ | ⟨o, rp, n, fd, hr, hcase⟩
  · exact .inl ⟨_, rfl⟩
  · rcases hcase with ⟨_, rfl, _⟩ | ⟨_, _, _, rfl, _⟩ | ⟨_, hne, hp⟩
    · exact .inl ⟨_, rfl⟩
    · exact .inl ⟨_, rfl⟩
    · exact .inr ⟨o, rp, n, fd, hr, hne, hp⟩

/-- the state after a push as a flat record. Take this form before asking for any field: the nested `pushWake` term
    mentions `links` at every level and is slow to see through. -/
theorem pushed_upd (s : RState) (id : Nat) (c : Conn) (req1 : DataRequest) (pubs : List (Pub × Option Cursor))
    (sh : List (String × SharedGroup)) (o' : List Choice) :
    ∃ ls, ({ pushWake (setConn s id (fdConn c req1 pubs)) c.link (fdOut c req1 pubs).2 with shared := sh, oracle := o' } : RState) =
        { s with conns := s.conns.set id (fdConn c req1 pubs), links := ls, shared := sh, oracle := o' } ∧
      (ls[c.link]?.getD {}).obuf = (getLink s c.link).obuf ++ (fdOut c req1 pubs).2 ++
        (if fullAfter s c.link (fdOut c req1 pubs).2 then [Notif.unschedule] else []) ∧
      ∀ l', l' ≠ c.link → ls[l']?.getD {} = getLink s l' := by
  obtain ⟨ls, e⟩ := pushWake_upd (setConn s id (fdConn c req1 pubs)) c.link (fdOut c req1 pubs).2
  obtain ⟨h1, h2⟩ := pushWake_obuf (setConn s id (fdConn c req1 pubs)) c.link (fdOut c req1 pubs).2
  rw [e] at h1 h2 ⊢
  exact ⟨ls, rfl, h1, h2⟩

theorem fdGrp_congr {s s' : RState} {req req' : DataRequest} (hg : req'.group = req.group) (hs : s'.shared = s.shared) :
    fdGrp s' req' = fdGrp s req := by unfold fdGrp; rw [hg, hs]

theorem fdGrp_plain {req : DataRequest} (s : RState) (h : req.group = none) : fdGrp s req = none := by
  unfold fdGrp; rw [h]; rfl

theorem fdCur_some {s : RState} {req : DataRequest} {g : SharedGroup} (h : fdGrp s req = some g) : fdCur s req = g.cursor := by
  unfold fdCur; rw [h]; rfl

theorem fdCur_none {s : RState} {req : DataRequest} (h : fdGrp s req = none) : fdCur s req = req.cursor := by
  unfold fdCur; rw [h]; rfl

theorem fdSlots_le (s : RState) (c : Conn) (qos : Nat) (grp : Option SharedGroup) (hq : qos ≠ 0)
    (hf : c.out.freeSlots ≠ 0) : fdSlots s c qos grp ≤ c.out.freeSlots := by
  unfold fdSlots
  split
  · split
    · omega
    · simp
  · simp [hq]

theorem fdSlots_le_max (s : RState) (c : Conn) (qos : Nat) (grp : Option SharedGroup) :
    fdSlots s c qos grp ≤ MAX_INFLIGHT + s.config.maxOutgoingPacketCount := by
  unfold fdSlots Outgoing.freeSlots
  split
  · split
    · simp only [MAX_INFLIGHT]; omega
    · split <;> omega
  · split <;> omega

/-- at least one entry is asked for when nothing was replayed, so an empty read then means the end of the log -/
theorem SweepRead.slots {s : RState} {c : Conn} {req : DataRequest} {o : List Choice} {rp : List (Pub × Option Cursor)}
    {n : Nat} {fd : FilterData} (hr : SweepRead s c req o rp n fd) :
    n ≤ MAX_INFLIGHT + s.config.maxOutgoingPacketCount ∧ (rp = [] → 0 < s.config.maxOutgoingPacketCount → 0 < n) := by
  have h1 := (fdRetained_spec hr.retained).2.1
  have h2 := fdSlots_le_max s c req.qos (fdGrp s req)
  refine ⟨by omega, fun he hpos => ?_⟩
  subst he
  simp only [List.length_nil, Nat.zero_add] at h1
  rw [h1]
  unfold fdSlots
  have : req.qos ≠ 0 → 0 < c.out.freeSlots := fun hq => Nat.pos_of_ne_zero fun e => hr.notFull ⟨hq, e⟩
  split
  · split
    · exact Nat.one_pos
    · split
      · exact this ‹_›
      · exact hpos
  · split
    · exact this ‹_›
    · exact hpos

theorem Turned.cases {s : RState} {o o' : List Choice} {req : DataRequest} {cur : Cursor} {sh : List (String × SharedGroup)}
    (ht : Turned s o req cur sh o') :
    (∃ gname g x g2, req.group = some gname ∧ fdGrp s req = some g ∧ x.oracle = o ∧
      updateNextClient x g = .ok ({ x with oracle := o' }, g2) ∧ sh = ainsert gname { g2 with cursor := cur } s.shared) ∨
    (fdGrp s req = none ∧ sh = s.shared ∧ o' = o) := by
  unfold Turned at ht
  split at ht
  · rename_i gname g hgn hgr
    obtain ⟨x, g2, a, b, c⟩ := ht
    exact .inl ⟨gname, g, x, g2, hgn, hgr, a, b, c⟩
  · rename_i hno
    refine .inr ⟨?_, ht.1, ht.2⟩
    cases hgr : fdGrp s req with
    | none => rfl
    | some g =>
      obtain ⟨gname, hgn, _⟩ := fdGrp_some hgr
      exact absurd hgr (hno gname g hgn)

theorem mem_turned {s : RState} {o o' : List Choice} {req : DataRequest} {cur : Cursor} {sh : List (String × SharedGroup)}
    {p : String × SharedGroup} (ht : Turned s o req cur sh o') (hp : p ∈ sh) :
    p ∈ s.shared ∨ ∃ gname g x g2, req.group = some gname ∧ alookup gname s.shared = some g ∧
      updateNextClient x g = .ok ({ x with oracle := o' }, g2) ∧ p = (gname, { g2 with cursor := cur }) := by
  rcases ht.cases with ⟨gname, g, x, g2, hgn, hgr, _, hu, rfl⟩ | ⟨_, rfl, _⟩
  · rcases mem_ainsert_iff.mp hp with ⟨h0, _⟩ | rfl
    · exact .inl h0
    · obtain ⟨_, e1, e2⟩ := fdGrp_some hgr
      cases hgn.symm.trans e1
      exact .inr ⟨gname, g, x, g2, hgn, e2, hu, rfl⟩
  · exact .inl hp

theorem Turned.group {s : RState} {o o' : List Choice} {req : DataRequest} {cur : Cursor} {sh : List (String × SharedGroup)}
    {gname : String} {g : SharedGroup} (ht : Turned s o req cur sh o')
    (hgn : req.group = some gname) (hg : alookup gname s.shared = some g) :
    (∃ g', alookup gname sh = some g' ∧ g'.cursor = cur ∧ g'.clients = g.clients ∧ g'.strategy = g.strategy ∧
      (g.strategy = .sticky → g'.idx = g.idx) ∧
      (g.strategy = .roundRobin → g'.idx = (g.idx + 1) % g.clients.length) ∧
      (g.strategy = .random → g'.idx < g.clients.length)) ∧
    (∀ other, other ≠ gname → alookup other sh = alookup other s.shared) := by
  unfold Turned at ht
  rw [hgn, fdGrp_of hgn hg] at ht
  obtain ⟨x, g2, _, hu, rfl⟩ := ht
  obtain ⟨_, u1, _, u3, u4, u5, u6⟩ := updateNextClient_spec hu
  exact ⟨⟨_, alookup_ainsert_same _ _ _, rfl, u1, u3, u4, u5, u6⟩, fun other hne => alookup_ainsert_ne _ _ _ _ hne⟩

theorem Turned.cur {s : RState} {o o' : List Choice} {req req' : DataRequest} {cur : Cursor} {sh : List (String × SharedGroup)}
    (ht : Turned s o req cur sh o') (hg : req'.group = req.group) (hc : req'.cursor = cur) :
    (fdReq0 req' (req'.group.bind (fun g => alookup g sh))).cursor = cur ∧
    ((fdGrp s req).isSome → (req'.group.bind (fun g => alookup g sh)).isSome) := by
  unfold Turned at ht
  rw [hg]
  cases hgn : req.group with
  | none =>
    have h1 := fdGrp_plain s hgn
    exact ⟨hc, by rw [h1]; exact fun h => nomatch h⟩
  | some gname =>
    cases hgr : fdGrp s req with
    | none =>
      rw [hgn, hgr] at ht
      have h0 : alookup gname sh = none := by rw [ht.1]; unfold fdGrp at hgr; rw [hgn] at hgr; exact hgr
      exact ⟨by show (fdReq0 req' (alookup gname sh)).cursor = _; rw [h0]; exact hc, fun h => nomatch h⟩
    | some g =>
      rw [hgn, hgr] at ht
      obtain ⟨x, g2, _, _, rfl⟩ := ht
      have h0 : alookup gname (ainsert gname { g2 with cursor := cur } s.shared) = some { g2 with cursor := cur } :=
        alookup_ainsert_same _ _ _
      exact ⟨by show (fdReq0 req' (alookup gname _)).cursor = _; rw [h0]; rfl,
        fun _ => by show (alookup gname _).isSome; rw [h0]; rfl⟩

theorem forwardDeviceData_upd {s s' : RState} {id : Nat} {req req' : DataRequest} {st : ConsumeStatus}
    (h : forwardDeviceData s id req = .ok (s', req', st)) :
    ∃ c, getConn s id = some c ∧ ((∃ o, s' = { s with oracle := o }) ∨
      ∃ r pubs ls sh o, s' = { setConn s id (fdConn c r pubs) with links := ls, shared := sh, oracle := o }) := by
  obtain ⟨c, hc, hs⟩ := forwardDeviceData_sweep h
  refine ⟨c, hc, ?_⟩
  cases hs with
  | full _ _ => exact .inl ⟨s.oracle, rfl⟩
  | skip _ _ => exact .inl ⟨_, rfl⟩
  | empty _ _ _ => exact .inl ⟨_, rfl⟩
  | @push o rp n fd sh o' _ pubs _ _ _ _ _ _ =>
    obtain ⟨ls, e⟩ := pushWake_upd (setConn s id (fdConn c req' pubs)) c.link (fdOut c req' pubs).2
    exact .inr ⟨req', pubs, ls, sh, o', by rw [e]⟩

end Router
