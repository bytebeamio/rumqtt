/-
`ConnAll P s`: `P j c` for every live connection `c` at `j`; it survives the three things that happen to the slab: a live
entry replaced, an entry removed, an entry inserted.
`ConnsKeep Q s s'`: every live connection stays and is related to its successor by `Q`; `ConnPre Q` is what `Q` has to be
closed under for this to hold along a step (SUBSCRIBE, UNSUBSCRIBE, connect, disconnect aside); at `Q c c' := P c → P c'` it
carries `ConnAll fun _ => P` as well (`ConnAll.frame`, Base/Walk).
-/
import Proofs.Lemmas.Router.Base.Cases
namespace Router

abbrev ConnAll (P : Nat → Conn → Prop) (s : RState) : Prop := ∀ j c, getConn s j = some c → P j c

namespace ConnAll
variable {P : Nat → Conn → Prop} {s s' : RState}

theorem of_conns (h : ConnAll P s) (hc : s'.conns = s.conns) : ConnAll P s' :=
  fun j c hj => h j c ((getConn_congr hc j).symm.trans hj)

theorem set {id : Nat} {c c' : Conn} (h : ConnAll P s) (hc : getConn s id = some c)
    (hconns : s'.conns = s.conns.set id c') (hnew : P id c') : ConnAll P s' :=
  Walk.conns_of_set hc hconns hnew fun j d _ hd => h j d hd

theorem remove {id : Nat} (h : ConnAll P s) (hconns : s'.conns = s.conns.remove id) : ConnAll P s' := fun j c hj => by
  unfold getConn at hj; rw [hconns, Slab.get?_remove] at hj
  split at hj
  · cases hj
  · exact h j c hj

theorem insert {c : Conn} (h : ConnAll P s) (hw : s.conns.WF) (hconns : s'.conns = (s.conns.insert c).1)
    (hnew : P (s.conns.insert c).2 c) : ConnAll P s' := fun j d hj => by
  unfold getConn at hj; rw [hconns, (Slab.insert_spec s.conns c hw).2.1] at hj
  split at hj
  · rename_i e; cases hj; exact e ▸ hnew
  · exact h j d hj

theorem hdFinal (h : ConnAll P s) (id : Nat) (c : Conn) (r : Option String) : ConnAll P (hdFinal s id c r) :=
  h.remove (hdFinal_fields s id c r).conns

end ConnAll

def ConnsKeep (Q : Conn → Conn → Prop) (s s' : RState) : Prop :=
  ∀ id c, getConn s id = some c → ∃ c', getConn s' id = some c' ∧ Q c c'

structure ConnPre (Q : Conn → Conn → Prop) : Prop where
  refl : ∀ c, Q c c
  trans : ∀ {a b c}, Q a b → Q b c → Q a c
  same : ∀ {c c' : Conn}, c'.clientId = c.clientId → c'.subscriptions = c.subscriptions →
    c'.brokerAliases = c.brokerAliases → c'.subscriptionIds = c.subscriptionIds → Q c c'
  push : ∀ (c : Conn) (o : Outgoing) (f : String), Q c { c with out := o, brokerAliases := (fdAliases c f).1 }

namespace ConnsKeep
variable {Q : Conn → Conn → Prop}

theorem of_conns (P : ConnPre Q) {s s' : RState} (hc : s'.conns = s.conns) : ConnsKeep Q s s' :=
  fun id c h => ⟨c, (getConn_congr hc id).trans h, P.refl c⟩

theorem of_set (P : ConnPre Q) {s s' : RState} {id : Nat} {c c' : Conn} (hc : getConn s id = some c)
    (hconns : s'.conns = s.conns.set id c') (hq : Q c c') : ConnsKeep Q s s' := by
  have hget := getConn_of_set hc hconns
  intro j d hd
  rw [hget]
  by_cases hj : j = id
  · subst hj; rw [hc] at hd; cases hd; exact ⟨c', by simp, hq⟩
  · simp only [hj, if_false]; exact ⟨d, hd, P.refl d⟩

end ConnsKeep

theorem ConnAll.init {P : Nat → Conn → Prop} (cfg : Config) : ConnAll P (init cfg) :=
  fun j c h => by rw [getConn_init] at h; cases h

end Router
