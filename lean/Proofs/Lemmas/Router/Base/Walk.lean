/-
One walk over the call tree of `step` for many relations. A frame is the closure facts of one kind of relation `R s s'`
(reflexive, transitive) under the primitive updates of the model: an invariant proves `fr : Frame itsRelation` once and reads
off `fr.f : f s … = .ok s' → itsRelation s s'` for every function `f` the frame covers (a lemma for one update rather than one
function is named after the update: `.set`, `.push`, `.wake`, `.sched`, `.append`). The frames are several structures because
a relation cannot supply a closure fact about a field it reads: `DataFrame ⊂ SchedFrame ⊂ StepFrame` and `TurnFrame` are for
relations that read connections, waiter lists, groups and queues, `CoreFrame ⊂ LogFrame` for those that read the logs'
contents and the admission state. No lemma here unfolds a function of the model.
-/
import Proofs.Lemmas.Router.Base.Conns
import Proofs.Lemmas.Router.Base.Packet
import Proofs.Lemmas.Router.Base.Sweep
import Proofs.Lemmas.Router.Base.Connect
namespace Router

def GroupsKept (sh sh' : List (String × SharedGroup)) : Prop :=
  ∀ p' ∈ sh', ∃ p ∈ sh, p.1 = p'.1 ∧ p'.2.clients = p.2.clients

theorem GroupsKept.refl (sh : List (String × SharedGroup)) : GroupsKept sh sh := fun p hp => ⟨p, hp, rfl, rfl⟩

theorem GroupsKept.of_eq {sh sh' : List (String × SharedGroup)} (h : sh' = sh) : GroupsKept sh sh' :=
  h ▸ GroupsKept.refl sh

theorem GroupsKept.trans {a b c : List (String × SharedGroup)} (h1 : GroupsKept a b) (h2 : GroupsKept b c) :
    GroupsKept a c := fun p hp => by
  obtain ⟨q, hq, e1, e2⟩ := h2 p hp
  obtain ⟨r, hr, e3, e4⟩ := h1 q hq
  exact ⟨r, hr, e3.trans e1, e2.trans e4⟩


structure DataFrame (R : RState → RState → Prop) : Prop where
  refl : ∀ s, R s s
  trans : ∀ {a b c}, R a b → R b c → R a c
  of_conns : ∀ {s s' : RState}, s'.conns = s.conns → s'.datalog.native = s.datalog.native →
    s'.datalog.filterIndexes = s.datalog.filterIndexes → s'.shared = s.shared → s'.turnMoved = s.turnMoved →
    s'.readyqueue = s.readyqueue → R s s'
  of_set : ∀ {s s' : RState} {id : Nat} {c : Conn} {a : AckLog} {t : List (Nat × String)}, getConn s id = some c →
    s'.conns = s.conns.set id { c with acks := a, topicAliases := t } → (c.acks.committed = [] → a.committed = []) →
    s'.datalog.native = s.datalog.native → s'.datalog.filterIndexes = s.datalog.filterIndexes →
    s'.shared = s.shared → s'.turnMoved = s.turnMoved → s'.readyqueue = s.readyqueue → R s s'
  of_native_set : ∀ {s s' : RState} {i : Nat} {fd fd' : FilterData}, s.datalog.native[i]? = some fd →
    s'.conns = s.conns → s'.datalog.native = s.datalog.native.set i fd' → fd'.waiters = [] →
    s'.datalog.filterIndexes = s.datalog.filterIndexes → s'.shared = s.shared → s'.turnMoved = s.turnMoved →
    s'.readyqueue = s.readyqueue → R s s'
  of_new_log : ∀ {s s' : RState} {f : String} {fd : FilterData}, alookup f s.datalog.filterIndexes = none →
    fd.waiters = [] → s'.conns = s.conns → s'.datalog.native = s.datalog.native ++ [fd] →
    s'.datalog.filterIndexes = s.datalog.filterIndexes ++ [(f, s.datalog.native.length)] →
    s'.shared = s.shared → s'.turnMoved = s.turnMoved → s'.readyqueue = s.readyqueue → R s s'
  of_turn : ∀ (s : RState) (tm : List Nat), R s { s with turnMoved := s.turnMoved ++ tm }

structure SchedFrame (R : RState → RState → Prop) : Prop extends DataFrame R where
  /-- the ready queue is free -/
  of_tracker : ∀ {s s' : RState} {id : Nat} {c : Conn} {t : Tracker}, getConn s id = some c →
    s'.conns = s.conns.set id { c with tracker := t } → t.status = c.tracker.status ∨ t.status = .ready →
    s'.datalog.native = s.datalog.native → s'.datalog.filterIndexes = s.datalog.filterIndexes →
    s'.shared = s.shared → s'.turnMoved = s.turnMoved → R s s'

structure StepFrame (R : RState → RState → Prop) : Prop extends SchedFrame R where
  /-- the ready queue is free -/
  of_setc : ∀ {s s' : RState} {id : Nat} {c c' : Conn}, getConn s id = some c → s'.conns = s.conns.set id c' →
    c'.clientId = c.clientId → c'.subscriptions = c.subscriptions → c'.brokerAliases = c.brokerAliases →
    c'.subscriptionIds = c.subscriptionIds → s'.datalog.native = s.datalog.native →
    s'.datalog.filterIndexes = s.datalog.filterIndexes → s'.shared = s.shared → s'.turnMoved = s.turnMoved → R s s'
  of_queue : ∀ (s : RState) (q : List Nat), R s { s with readyqueue := q }

structure TurnFrame (R : RState → RState → Prop) : Prop extends DataFrame R where
  of_groups : ∀ {s s' : RState}, s'.conns = s.conns → s'.readyqueue = s.readyqueue →
    GroupsKept s.shared s'.shared → R s s'
  of_push : ∀ {s s' : RState} {id : Nat} {c : Conn} (req : DataRequest) (pubs : List (Pub × Option Cursor)),
    getConn s id = some c →
    s'.conns = s.conns.set id { c with out := (fdOut c req pubs).1, brokerAliases := (fdAliases c req.filter).1 } →
    s'.readyqueue = s.readyqueue → s'.shared = s.shared → R s s'

theorem StepFrame.with_shared {R Q : RState → RState → Prop} (F : StepFrame R)
    (mk : ∀ {s s'}, R s s' → s'.shared = s.shared → Q s s') (p1 : ∀ {s s'}, Q s s' → R s s')
    (p2 : ∀ {s s'}, Q s s' → s'.shared = s.shared) : StepFrame Q where
  refl := fun s => mk (F.refl s) rfl
  trans := fun h1 h2 => mk (F.trans (p1 h1) (p1 h2)) ((p2 h2).trans (p2 h1))
  of_conns := fun a b c d e f => mk (F.of_conns a b c d e f) d
  of_set := fun a b c d e f g h => mk (F.of_set a b c d e f g h) f
  of_native_set := fun a b c d e f g h => mk (F.of_native_set a b c d e f g h) f
  of_new_log := fun a b c d e f g h => mk (F.of_new_log a b c d e f g h) f
  of_turn := fun s tm => mk (F.of_turn s tm) rfl
  of_tracker := fun a b c d e f g => mk (F.of_tracker a b c d e f g) f
  of_setc := fun a b c d e f g h i j => mk (F.of_setc a b c d e f g h i j) i
  of_queue := fun s q => mk (F.of_queue s q) rfl

theorem GroupsKept.frame : StepFrame fun s s' => GroupsKept s.shared s'.shared where
  refl := fun _ => GroupsKept.refl _
  trans := GroupsKept.trans
  of_conns := fun _ _ _ d _ _ => .of_eq d
  of_set := fun _ _ _ _ _ f _ _ => .of_eq f
  of_native_set := fun _ _ _ _ _ f _ _ => .of_eq f
  of_new_log := fun _ _ _ _ _ f _ _ => .of_eq f
  of_turn := fun _ _ => .refl _
  of_tracker := fun _ _ _ _ _ f _ => .of_eq f
  of_setc := fun _ _ _ _ _ _ _ _ i _ => .of_eq i
  of_queue := fun _ _ => .refl _

theorem GroupsKept.sweep : TurnFrame fun s s' => GroupsKept s.shared s'.shared where
  toDataFrame := GroupsKept.frame.toDataFrame
  of_groups := fun _ _ h => h
  of_push := fun _ _ _ _ _ d => .of_eq d

namespace ConnsKeep
variable {Q : Conn → Conn → Prop}

theorem frame (P : ConnPre Q) : StepFrame (ConnsKeep Q) where
  refl := fun _ _ c h => ⟨c, h, P.refl c⟩
  trans := fun h1 h2 id ca ha => by
    obtain ⟨cb, hb, e1⟩ := h1 id ca ha
    obtain ⟨cc, hc, e2⟩ := h2 id cb hb
    exact ⟨cc, hc, P.trans e1 e2⟩
  of_conns := fun hc _ _ _ _ _ => of_conns P hc
  of_set := fun hc hs _ _ _ _ _ _ => of_set P hc hs (P.same rfl rfl rfl rfl)
  of_native_set := fun _ hc _ _ _ _ _ _ => of_conns P hc
  of_new_log := fun _ _ hc _ _ _ _ _ => of_conns P hc
  of_turn := fun _ _ => of_conns P rfl
  of_tracker := fun hc hs _ _ _ _ _ => of_set P hc hs (P.same rfl rfl rfl rfl)
  of_setc := fun hc hs h1 h2 h3 h4 _ _ _ _ => of_set P hc hs (P.same h1 h2 h3 h4)
  of_queue := fun _ _ => of_conns P rfl

theorem sweep (P : ConnPre Q) : TurnFrame (ConnsKeep Q) where
  toDataFrame := (frame P).toDataFrame
  of_groups := fun hc _ _ => of_conns P hc
  of_push := fun req _ hc hs _ _ => of_set P hc hs (P.push _ _ req.filter)

end ConnsKeep

/-- `ConnAll P` is kept along a step frame when one connection keeps `P` in the sense of `ConnPre` -/
theorem ConnAll.frame {P : Conn → Prop} (pre : ConnPre fun c c' => P c → P c') :
    StepFrame fun s s' => ConnAll (fun _ => P) s → ConnAll (fun _ => P) s' where
  refl := fun _ h => h
  trans := fun h1 h2 h => h2 (h1 h)
  of_conns := fun hc _ _ _ _ _ h => h.of_conns hc
  of_set := @fun _ _ _ c _ _ hc hs _ _ _ _ _ _ h => h.set hc hs (pre.same (c := c) rfl rfl rfl rfl (h _ _ hc))
  of_native_set := fun _ hc _ _ _ _ _ _ h => h.of_conns hc
  of_new_log := fun _ _ hc _ _ _ _ _ h => h.of_conns hc
  of_turn := fun _ _ h => h.of_conns rfl
  of_tracker := @fun _ _ _ c _ hc hs _ _ _ _ _ h => h.set hc hs (pre.same (c := c) rfl rfl rfl rfl (h _ _ hc))
  of_setc := fun hc hs h1 h2 h3 h4 _ _ _ _ h => h.set hc hs (pre.same h1 h2 h3 h4 (h _ _ hc))
  of_queue := fun _ _ h => h.of_conns rfl

theorem ConnAll.sweep {P : Conn → Prop} (pre : ConnPre fun c c' => P c → P c') :
    TurnFrame fun s s' => ConnAll (fun _ => P) s → ConnAll (fun _ => P) s' where
  toDataFrame := (ConnAll.frame pre).toDataFrame
  of_groups := fun hc _ _ h => h.of_conns hc
  of_push := fun req _ hc hs _ _ h => h.set hc hs (pre.push _ _ req.filter (h _ _ hc))

section
variable {R : RState → RState → Prop}

theorem DataFrame.ackDeviceData (F : DataFrame R) (s : RState) (id : Nat) : R s (ackDeviceData s id) := by
  rcases ackDeviceData_upd s id with e | ⟨c, ls, hc, e⟩ <;> rw [e]
  · exact F.refl s
  · exact F.of_set (a := { c.acks with committed := [] }) (t := c.topicAliases) hc rfl (fun _ => rfl) rfl rfl rfl rfl rfl

theorem DataFrame.updateRetained (F : DataFrame R) (s : RState) (topic : String) (p : Pub) : R s (updateRetained s topic p) := by
  obtain ⟨r, e⟩ := updateRetained_upd s topic p
  rw [e]; exact F.of_conns rfl rfl rfl rfl rfl rfl

theorem DataFrame.dlMatches (F : DataFrame R) {s s' : RState} {topic : String} {v : List Nat}
    (h : dlMatches s topic = .ok (s', v)) : R s s' := by
  obtain ⟨pf, o, rfl⟩ := dlMatches_upd h
  exact F.of_conns rfl rfl rfl rfl rfl rfl

theorem DataFrame.readRetained (F : DataFrame R) {s s' : RState} {f : String} {ps : List Pub}
    (h : readRetained s f = .ok (s', ps)) : R s s' := by
  obtain ⟨_, o, _, rfl, _⟩ := readRetained_upd h
  exact F.of_conns rfl rfl rfl rfl rfl rfl

theorem DataFrame.updateNextClient (F : DataFrame R) {s s' : RState} {g g' : SharedGroup}
    (h : updateNextClient s g = .ok (s', g')) : R s s' := by
  obtain ⟨o, i, rfl, _⟩ := updateNextClient_upd h
  exact F.of_conns rfl rfl rfl rfl rfl rfl

theorem DataFrame.noteTurn (F : DataFrame R) (s0 s1 : RState) (req : DataRequest) : R s1 (noteTurn s0 s1 req) := by
  rcases noteTurn_cases s0 s1 req with ⟨e, _⟩ | ⟨e, _⟩ <;> rw [e]
  · exact F.refl _
  · exact F.of_turn s1 _

theorem DataFrame.appendToFilter (F : DataFrame R) {s s' : RState} {idx : Nat} {p : Pub}
    (h : appendToFilter s idx p = .ok s') : R s s' := by
  obtain ⟨fd, evs, hfd, _, rfl⟩ := appendToFilter_upd h
  exact F.of_native_set (fd' := { fd with log := (fd.log.append p (pubSize p)).1, waiters := [] }) hfd rfl rfl rfl rfl rfl
    rfl rfl

theorem DataFrame.appendToFilters (F : DataFrame R) (idxs : List Nat) {s s' : RState} {p : Pub}
    (h : appendToFilters s idxs p = .ok s') : R s s' :=
  appendToFilters_rel R F.refl (fun _ _ _ => F.trans) (fun _ _ _ => F.appendToFilter) idxs h

theorem DataFrame.appendToCommitlog (F : DataFrame R) {s s' : RState} {id : Nat} {p : Pub} {e : Option AppendErr}
    (h : appendToCommitlog s id p = .ok (s', e)) : R s s' :=
  appendToCommitlog_rel R F.refl (fun _ _ _ => F.trans)
    (fun c _ _ hc _ => F.of_set (a := c.acks) hc rfl (fun h => h) rfl rfl rfl rfl rfl)
    (fun _ s topic p _ _ => F.trans (F.updateRetained s topic p) (F.of_conns rfl rfl rfl rfl rfl rfl))
    (fun _ _ _ _ => F.dlMatches) (fun _ _ _ _ _ _ _ => F.appendToFilter) h

theorem DataFrame.fdRetained (F : DataFrame R) {s s' : RState} {req : DataRequest} {slots slots' : Nat}
    {ps : List (Pub × Option Cursor)} (h : fdRetained s req slots = .ok (s', ps, slots')) : R s s' := by
  obtain ⟨⟨o, rfl⟩, _⟩ := fdRetained_spec h
  exact F.of_conns rfl rfl rfl rfl rfl rfl

theorem DataFrame.nextNativeOffset (F : DataFrame R) (s : RState) (filter : String) : R s (nextNativeOffset s filter).1 := by
  rcases nextNativeOffset_cases s filter with ⟨_, _, e⟩ | ⟨hnone, e⟩ <;> rw [e]
  · exact F.refl s
  · exact F.of_new_log (f := filter) hnone rfl rfl rfl rfl rfl rfl rfl

theorem DataFrame.clearWaiters (F : DataFrame R) {s : RState} {i : Nat} {fd : FilterData} (hfd : s.datalog.native[i]? = some fd) :
    R s (clearWaiters s i fd) :=
  F.of_native_set (fd' := { fd with waiters := [] }) hfd rfl rfl rfl rfl rfl rfl rfl

theorem DataFrame.pushNotifs (F : DataFrame R) (s : RState) (l : Nat) (ns : List Notif) : R s (pushNotifs s l ns) :=
  F.of_conns rfl rfl rfl rfl rfl rfl

theorem DataFrame.wakeLink (F : DataFrame R) (s : RState) (l : Nat) : R s (wakeLink s l) :=
  F.of_conns rfl rfl rfl rfl rfl rfl

theorem DataFrame.handleShadow (F : DataFrame R) {s s' : RState} {id : Nat} {f : String}
    (h : handleShadow s id f = .ok s') : R s s' := by
  obtain ⟨ls, e⟩ := handleShadow_upd s id f
  obtain rfl := Except.ok.inj (e.symm.trans h)
  exact F.of_conns rfl rfl rfl rfl rfl rfl

theorem SchedFrame.reschedule (W : SchedFrame R) {s s' : RState} {id : Nat} {r : SchedReason}
    (h : reschedule s id r = .ok s') : R s s' := by
  obtain ⟨c, t, woke, hc, ht, rfl⟩ := reschedule_upd h
  have hst : t.status = c.tracker.status ∨ t.status = .ready := by
    rcases tryReady_cases ht with ⟨_, rfl⟩ | ⟨_, rfl⟩
    · exact .inr rfl
    · exact .inl rfl
  split <;> exact W.of_tracker hc rfl hst rfl rfl rfl rfl

theorem SchedFrame.track (W : SchedFrame R) {s s' : RState} {id : Nat} {r0 : DataRequest} (h : track s id r0 = .ok s') : R s s' := by
  obtain ⟨c, hc, rfl⟩ := track_upd h
  exact W.of_tracker (t := { c.tracker with requests := _ }) hc rfl (.inl rfl) rfl rfl rfl rfl

theorem SchedFrame.trackv (W : SchedFrame R) {s s' : RState} {id : Nat} {rs : List DataRequest} (h : trackv s id rs = .ok s') :
    R s s' := by
  obtain ⟨c, hc, rfl⟩ := trackv_upd h
  exact W.of_tracker (t := { c.tracker with requests := _ }) hc rfl (.inl rfl) rfl rfl rfl rfl

theorem SchedFrame.drainNotifications (W : SchedFrame R) (ns : List (Nat × DataRequest)) {s s' : RState}
    (h : drainNotifications s ns = .ok s') : R s s' :=
  drainNotifications_rel R W.refl (fun _ _ _ => W.trans) (fun _ _ _ _ => W.track) (fun _ _ _ => W.reschedule) ns h

theorem SchedFrame.drain_all (W : SchedFrame R) {s s' : RState}
    (h : Router.drainNotifications { s with notifications := [] } s.notifications = .ok s') : R s s' :=
  W.trans (W.of_conns (s' := { s with notifications := [] }) rfl rfl rfl rfl rfl rfl) (W.drainNotifications _ h)

theorem SchedFrame.wakeParkedSorted (W : SchedFrame R) (logs : List Nat) {s s' : RState}
    (h : wakeParkedSorted s logs = .ok s') : R s s' :=
  wakeParkedSorted_rel R W.refl (fun _ _ _ => W.trans) (fun _ _ _ => W.clearWaiters)
    (fun _ _ ns => W.drainNotifications ns) logs h

theorem SchedFrame.wakeParked (W : SchedFrame R) {s s' : RState} {logs : List Nat} (h : wakeParked s logs = .ok s') : R s s' :=
  W.wakeParkedSorted _ h

theorem SchedFrame.wakeTurnMoved (W : SchedFrame R) (h0 : ∀ s : RState, R s { s with turnMoved := [] }) {s s' : RState}
    (h : wakeTurnMoved s = .ok s') : R s s' :=
  W.trans (h0 s) (W.wakeParked h)

theorem SchedFrame.handleLastWill (W : SchedFrame R) {s s' : RState} {cid : String} (h : handleLastWill s cid = .ok s') : R s s' :=
  handleLastWill_rel R W.refl (fun _ _ _ => W.trans) (fun _ _ => W.of_conns rfl rfl rfl rfl rfl rfl)
    (fun _ s topic _ => W.trans (W.updateRetained s topic _) (W.of_conns rfl rfl rfl rfl rfl rfl))
    (fun _ _ _ _ => W.dlMatches) (fun _ _ _ _ _ => W.appendToFilter) (fun _ _ => W.drain_all) h

theorem StepFrame.commitAck (F : StepFrame R) {s s' : RState} {id : Nat} {a : Ack} (h : commitAck s id a = .ok s') : R s s' := by
  obtain ⟨c, hc, rfl⟩ := commitAck_upd h
  exact F.of_setc (c' := { c with acks := _ }) hc rfl rfl rfl rfl rfl rfl rfl rfl rfl

theorem StepFrame.sched (F : StepFrame R) {s s' : RState} {id : Nat} (h : SchedStep id s s') : R s s' := by
  obtain ⟨c, t, q, hc, rfl⟩ := h
  exact F.of_setc (c' := { c with tracker := t }) hc rfl rfl rfl rfl rfl rfl rfl rfl rfl

theorem StepFrame.pause (F : StepFrame R) {s s' : RState} {id : Nat} {r : PauseReason} (h : pause s id r = .ok s') : R s s' :=
  F.sched (pause_step h)

theorem StepFrame.hpPre (F : StepFrame R) {s s' : RState} {id : Nat} {p : Pub} {fl fl' : Flags} {b : Bool}
    (h : hpPre s id p fl = .ok (s', fl', b)) : R s s' := by
  unfold Router.hpPre at h
  split at h
  · split at h
    · simp at h
    · next h1 => simp only [Except.ok.injEq, Prod.mk.injEq] at h; exact h.1 ▸ F.commitAck h1
  · split at h
    · split at h
      · simp at h
      · next c hc =>
        simp only [Except.ok.injEq, Prod.mk.injEq] at h
        exact h.1 ▸ F.of_setc (c' := { c with acks := _ }) hc rfl rfl rfl rfl rfl rfl rfl rfl rfl
    · simp only [Except.ok.injEq, Prod.mk.injEq] at h; exact h.1 ▸ F.refl _

theorem StepFrame.handlePacket (F : StepFrame R) {s s' : RState} {id : Nat} {cid : String} {pkt : Packet} {fl fl' : Flags}
    (hns : ∀ a b c, pkt ≠ .subscribe a b c) (hnu : ∀ a b, pkt ≠ .unsubscribe a b)
    (h : handlePacket s id cid pkt fl = .ok (s', fl')) : R s s' :=
  handlePacket_rel R F.refl (fun _ _ _ => F.trans) (fun _ _ _ => F.commitAck)
    (fun _ _ _ _ => F.appendToCommitlog) (fun _ _ => F.reschedule)
    (fun _ c o a _ hc _ => F.of_setc (c' := { c with out := o, acks := a }) hc rfl rfl rfl rfl rfl rfl rfl rfl rfl)
    (fun _ => F.of_conns rfl rfl rfl rfl rfl rfl) hns hnu h

theorem Walk.handlePacket_cases (F : StepFrame R) {s s' : RState} {id : Nat} {cid : String} {pkt : Packet} {fl fl' : Flags}
    (h : Router.handlePacket s id cid pkt fl = .ok (s', fl')) : SubsOr s s' id pkt fl (R s s') :=
  (handlePacket_subs_cases h).imp fun ⟨a, b⟩ => F.handlePacket a b h

theorem TurnFrame.park (G : TurnFrame R) {s s' : RState} {id : Nat} {r0 : DataRequest} (h : park s id r0 = .ok s') : R s s' := by
  obtain ⟨fd, _, rfl⟩ := park_upd h
  exact G.of_groups rfl rfl (GroupsKept.refl _)

theorem Turned.groupsKept {s : RState} {o o' : List Choice} {req : DataRequest} {cur : Cursor}
    {sh : List (String × SharedGroup)} (h : Turned s o req cur sh o') : GroupsKept s.shared sh := fun p' hp' => by
  rcases mem_turned h hp' with h0 | ⟨gname, g, x, g2, _, hg, hu, rfl⟩
  · exact ⟨p', h0, rfl, rfl⟩
  · exact ⟨(gname, g), mem_of_alookup_eq_some hg, rfl, (updateNextClient_spec hu).2.1⟩

theorem TurnFrame.forwardDeviceData (G : TurnFrame R) {s s' : RState} {id : Nat} {req req' : DataRequest} {st : ConsumeStatus}
    (h : forwardDeviceData s id req = .ok (s', req', st)) : R s s' := by
  obtain ⟨c, hc, hs⟩ := forwardDeviceData_sweep h
  cases hs with
  | full _ _ => exact G.refl s
  | skip _ _ => exact G.of_conns rfl rfl rfl rfl rfl rfl
  | empty _ _ _ => exact G.of_conns rfl rfl rfl rfl rfl rfl
  | @push o rp n fd sh o' _ pubs _ _ _ _ _ ht =>
    obtain ⟨ls, e⟩ := pushWake_upd (setConn s id (fdConn c req' pubs)) c.link (fdOut c req' pubs).2
    rw [e]
    exact G.trans (G.of_push (s' := setConn s id (fdConn c req' pubs)) req' pubs hc rfl rfl rfl)
      (G.of_groups rfl rfl ht.groupsKept)

theorem StepFrame.consumeLoop (F : StepFrame R) (G : TurnFrame R) {id : Nat} (fuel : Nat) {s s' : RState}
    {requests skipped : List DataRequest} (h : consumeLoop s id fuel requests skipped = .ok s') : R s s' :=
  consumeLoop_rel R F.refl (fun _ _ _ => F.trans)
    (fun _ _ _ _ _ h1 => F.trans (G.forwardDeviceData h1) (F.noteTurn _ _ _))
    (fun _ _ _ => G.park) (fun _ _ => F.sched) fuel h

theorem Walk.takeRequests_getConn {s : RState} {id : Nat} {c : Conn} (rq : List Nat) (hc : getConn s id = some c) (j : Nat) :
    getConn (takeRequests s id c rq) j =
      if j = id then some { c with tracker := { c.tracker with requests := [] } } else getConn s j :=
  getConn_of_set (s := { s with readyqueue := rq }) hc rfl j

theorem StepFrame.consume (F : StepFrame R) (G : TurnFrame R) {s s' : RState} {b : Bool} (hc : Router.consume s = .ok (s', b)) :
    R s s' := by
  rcases Walk.consume_cases hc with ⟨_, _, rfl⟩ | ⟨id, rq, c, s1, _, hcn, _, h1, h2⟩
  · exact F.of_queue s []
  · have la : R s (Walk.takeRequests s id c rq) :=
      F.of_setc (c' := { c with tracker := { c.tracker with requests := [] } }) hcn rfl rfl rfl rfl rfl rfl rfl rfl rfl
    exact F.trans (F.trans (F.trans la (F.ackDeviceData _ id)) (F.consumeLoop G _ h1))
      (F.wakeTurnMoved (fun s => G.of_groups rfl rfl (GroupsKept.refl _)) h2)

end

/-! `core` is what a relation that reads the logs' contents and the admission state may read. What `handle_disconnection`
and `handle_new_connection` do is particular to each such relation and enters `events` and `step` as a hypothesis. -/

/-- the data log without waiter lists and retained messages -/
def dlkey (d : DataLog) : List String × List (CLog.Log Pub) × List (String × Nat) × List (String × List Nat) :=
  (d.native.map (·.filter), d.native.map (·.log), d.filterIndexes, d.publishFilters)

/-- what changes only by `setConn` on a live connection, by an operation on the maps and logs of
    the data log, or when a connection ends or is admitted -/
def core (s : RState) :
    Slab Conn × List (String × Option SessionState) × List (String × Nat) × Config ×
      List String × List (CLog.Log Pub) × List (String × Nat) × List (String × List Nat) :=
  (s.conns, s.graveyard, s.connectionMap, s.config, dlkey s.datalog)

structure CoreFrame (R : RState → RState → Prop) : Prop where
  refl : ∀ s, R s s
  trans : ∀ {a b c}, R a b → R b c → R a c
  side : ∀ {s s'}, core s' = core s → R s s'
  conn : ∀ {s s' id c c'}, getConn s id = some c → core s' = core (setConn s id c') → c'.clientId = c.clientId → R s s'

theorem CoreFrame.mono {R R' : RState → RState → Prop} (fr : CoreFrame R) (refl : ∀ s, R' s s)
    (trans : ∀ {a b c}, R' a b → R' b c → R' a c) (le : ∀ {s s'}, R s s' → R' s s') : CoreFrame R' :=
  ⟨refl, trans, fun e => le (fr.side e), fun hc e1 e2 => le (fr.conn hc e1 e2)⟩

theorem dlkey_set_waiters {d : DataLog} {i : Nat} {fd : FilterData} (h : d.native[i]? = some fd)
    (w : List (Nat × DataRequest)) : dlkey { d with native := d.native.set i { fd with waiters := w } } = dlkey d := by
  show ((d.native.set i _).map _, (d.native.set i _).map _, _, _) = _
  rw [map_set_same (f := fun fd : FilterData => fd.filter) h (by rfl),
    map_set_same (f := fun fd : FilterData => fd.log) h (by rfl)]
  rfl

theorem dlkey_removeWaiterFor (d : DataLog) (id : Nat) (f : String) : dlkey (removeWaiterFor d id f) = dlkey d := by
  rcases removeWaiterFor_upd d id f with e | ⟨idx, fd, w, hfd, e⟩ <;> rw [e]
  exact dlkey_set_waiters hfd w

theorem core_datalog {s : RState} {d : DataLog} (h : dlkey d = dlkey s.datalog) : core { s with datalog := d } = core s := by
  unfold core; rw [h]

section
variable {R : RState → RState → Prop} (fr : CoreFrame R)
include fr

theorem CoreFrame.waiters {s : RState} {i : Nat} {fd : FilterData} (h : s.datalog.native[i]? = some fd)
    (w : List (Nat × DataRequest)) :
    R s { s with datalog := { s.datalog with native := s.datalog.native.set i { fd with waiters := w } } } :=
  fr.side (core_datalog (dlkey_set_waiters h w))

theorem CoreFrame.set {s : RState} {id : Nat} {c c' : Conn} (hc : getConn s id = some c)
    (e : c'.clientId = c.clientId) : R s (setConn s id c') := fr.conn hc rfl e

theorem CoreFrame.push (s : RState) (l : Nat) (ns : List Notif) : R s (pushNotifs s l ns) := fr.side rfl

theorem CoreFrame.wake (s : RState) (l : Nat) : R s (wakeLink s l) := fr.side rfl

theorem CoreFrame.sched {s s' : RState} {id : Nat} (h : SchedStep id s s') : R s s' := by
  obtain ⟨c, t, q, hc, rfl⟩ := h
  exact fr.conn hc rfl rfl

theorem CoreFrame.reschedule {s s' : RState} {id : Nat} {r : SchedReason} (h : reschedule s id r = .ok s') : R s s' :=
  fr.sched (reschedule_step h)

theorem CoreFrame.track {s s' : RState} {id : Nat} {r : DataRequest} (h : track s id r = .ok s') : R s s' :=
  fr.sched (track_step h)

theorem CoreFrame.trackv {s s' : RState} {id : Nat} {rs : List DataRequest} (h : trackv s id rs = .ok s') : R s s' :=
  fr.sched (trackv_step h)

theorem CoreFrame.commitAck {s s' : RState} {id : Nat} {a : Ack} (h : commitAck s id a = .ok s') : R s s' := by
  obtain ⟨c, hc, rfl⟩ := commitAck_upd h
  exact fr.conn hc rfl rfl

theorem CoreFrame.updateRetained (s : RState) (topic : String) (p : Pub) : R s (updateRetained s topic p) := by
  obtain ⟨r, e⟩ := updateRetained_upd s topic p
  rw [e]; exact fr.side rfl

theorem CoreFrame.accepted (s : RState) (topic : String) (p : Pub) (e : Ghost) : R s ((Router.updateRetained s topic p).g e) :=
  fr.trans (fr.updateRetained s topic p) (fr.side rfl)

theorem CoreFrame.pause {s s' : RState} {id : Nat} {r : PauseReason} (h : pause s id r = .ok s') : R s s' :=
  fr.sched (pause_step h)

theorem CoreFrame.park {s s' : RState} {id : Nat} {r : DataRequest} (h : park s id r = .ok s') : R s s' := by
  obtain ⟨fd, hfd, rfl⟩ := park_upd h
  exact fr.waiters hfd _

theorem CoreFrame.ackDeviceData (s : RState) (id : Nat) : R s (ackDeviceData s id) := by
  rcases ackDeviceData_upd s id with e | ⟨c, ls, hc, e⟩ <;> rw [e]
  · exact fr.refl s
  · exact fr.conn hc rfl rfl

theorem CoreFrame.drainNotifications (ns : List (Nat × DataRequest)) {s s' : RState}
    (h : drainNotifications s ns = .ok s') : R s s' :=
  Router.drainNotifications_rel R fr.refl (fun _ _ _ => fr.trans) (fun _ _ _ _ => fr.track)
    (fun _ _ _ => fr.reschedule) ns h

theorem CoreFrame.drain_all {s s' : RState}
    (h : Router.drainNotifications { s with notifications := [] } s.notifications = .ok s') : R s s' :=
  fr.trans (fr.side (s' := { s with notifications := [] }) rfl) (fr.drainNotifications _ h)

theorem CoreFrame.wakeParked {s s' : RState} {logs : List Nat} (h : wakeParked s logs = .ok s') : R s s' :=
  wakeParked_rel R fr.refl (fun _ _ _ => fr.trans) (fun _ _ _ hfd => fr.waiters hfd _)
    (fun _ _ ns hd => fr.drainNotifications ns hd) h

theorem CoreFrame.wakeTurnMoved {s s' : RState} (h : wakeTurnMoved s = .ok s') : R s s' :=
  fr.trans (fr.side (s' := { s with turnMoved := [] }) rfl) (fr.wakeParked h)

theorem CoreFrame.noteTurn (s0 s1 : RState) (req : DataRequest) : R s1 (noteTurn s0 s1 req) := by
  obtain ⟨tm, e⟩ := noteTurn_upd s0 s1 req
  rw [e]; exact fr.side rfl

theorem CoreFrame.forwardDeviceData {s s' : RState} {id : Nat} {req req' : DataRequest} {st : ConsumeStatus}
    (h : forwardDeviceData s id req = .ok (s', req', st)) : R s s' := by
  obtain ⟨c, hc, ⟨o, rfl⟩ | ⟨r, pubs, ls, sh, o, rfl⟩⟩ := forwardDeviceData_upd h
  · exact fr.side rfl
  · exact fr.conn hc rfl rfl

theorem CoreFrame.consumeLoop (fuel : Nat) {s s' : RState} {id : Nat} {reqs skipped : List DataRequest}
    (h : consumeLoop s id fuel reqs skipped = .ok s') : R s s' :=
  Router.consumeLoop_rel R fr.refl (fun _ _ _ => fr.trans)
    (fun _ _ _ _ _ hf => fr.trans (fr.forwardDeviceData hf) (fr.noteTurn _ _ _))
    (fun _ _ _ => fr.park) (fun _ _ => fr.sched) fuel h

theorem CoreFrame.consume {s s' : RState} {b : Bool} (h : consume s = .ok (s', b)) : R s s' := by
  rcases Walk.consume_cases h with ⟨_, _, rfl⟩ | ⟨id, rq, c, s1, _, hc, _, hl, hw⟩
  · exact fr.side rfl
  · refine fr.trans (fr.trans ?_ (fr.ackDeviceData _ id)) (fr.trans (fr.consumeLoop _ hl) (fr.wakeTurnMoved hw))
    exact fr.conn hc rfl rfl

theorem CoreFrame.handleShadow {s s' : RState} {id : Nat} {f : String} (h : handleShadow s id f = .ok s') : R s s' := by
  obtain ⟨ls, e⟩ := handleShadow_upd s id f
  obtain rfl := Except.ok.inj (e.symm.trans h)
  exact fr.side rfl

theorem CoreFrame.unsubscribeFilters (fs : List String) {s s' : RState} {id : Nat} {rs rs' : List Bool}
    (h : unsubscribeFilters s id fs rs = .ok (s', rs')) : R s s' :=
  Walk.unsubscribeFilters_inv (I := R s) (fun _ _ a => fr.trans a (fr.side rfl))
    (fun {s1 _ c} f a hc => fr.trans a (fr.conn (c' := ufConn s1.datalog c f) hc
      (core_datalog (s := setConn s1 id (ufConn s1.datalog c f)) (dlkey_removeWaiterFor _ id f)) rfl))
    fs (fr.refl s) h

theorem CoreFrame.prepareFilter {s s' : RState} {id : Nat} {cursor : Cursor} {idx : Nat} {f : SubFilter}
    {group : Option String} {subId : Option Nat}
    (h : prepareFilter s id cursor idx f group subId = .ok s') : R s s' := by
  obtain ⟨c, hc, hcase⟩ := Walk.prepareFilter_cases h
  have hid : (pfConn c f.path subId).clientId = c.clientId := by cases subId <;> rfl
  rcases hcase with ⟨_, rfl⟩ | ⟨_, s3, ht, hr⟩
  · exact fr.conn hc rfl hid
  · refine fr.trans ?_ (fr.trans (fr.track ht) (fr.reschedule hr))
    exact fr.conn hc rfl hid

end

structure LogFrame (R : RState → RState → Prop) : Prop extends CoreFrame R where
  cache : ∀ {s s' topic v}, dlMatches s topic = .ok (s', v) → R s s'
  newFilter : ∀ s f, R s (nextNativeOffset s f).1
  append : ∀ {s s' idx p}, appendToFilter s idx p = .ok s' → R s s'

theorem LogFrame.mono {R R' : RState → RState → Prop} (fr : LogFrame R) (refl : ∀ s, R' s s)
    (trans : ∀ {a b c}, R' a b → R' b c → R' a c) (le : ∀ {s s'}, R s s' → R' s s') : LogFrame R' :=
  { fr.toCoreFrame.mono refl trans le with
    cache := fun h => le (fr.cache h), newFilter := fun s f => le (fr.newFilter s f), append := fun h => le (fr.append h) }

section
variable {R : RState → RState → Prop} (fr : LogFrame R)
include fr

theorem LogFrame.appendToFilters (v : List Nat) {s s' : RState} {p : Pub} (h : appendToFilters s v p = .ok s') : R s s' :=
  Router.appendToFilters_rel R fr.refl (fun _ _ _ => fr.trans) (fun _ _ _ => fr.append) v h

theorem LogFrame.appendToCommitlog {s s' : RState} {id : Nat} {p : Pub} {e : Option AppendErr}
    (h : appendToCommitlog s id p = .ok (s', e)) : R s s' :=
  Router.appendToCommitlog_rel R fr.refl (fun _ _ _ => fr.trans) (fun _ _ _ hc _ => fr.conn hc rfl rfl)
    (fun _ _ _ _ _ _ => fr.accepted _ _ _ _) (fun _ _ _ _ => fr.cache) (fun _ _ _ _ _ _ _ => fr.append) h

theorem LogFrame.subscribeFilters (fs : List SubFilter) {s s' : RState} {id : Nat} {subId : Option Nat}
    {codes codes' : List Nat} {fl fl' : Flags}
    (h : subscribeFilters s id subId fs codes fl = .ok (s', codes', fl')) : R s s' :=
  Walk.subscribeFilters_inv (I := R s)
    (fun a hp => fr.trans a (fr.trans (fr.newFilter _ _) (fr.prepareFilter hp))) fs (fr.refl s) h

theorem LogFrame.handlePacket {s s' : RState} {id : Nat} {cid : String} {pkt : Packet} {fl fl' : Flags}
    (h : handlePacket s id cid pkt fl = .ok (s', fl')) : R s s' := by
  rcases handlePacket_subs_cases h with ⟨_, _, fs, s1, _, _, _, hs, hca⟩ | ⟨_, fs, s1, _, _, hu, hca⟩ | ⟨hns, hnu⟩
  · exact fr.trans (fr.subscribeFilters fs hs) (fr.commitAck hca)
  · exact fr.trans (fr.unsubscribeFilters fs hu) (fr.commitAck hca)
  · exact Router.handlePacket_rel R fr.refl (fun _ _ _ => fr.trans) (fun _ _ _ => fr.commitAck)
      (fun _ _ _ _ => fr.appendToCommitlog) (fun _ _ => fr.reschedule)
      (fun _ _ _ _ _ hc _ => fr.conn hc rfl rfl) (fun _ => fr.side rfl) hns hnu h

theorem LogFrame.handlePackets (pkts : List Packet) {s s' : RState} {id : Nat} {cid : String} {fl fl' : Flags}
    (h : handlePackets s id cid pkts fl = .ok (s', fl')) : R s s' :=
  Walk.handlePackets_inv (I := fun t _ => R s t) (fun a hp => fr.trans a (fr.handlePacket hp)) pkts (fr.refl s) h

theorem LogFrame.handleLastWill {s s' : RState} {cid : String} (h : handleLastWill s cid = .ok s') : R s s' :=
  Router.handleLastWill_rel R fr.refl (fun _ _ _ => fr.trans) (fun _ _ => fr.side rfl)
    (fun _ _ _ _ => fr.accepted _ _ _ _) (fun _ _ _ _ => fr.cache) (fun _ _ _ _ _ => fr.append)
    (fun _ _ => fr.toCoreFrame.drain_all) h

theorem LogFrame.handleDevicePayload (hd : ∀ {s s' id r}, handleDisconnection s id r = .ok s' → R s s')
    {s s' : RState} {id : Nat} (h : handleDevicePayload s id = .ok s') : R s s' :=
  Walk.handleDevicePayload_inv (I := R s) (id := id) (fr.refl s) (fun x => x)
    (fun {c _ _} _ hp => fr.trans (b := setLink s c.link _) (fr.side rfl) (fr.handlePackets _ hp))
    (fun a hr => fr.trans a (fr.reschedule hr))
    (fun a hr => fr.trans a (fr.toCoreFrame.drain_all hr))
    (fun a hw => fr.trans a (fr.wakeTurnMoved hw)) (fun a h => fr.trans a (hd h)) h

theorem LogFrame.step (hd : ∀ {s s' id r}, handleDisconnection s id r = .ok s' → R s s')
    {s s' : RState} {op : Op} {o : Out}
    (hn : ∀ spec, op = .connect spec → handleNewConnection s spec = .ok s' → R s s')
    (h : step s op = .ok (s', o)) : R s s' := by
  cases op_cases h with
  | connect spec h1 => exact hn spec rfl h1
  | push l p e => exact e.elim (· ▸ fr.refl s) (· ▸ fr.side rfl)
  | drain l e => exact e.elim (· ▸ fr.refl s) (· ▸ fr.side rfl)
  | consume b h1 => exact fr.consume h1
  | event id ev he =>
    cases event_cases he with
    | payload h1 => exact fr.handleDevicePayload hd h1
    | ready h1 => exact h1.elim fr.reschedule (· ▸ fr.refl s)
    | disconnect h1 => exact hd h1
    | will c h1 => exact fr.handleLastWill h1
    | shadow f h1 => exact fr.handleShadow h1
    | meters e => exact e ▸ fr.refl s
    | alerts e => exact e ▸ fr.refl s

end

/-- the keys of the data log (filters, logs, filter index, filter cache) and the configuration are the same -/
def KeysKept (s s' : RState) : Prop := dlkey s'.datalog = dlkey s.datalog ∧ s'.config = s.config

theorem KeysKept.frame : CoreFrame KeysKept where
  refl := fun _ => ⟨rfl, rfl⟩
  trans := fun h1 h2 => ⟨h2.1.trans h1.1, h2.2.trans h1.2⟩
  side := fun e => ⟨congrArg (·.2.2.2.2) e, congrArg (·.2.2.2.1) e⟩
  conn := fun _ e _ => ⟨congrArg (·.2.2.2.2) e, congrArg (·.2.2.2.1) e⟩

theorem handleDisconnection_keys {s s' : RState} {id : Nat} {r : Option String}
    (h : handleDisconnection s id r = .ok s') : KeysKept s s' := by
  rcases handleDisconnection_cases h with ⟨_, rfl⟩ | ⟨c, _, hw⟩
  · exact ⟨rfl, rfl⟩
  · refine KeysKept.frame.trans ⟨?_, ?_⟩ (KeysKept.frame.wakeParked hw) <;> rw [hdFinal_eq_record]
    -- `dropWaiters` keeps the filter and the log of every entry
    simp only [dlkey, List.map_map, Function.comp_def, dropWaiters]

theorem handleNewConnection_keys {s s' : RState} {spec : ConnectSpec}
    (h : handleNewConnection s spec = .ok s') : KeysKept s s' :=
  handleNewConnection_rel (I := KeysKept s) (J := KeysKept s) ⟨rfl, rfl⟩ (fun _ hd => (handleDisconnection_keys hd :))
    (fun k => k)
    (fun {s1} k _ _ hr => KeysKept.frame.trans k (KeysKept.frame.reschedule (s := hnPre s1 spec) hr)) h


/-- while no packet brought new data no notification is pending: an append is the only call that wakes parked requests,
    and it sets the flag; `handle_device_payload` drains `notifications` exactly when the flag is set -/
theorem handlePacket_pending {s s' : RState} {id : Nat} {cid : String} {pkt : Packet} {fl fl' : Flags}
    (h : handlePacket s id cid pkt fl = .ok (s', fl')) (hn : fl.newData = false → s.notifications = []) :
    fl'.newData = false → s'.notifications = [] := by
  have commit : ∀ {t t' : RState} {a : Ack}, commitAck t id a = .ok t' → t'.notifications = t.notifications :=
    fun h => by obtain ⟨_, _, e⟩ := commitAck_upd h; rw [e]; rfl
  have append : ∀ {t t' : RState} {p : Pub} {e : Option AppendErr} {fl0 : Flags}, appendToCommitlog t id p = .ok (t', e) →
      (fl0.newData = false → t.notifications = []) → (appendFlags fl0 e).newData = false → t'.notifications = [] := by
    intro t t' p e fl0 h hn hf
    cases e with
    | none => cases hf
    | some er => rw [(appendToCommitlog_refused h (by simp)).1]; exact hn (by cases er <;> exact hf)
  cases packet_cases h with
  | pub1 _ h1 h2 e => subst e; exact append h2 (by rw [commit h1]; exact hn)
  | pub2 _ _ e1 e2 => subst e1 e2; exact hn
  | pub0 _ _ h1 e => subst e; exact append h1 hn
  | subscribe h1 h2 e =>
    subst e; obtain ⟨a, b⟩ := subscribeFilters_ntf _ h1
    intro hf; rw [commit h2, a]; exact hn (b ▸ hf)
  | unsubscribe h1 h2 e =>
    subst e; intro hf; rw [commit h2]
    exact Walk.unsubscribeFilters_inv (I := fun t => t.notifications = []) (fun _ _ h => h)
      (fun {t _ _} _ ht _ => by show List.filter _ t.notifications = []; rw [ht]; rfl) _ (hn hf) h1
  | ping h1 e => subst e; intro hf; rw [commit h1]; exact hn hf
  | pubackBad _ _ e1 e2 => subst e1 e2; exact hn
  | pubackOk _ _ h1 e => subst e; intro hf; rw [(reschedule_wakeFrame h1).ntf]; exact hn hf
  | pubrecBad _ _ e1 e2 => subst e1 e2; exact hn
  | pubrecOk _ _ h1 e => subst e; intro hf; rw [(reschedule_wakeFrame h1).ntf]; exact hn hf
  | pubrelNone _ _ e1 e2 => subst e1 e2; exact hn
  | pubrelErr _ _ h1 he e =>
    subst e; intro hf
    rw [(appendToCommitlog_refused h1 (fun x => by rw [x] at he; cases he)).1]; exact hn hf
  | pubrelOk _ _ _ _ e => subst e; intro hf; cases hf
  | pubcomp _ e1 e2 => subst e1; rcases e2 with ⟨_, rfl⟩ | ⟨_, rfl⟩ <;> exact hn
  | disconnect e1 e2 => subst e1 e2; exact hn
  | other e1 e2 => subst e1 e2; exact hn

theorem handlePackets_pending {id : Nat} {cid : String} (ps : List Packet) {s s' : RState} {fl fl' : Flags}
    (h : handlePackets s id cid ps fl = .ok (s', fl')) (hn : fl.newData = false → s.notifications = []) :
    fl'.newData = false → s'.notifications = [] :=
  Walk.handlePackets_inv (I := fun s fl => fl.newData = false → s.notifications = [])
    (fun hn h1 => handlePacket_pending h1 hn) ps hn h

end Router
