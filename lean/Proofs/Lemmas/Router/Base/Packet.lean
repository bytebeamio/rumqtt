/-
What a successful `handlePacket` did: `PacketCase`, one constructor per packet kind and outcome, each with the test that
selects it, the calls made and the flags returned. `packet_cases` is the one walk of `handlePacket`; a proof about one kind
and an invariant's own pass over all kinds are both a `cases packet_cases h`. `handlePacket_subs_cases` only tells SUBSCRIBE
and UNSUBSCRIBE from the rest, which a relation closed under the calls covers (`handlePacket_rel`).
-/
import Proofs.Lemmas.Router.Base.Decomp
import Proofs.Lemmas.Router.Base.Outgoing
namespace Router

/-- the flags after `append_to_commitlog` returned `e` -/
def appendFlags (fl : Flags) : Option AppendErr → Flags
  | none => { fl with newData := true }
  | some (.disconnect r) => { fl with disconnect := true, reason := some r, stop := true }
  | some .other => { fl with disconnect := true, stop := true }

theorem appendFlags_forceAck (fl : Flags) (e : Option AppendErr) : (appendFlags fl e).forceAck = fl.forceAck := by
  rcases e with _ | _ | _ <;> rfl

def Flags.stopOk (fl : Flags) : Prop := fl.stop = true → fl.disconnect = true

theorem appendFlags_stopOk {fl : Flags} (e : Option AppendErr) (h : fl.stopOk) : (appendFlags fl e).stopOk := by
  rcases e with _ | _ | _
  · exact h
  · exact fun _ => rfl
  · exact fun _ => rfl

/-- the flags of a protocol violation -/
def Flags.kick (fl : Flags) : Flags := { fl with disconnect := true, stop := true }

inductive PacketCase (s s' : RState) (id : Nat) (cid : String) (fl fl' : Flags) : Packet → Prop
  | pub1 {p s1 e} : p.qos = 1 → commitAck s id (.puback p.pkid) = .ok s1 → appendToCommitlog s1 id p = .ok (s', e) →
      fl' = appendFlags { fl with forceAck := true } e → PacketCase s s' id cid fl fl' (.publish p)
  | pub2 {p c} : p.qos = 2 → getConn s id = some c → fl' = { fl with forceAck := true } →
      s' = (setConn s id { c with acks := { committed := c.acks.committed ++ [Ack.pubrec p.pkid], recorded := c.acks.recorded ++ [p] } }).g (.committed id (.pubrec p.pkid)) → PacketCase s s' id cid fl fl' (.publish p)
  | pub0 {p e} : p.qos ≠ 1 → p.qos ≠ 2 → appendToCommitlog s id p = .ok (s', e) → fl' = appendFlags fl e →
      PacketCase s s' id cid fl fl' (.publish p)
  | subscribe {pkid subId fs s1 codes fl1} : subscribeFilters s id subId fs [] fl = .ok (s1, codes, fl1) →
      commitAck s1 id (.suback pkid codes) = .ok s' → fl' = { fl1 with forceAck := true } →
      PacketCase s s' id cid fl fl' (.subscribe pkid subId fs)
  | unsubscribe {pkid fs s1 rs} : unsubscribeFilters s id fs [] = .ok (s1, rs) →
      commitAck s1 id (.unsuback pkid rs) = .ok s' → fl' = { fl with forceAck := true } →
      PacketCase s s' id cid fl fl' (.unsubscribe pkid fs)
  | ping : commitAck s id .pingresp = .ok s' → fl' = { fl with forceAck := true } → PacketCase s s' id cid fl fl' .pingreq
  | pubackBad {pkid c} : getConn s id = some c → (c.out.registerAck pkid).2 = false → s' = setConn s id { c with out := (c.out.registerAck pkid).1 } →
      fl' = fl.kick → PacketCase s s' id cid fl fl' (.puback pkid)
  | pubackOk {pkid c} : getConn s id = some c → (c.out.registerAck pkid).2 = true →
      reschedule ((setConn s id { c with out := (c.out.registerAck pkid).1 }).g (.clientAcked id pkid)) id .incomingAck = .ok s' →
      fl' = fl → PacketCase s s' id cid fl fl' (.puback pkid)
  | pubrecBad {pkid c} : getConn s id = some c → (c.out.registerAck pkid).2 = false → s' = setConn s id { c with out := (c.out.registerAck pkid).1 } →
      fl' = fl.kick → PacketCase s s' id cid fl fl' (.pubrec pkid)
  | pubrecOk {pkid c} : getConn s id = some c → (c.out.registerAck pkid).2 = true →
      reschedule (((setConn s id { c with out := { (c.out.registerAck pkid).1 with unackedPubrels := (c.out.registerAck pkid).1.unackedPubrels ++ [pkid] }, acks := { c.acks with committed := c.acks.committed ++ [Ack.pubrel pkid] } }).g
        (.clientAcked id pkid)).g (.committed id (.pubrel pkid))) id .incomingAck = .ok s' →
      fl' = fl → PacketCase s s' id cid fl fl' (.pubrec pkid)
  | pubrelNone {pkid hp c} : getConn s id = some c → c.acks.recorded = [] → fl' = fl.kick →
      s' = (setConn s id { c with acks := { committed := c.acks.committed ++ [Ack.pubcomp pkid], recorded := [] } }).g
        (.committed id (.pubcomp pkid)) → PacketCase s s' id cid fl fl' (.pubrel pkid hp)
  | pubrelErr {pkid hp c p rest e} : getConn s id = some c → c.acks.recorded = p :: rest →
      appendToCommitlog ((setConn s id { c with acks := { committed := c.acks.committed ++ [Ack.pubcomp pkid], recorded := rest } }).g (.committed id (.pubcomp pkid))) id p = .ok (s', e) → e.isSome = true → fl' = fl.kick →
      PacketCase s s' id cid fl fl' (.pubrel pkid hp)
  | pubrelOk {pkid hp c p rest s2} : getConn s id = some c → c.acks.recorded = p :: rest →
      appendToCommitlog ((setConn s id { c with acks := { committed := c.acks.committed ++ [Ack.pubcomp pkid], recorded := rest } }).g (.committed id (.pubcomp pkid))) id p = .ok (s2, none) →
      reschedule s2 id .incomingAck = .ok s' → fl' = { fl with newData := true } →
      PacketCase s s' id cid fl fl' (.pubrel pkid hp)
  | pubcomp {pkid c} : getConn s id = some c → s' = setConn s id { c with out := (c.out.registerPubcomp pkid).1 } →
      ((c.out.registerPubcomp pkid).2 = false ∧ fl' = fl.kick ∨ (c.out.registerPubcomp pkid).2 = true ∧ fl' = fl) →
      PacketCase s s' id cid fl fl' (.pubcomp pkid)
  | disconnect : s' = ({ s with lastWills := aremove cid s.lastWills } : RState).g (.willCleared cid) → fl' = fl.kick →
      PacketCase s s' id cid fl fl' .disconnect
  | other : s' = s → fl' = fl → PacketCase s s' id cid fl fl' .other

theorem packet_cases {s s' : RState} {id : Nat} {cid : String} {pkt : Packet} {fl fl' : Flags}
    (h : handlePacket s id cid pkt fl = .ok (s', fl')) : PacketCase s s' id cid fl fl' pkt := by
  cases pkt with
  | publish p =>
    unfold handlePacket at h
    by_cases h1 : p.qos = 1
    · simp only [h1, if_true] at h
      cases hca : commitAck s id (.puback p.pkid) with
      | error e => simp [hca] at h
      | ok s1 =>
        simp only [hca] at h
        cases hap : appendToCommitlog s1 id p with
        | error e => simp [hap] at h
        | ok r =>
          obtain ⟨s2, e⟩ := r
          simp only [hap] at h
          rcases e with _ | _ | _ <;>
            (simp only [Except.ok.injEq, Prod.mk.injEq] at h; obtain ⟨rfl, rfl⟩ := h; exact .pub1 h1 hca hap rfl)
    · by_cases h2 : p.qos = 2
      · simp only [h2, if_true] at h
        cases hc : getConn s id with
        | none => simp [hc] at h
        | some c => simp only [hc] at h; cases h; exact .pub2 h2 hc rfl rfl
      · simp only [h1, if_false, h2] at h
        cases hap : appendToCommitlog s id p with
        | error e => simp [hap] at h
        | ok r =>
          obtain ⟨s2, e⟩ := r
          simp only [hap] at h
          rcases e with _ | _ | _ <;>
            (simp only [Except.ok.injEq, Prod.mk.injEq] at h; obtain ⟨rfl, rfl⟩ := h; exact .pub0 h1 h2 hap rfl)
  | subscribe pkid subId filters =>
    unfold handlePacket at h
    cases hsf : subscribeFilters s id subId filters [] fl with
    | error e => simp [hsf] at h
    | ok r =>
      obtain ⟨s1, codes, fl1⟩ := r
      simp only [hsf] at h
      cases hca : commitAck s1 id (.suback pkid codes) with
      | error e => simp [hca] at h
      | ok s2 =>
        simp only [hca, Except.ok.injEq, Prod.mk.injEq] at h; obtain ⟨rfl, rfl⟩ := h
        exact .subscribe hsf hca rfl
  | unsubscribe pkid filters =>
    unfold handlePacket at h
    cases hc : getConn s id with
    | none => simp [hc] at h
    | some c =>
      simp only [hc] at h
      cases hu : unsubscribeFilters s id filters [] with
      | error e => simp [hu] at h
      | ok r =>
        obtain ⟨s1, reasons⟩ := r
        simp only [hu] at h
        cases hca : commitAck s1 id (.unsuback pkid reasons) with
        | error e => simp [hca] at h
        | ok s2 =>
          simp only [hca, Except.ok.injEq, Prod.mk.injEq] at h; obtain ⟨rfl, rfl⟩ := h
          exact .unsubscribe hu hca rfl
  | pingreq =>
    unfold handlePacket at h
    cases hca : commitAck s id .pingresp with
    | error e => simp [hca] at h
    | ok s2 =>
      simp only [hca, Except.ok.injEq, Prod.mk.injEq] at h; obtain ⟨rfl, rfl⟩ := h
      exact .ping hca rfl
  | puback pkid =>
    unfold handlePacket at h
    cases hc : getConn s id with
    | none => simp [hc] at h
    | some c =>
      simp only [hc] at h
      split at h
      · rename_i hok
        simp only [Except.ok.injEq, Prod.mk.injEq] at h; obtain ⟨rfl, rfl⟩ := h
        exact .pubackBad hc (by simpa using hok) rfl rfl
      · rename_i hok
        split at h
        · simp at h
        · rename_i s2 h2
          simp only [Except.ok.injEq, Prod.mk.injEq] at h; obtain ⟨rfl, rfl⟩ := h
          exact .pubackOk hc (by simpa using hok) h2 rfl
  | pubrec pkid =>
    unfold handlePacket at h
    cases hc : getConn s id with
    | none => simp [hc] at h
    | some c =>
      simp only [hc] at h
      split at h
      · rename_i hok
        simp only [Except.ok.injEq, Prod.mk.injEq] at h; obtain ⟨rfl, rfl⟩ := h
        exact .pubrecBad hc (by simpa using hok) rfl rfl
      · rename_i hok
        split at h
        · simp at h
        · rename_i s2 h2
          simp only [Except.ok.injEq, Prod.mk.injEq] at h; obtain ⟨rfl, rfl⟩ := h
          exact .pubrecOk hc (by simpa using hok) h2 rfl
  | pubrel pkid hp =>
    unfold handlePacket at h
    cases hc : getConn s id with
    | none => simp [hc] at h
    | some c =>
      simp only [hc] at h
      split at h
      · rename_i hrec
        simp only [Except.ok.injEq, Prod.mk.injEq] at h; obtain ⟨rfl, rfl⟩ := h
        exact .pubrelNone hc hrec rfl (by rw [← hrec])
      · rename_i p rest hrec
        split at h
        · simp at h
        · rename_i s2 e hap
          simp only [Except.ok.injEq, Prod.mk.injEq] at h; obtain ⟨rfl, rfl⟩ := h
          exact .pubrelErr hc hrec hap rfl rfl
        · rename_i s2 hap
          split at h
          · simp at h
          · rename_i s3 h3
            simp only [Except.ok.injEq, Prod.mk.injEq] at h; obtain ⟨rfl, rfl⟩ := h
            exact .pubrelOk hc hrec hap h3 rfl
  | pubcomp pkid =>
    unfold handlePacket at h
    cases hc : getConn s id with
    | none => simp [hc] at h
    | some c =>
      simp only [hc] at h
      split at h <;> rename_i hok <;> (simp only [Except.ok.injEq, Prod.mk.injEq] at h; obtain ⟨rfl, rfl⟩ := h)
      · exact .pubcomp hc rfl (.inl ⟨by simpa using hok, rfl⟩)
      · exact .pubcomp hc rfl (.inr ⟨by simpa using hok, rfl⟩)
  | disconnect =>
    simp only [handlePacket, Except.ok.injEq, Prod.mk.injEq] at h; obtain ⟨rfl, rfl⟩ := h; exact .disconnect rfl rfl
  | other => simp only [handlePacket, Except.ok.injEq, Prod.mk.injEq] at h; obtain ⟨rfl, rfl⟩ := h; exact .other rfl rfl

def SubsOr (s s' : RState) (id : Nat) (pkt : Packet) (fl : Flags) (T : Prop) : Prop :=
  (∃ pkid subId filters s1 codes fl1, pkt = .subscribe pkid subId filters ∧
    subscribeFilters s id subId filters [] fl = .ok (s1, codes, fl1) ∧
    commitAck s1 id (.suback pkid codes) = .ok s') ∨
  (∃ pkid filters s1 rs, pkt = .unsubscribe pkid filters ∧ unsubscribeFilters s id filters [] = .ok (s1, rs) ∧
    commitAck s1 id (.unsuback pkid rs) = .ok s') ∨ T

theorem SubsOr.imp {s s' : RState} {id : Nat} {pkt : Packet} {fl : Flags} {T U : Prop} (h : SubsOr s s' id pkt fl T)
    (f : T → U) : SubsOr s s' id pkt fl U := Or.imp (fun x => x) (Or.imp (fun x => x) f) h

theorem handlePacket_subs_cases {s s' : RState} {id : Nat} {cid : String} {pkt : Packet} {fl fl' : Flags}
    (h : handlePacket s id cid pkt fl = .ok (s', fl')) :
    SubsOr s s' id pkt fl ((∀ a b c, pkt ≠ .subscribe a b c) ∧ ∀ a b, pkt ≠ .unsubscribe a b) := by
  cases packet_cases h with
  | subscribe h1 h2 _ => exact .inl ⟨_, _, _, _, _, _, rfl, h1, h2⟩
  | unsubscribe h1 h2 _ => exact .inr (.inl ⟨_, _, _, _, rfl, h1, h2⟩)
  | _ => exact .inr (.inr ⟨fun _ _ _ => nofun, fun _ _ => nofun⟩)

theorem handlePacket_rel {id : Nat} {cid : String} (R : RState → RState → Prop) (hrefl : ∀ s, R s s)
    (htrans : ∀ a b c, R a b → R b c → R a c)
    (hcommit : ∀ s s' a, commitAck s id a = .ok s' → R s s')
    (hlog : ∀ s s' p e, appendToCommitlog s id p = .ok (s', e) → R s s')
    (hresched : ∀ s s', reschedule s id .incomingAck = .ok s' → R s s')
    (hset : ∀ (s : RState) c o a g, getConn s id = some c →
      (∃ n, o.inflight = c.out.inflight.drop n ∧ o.lastPkid = c.out.lastPkid) →
      R s { setConn s id { c with out := o, acks := a } with ghost := g })
    (hwill : ∀ s : RState, R s (({ s with lastWills := aremove cid s.lastWills } : RState).g (.willCleared cid)))
    {s s' : RState} {pkt : Packet} {fl fl' : Flags}
    (hns : ∀ a b c, pkt ≠ .subscribe a b c) (hnu : ∀ a b, pkt ≠ .unsubscribe a b)
    (h : handlePacket s id cid pkt fl = .ok (s', fl')) : R s s' := by
  have same : ∀ {c : Conn}, ∃ n, c.out.inflight = c.out.inflight.drop n ∧ c.out.lastPkid = c.out.lastPkid :=
    ⟨0, rfl, rfl⟩
  cases packet_cases h with
  | @subscribe a b c _ _ _ _ _ _ => exact absurd rfl (hns a b c)
  | @unsubscribe a b _ _ _ _ _ => exact absurd rfl (hnu a b)
  | pub1 _ h1 h2 _ => exact htrans _ _ _ (hcommit _ _ _ h1) (hlog _ _ _ _ h2)
  | @pub2 _ c _ hc _ e | @pubrelNone _ _ c hc _ _ e => subst e; exact hset s c c.out _ _ hc same
  | pub0 _ _ h2 _ => exact hlog _ _ _ _ h2
  | ping h1 _ => exact hcommit _ _ _ h1
  | @pubackBad _ c hc _ e _ | @pubrecBad _ c hc _ e _ =>
    subst e; exact hset s c _ c.acks s.ghost hc (registerAck_dropN _ _)
  | @pubackOk _ c hc _ h2 _ => exact htrans _ _ _ (hset s c _ c.acks _ hc (registerAck_dropN _ _)) (hresched _ _ h2)
  | @pubrecOk pkid c hc _ h2 _ =>
    refine htrans _ _ _ ?_ (hresched _ _ h2)
    exact hset s c _ _ _ hc (registerAck_dropN c.out pkid)
  | @pubrelErr _ _ c _ _ _ hc _ h2 _ _ => exact htrans _ _ _ (hset s c c.out _ _ hc same) (hlog _ _ _ _ h2)
  | @pubrelOk _ _ c _ _ _ hc _ h2 h3 _ =>
    exact htrans _ _ _ (htrans _ _ _ (hset s c c.out _ _ hc same) (hlog _ _ _ _ h2)) (hresched _ _ h3)
  | @pubcomp _ c hc e _ =>
    subst e; exact hset s c _ c.acks s.ghost hc ⟨0, (registerPubcomp_out _ _).1, (registerPubcomp_out _ _).2⟩
  | disconnect e _ => subst e; exact hwill s
  | other e _ => subst e; exact hrefl _

end Router
