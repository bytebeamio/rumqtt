/-
Facts about one model function each, shared by several property files.
-/
import Proofs.Lemmas.Router.Base.Effect
namespace Router

theorem commitAck_spec (s : RState) (id : Nat) (a : Ack) (c : Conn) (h : getConn s id = some c) :
    commitAck s id a = .ok ((setConn s id { c with acks := { c.acks with committed := c.acks.committed ++ [a] } }).g (.committed id a)) := by
  simp [commitAck, h]

theorem commitAck_panics_iff (s : RState) (id : Nat) (a : Ack) :
    (∃ e, commitAck s id a = .error e) ↔ getConn s id = none := by
  unfold commitAck
  cases h : getConn s id <;> simp

theorem handleDisconnection_missing (s : RState) (id : Nat) (r : Option String) (h : getConn s id = none) :
    handleDisconnection s id r = .ok s := by
  simp [handleDisconnection, h]

/-- `Tracker::try_ready(Ready)` trips no assertion in any status: a late or duplicate `Ready` signal is harmless -/
theorem tryReady_ready_total (t : Tracker) : ∃ r, t.tryReady .ready = some r := by
  unfold Tracker.tryReady
  cases t.status with
  | ready => exact ⟨_, rfl⟩
  | paused p => simp only []; split <;> exact ⟨_, rfl⟩

theorem updateRetained_lookup_same (s : RState) (topic : String) (p : Pub) :
    alookup topic (updateRetained s topic p).datalog.retained =
      if p.retain then (if p.payload.isEmpty then none else some p)
      else alookup topic s.datalog.retained := by
  rcases updateRetained_cases s topic p with ⟨hr, he, e⟩ | ⟨hr, he, e⟩ | ⟨hr, e⟩ <;> rw [e]
  · simp [hr, he, alookup_aremove_same]
  · simp [hr, he, alookup_ainsert_same]
  · simp [hr]

theorem updateRetained_lookup_other (s : RState) (topic t' : String) (p : Pub) (hne : t' ≠ topic) :
    alookup t' (updateRetained s topic p).datalog.retained = alookup t' s.datalog.retained := by
  rcases updateRetained_cases s topic p with ⟨_, _, e⟩ | ⟨_, _, e⟩ | ⟨_, e⟩ <;> rw [e]
  · exact alookup_aremove_ne _ _ hne _
  · exact alookup_ainsert_ne _ _ _ _ hne

theorem appendToFilters_lastWills : ∀ (idxs : List Nat) {s s' : RState} {p : Pub},
    appendToFilters s idxs p = .ok s' → s'.lastWills = s.lastWills ∧ s'.conns = s.conns := fun idxs _ _ _ h => by
  obtain ⟨_, _, _, _, rfl⟩ := appendToFilters_data idxs h; exact ⟨rfl, rfl⟩


theorem drainNotifications_lastWills : ∀ (ns : List (Nat × DataRequest)) {s s' : RState},
    drainNotifications s ns = .ok s' → s'.lastWills = s.lastWills :=
  fun ns _ _ h => (drainNotifications_wakeFrame ns h).wills

/-- `check_tracker_duplicates(id).is_none()` is "the filters of the tracked requests are distinct" -/
theorem trackerNoDup_iff (t : Tracker) : trackerNoDup t = true ↔ (t.requests.map (·.filter)).Nodup := by
  unfold trackerNoDup
  simp only [List.all_eq_true, beq_iff_eq]
  rw [List.nodup_iff_count]
  constructor
  · intro h a
    by_cases ha : a ∈ t.requests.map (·.filter)
    · exact Nat.le_of_eq (h a ha)
    · rw [List.count_eq_zero_of_not_mem ha]; omega
  · intro h a ha
    have h1 := h a
    have h2 : 0 < List.count a (t.requests.map (·.filter)) := List.count_pos_iff.mpr ha
    omega

end Router
