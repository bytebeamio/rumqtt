/-
A state is reachable when some finite list of ops, each with its own oracle (the recorded hash-map orders / random draws
of that op), leads to it from `init cfg` without error (panic or inadmissible oracle).
-/
import Proofs.Lemmas.Router.Base.Decomp
namespace Router

def run (s : RState) : List (Op × List Choice) → M RState
  | [] => .ok s
  | (op, choices) :: rest =>
    match step { s with oracle := choices } op with
    | .error e => .error e
    | .ok (s', _) => run s' rest

def Reachable (cfg : Config) (s : RState) : Prop := ∃ ops, run (init cfg) ops = .ok s

theorem reachable_init (cfg : Config) : Reachable cfg (init cfg) := ⟨[], rfl⟩

theorem run_append : ∀ (a b : List (Op × List Choice)) (s s1 : RState),
    run s a = .ok s1 → run s (a ++ b) = run s1 b
  | [], b, s, s1, h => by simp only [run, Except.ok.injEq] at h; subst h; rfl
  | (op, ch) :: rest, b, s, s1, h => by
    simp only [run, List.cons_append] at h ⊢
    split at h
    · simp at h
    · rename_i s' out h1
      exact run_append rest b s' s1 h

theorem Reachable.step {cfg : Config} {s s' : RState} {o : List Choice} {op : Op} {out : Out}
    (hr : Reachable cfg s) (h : Router.step { s with oracle := o } op = .ok (s', out)) :
    Reachable cfg s' := by
  obtain ⟨ops, hops⟩ := hr
  refine ⟨ops ++ [(op, o)], ?_⟩
  rw [run_append ops _ _ _ hops]
  simp [run, h]

/-- the invariant may speak of the ops still to come (a premise on them that reads the states they are applied to) -/
theorem run_invariant_ops (Inv : RState → List (Op × List Choice) → Prop)
    (hstep : ∀ s op ch rest s' out, Inv s ((op, ch) :: rest) → step { s with oracle := ch } op = .ok (s', out) →
      Inv s' rest) :
    ∀ (ops : List (Op × List Choice)) (s s' : RState), Inv s ops → run s ops = .ok s' → Inv s' []
  | [], s, s', hi, h => by simp only [run, Except.ok.injEq] at h; subst h; exact hi
  | (op, ch) :: rest, s, s', hi, h => by
    simp only [run] at h
    split at h
    · simp at h
    · rename_i s1 out h1
      exact run_invariant_ops Inv hstep rest s1 s' (hstep s op ch rest s1 out hi h1) h

theorem run_invariant (Inv : RState → Prop)
    (hstep : ∀ s o op s' out, Inv s → step { s with oracle := o } op = .ok (s', out) → Inv s')
    (ops : List (Op × List Choice)) (s s' : RState) (hi : Inv s) (h : run s ops = .ok s') : Inv s' :=
  run_invariant_ops (fun s _ => Inv s) (fun s op ch _ s' out => hstep s ch op s' out) ops s s' hi h

theorem run_invariant_of {Q : Op → Prop} (Inv : RState → Prop)
    (hstep : ∀ s ch op s' out, Q op → Inv s → step { s with oracle := ch } op = .ok (s', out) → Inv s')
    (ops : List (Op × List Choice)) {s s' : RState} (hok : ∀ o ∈ ops, Q o.1) (hi : Inv s)
    (h : run s ops = .ok s') : Inv s' :=
  (run_invariant_ops (fun s rest => (∀ o ∈ rest, Q o.1) ∧ Inv s)
    (fun s op ch _ s' out hi h1 => ⟨fun o ho => hi.1 o (List.mem_cons_of_mem _ ho),
      hstep s ch op s' out (hi.1 (op, ch) List.mem_cons_self) hi.2 h1⟩) ops s s' ⟨hok, hi⟩ h).2

theorem Reachable.induction {cfg : Config} (Inv : RState → Prop) (hinit : Inv (init cfg))
    (hstep : ∀ s o op s' out, Inv s → Router.step { s with oracle := o } op = .ok (s', out) → Inv s')
    {s : RState} (hr : Reachable cfg s) : Inv s := by
  obtain ⟨ops, hops⟩ := hr
  exact run_invariant Inv hstep ops _ _ hinit hops

theorem Reachable.induction' {cfg : Config} (Inv : RState → Prop) (hinit : Inv (init cfg))
    (hstep : ∀ s o op s' out, Reachable cfg s → Inv s → Router.step { s with oracle := o } op = .ok (s', out) → Inv s')
    {s : RState} (hr : Reachable cfg s) : Inv s :=
  (hr.induction (fun s => Reachable cfg s ∧ Inv s) ⟨reachable_init cfg, hinit⟩
    fun s o op s' out h hs => ⟨h.1.step hs, hstep s o op s' out h.1 h.2 hs⟩).2

/-! kernel-executable form of `run` (see the end of Base/Decomp.lean): closed examples are evaluated on `runX` and
transferred with `run_eq_runX` -/

def runX (s : RState) : List (Op × List Choice) → M RState
  | [] => .ok s
  | (op, choices) :: rest =>
    match stepX { s with oracle := choices } op with
    | .error e => .error e
    | .ok (s', _) => runX s' rest

theorem run_eq_runX : ∀ (ops : List (Op × List Choice)) (s : RState), run s ops = runX s ops
  | [], s => rfl
  | (op, ch) :: rest, s => by
    simp only [run, runX, step_eqX]
    split
    · rfl
    · exact run_eq_runX rest _

theorem Reachable.ofX {cfg : Config} {s : RState} (ops : List (Op × List Choice))
    (h : runX (init cfg) ops = .ok s) : Reachable cfg s := ⟨ops, by rw [run_eq_runX]; exact h⟩

namespace Rp3

theorem Reachable.induction {cfg : Config} (P : RState → Prop) (h0 : P (init cfg))
    (hstep : ∀ s ch op s' o, P s → step { s with oracle := ch } op = .ok (s', o) → P s')
    {s : RState} (hr : Reachable cfg s) : P s :=
  Router.Reachable.induction P h0 hstep hr

theorem Reachable.init (cfg : Config) : Reachable cfg (init cfg) := ⟨[], rfl⟩

theorem Reachable.step {cfg : Config} {s s' : RState} {ch : List Choice} {op : Op} {o : Out}
    (hr : Reachable cfg s) (h : Router.step { s with oracle := ch } op = .ok (s', o)) :
    Reachable cfg s' :=
  Router.Reachable.step hr h

end Rp3
end Router
