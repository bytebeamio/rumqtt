/-
`AdmInv`: the slab's free list is well formed, at most `max_connections` connections are live, `connectionMap` is a
bijection between their client ids and slab keys. It reads only `core` and client ids, so keeping it is a `LogFrame`
relation (`AdmInv.frame`); only removal (`AdmInv.hdFinal`) and registration (`AdmInv.register`) need a proof of their own.
-/
import Proofs.Lemmas.Router.Base.Conns
import Proofs.Lemmas.Router.Base.Connect
import Proofs.Lemmas.Router.Base.Reach
import Proofs.Lemmas.Router.Base.Walk
namespace Router

def ConnBound (s : RState) : Prop := s.conns.len ≤ s.config.maxConnections

def MapInv (s : RState) : Prop :=
  (∀ cid id, alookup cid s.connectionMap = some id → ∃ c, getConn s id = some c ∧ c.clientId = cid) ∧
  (∀ id c, getConn s id = some c → alookup c.clientId s.connectionMap = some id)

structure AdmInv (s : RState) : Prop where
  wf : s.conns.WF
  bound : ConnBound s
  map : MapInv s

theorem AdmInv.init (cfg : Config) : AdmInv (init cfg) where
  wf := Slab.wf_empty
  bound := by simp [ConnBound, Router.init, Slab.len]
  map := by
    exact ⟨fun cid id h => by simp [Router.init, alookup] at h, ConnAll.init cfg⟩

theorem AdmInv.oracle {s : RState} (h : AdmInv s) (o : List Choice) : AdmInv { s with oracle := o } :=
  ⟨h.wf, h.bound, h.map⟩

theorem AdmInv.congr {s s' : RState} (h : AdmInv s) (hc : s'.conns = s.conns) (hg : s'.config = s.config)
    (hm : s'.connectionMap = s.connectionMap) : AdmInv s' := by
  have hget : ∀ j, getConn s' j = getConn s j := getConn_congr hc
  refine ⟨by rw [hc]; exact h.wf, by unfold ConnBound; rw [hc, hg]; exact h.bound, ?_, ?_⟩
  · intro cid id hl; rw [hm] at hl; rw [hget]; exact h.map.1 cid id hl
  · intro id c hl; rw [hget] at hl; rw [hm]; exact h.map.2 id c hl

theorem AdmInv.data {s s' : RState} (h : AdmInv s) (d : DataStep s s') : AdmInv s' := by
  obtain ⟨_, _, _, _, rfl⟩ := d; exact h.congr rfl rfl rfl

theorem AdmInv.set {s : RState} {id : Nat} {c c' : Conn} (h : AdmInv s) (hc : getConn s id = some c)
    (hid : c'.clientId = c.clientId) : AdmInv (setConn s id c') := by
  have hg := fun j => getConn_of_set (s' := setConn s id c') hc rfl j
  refine ⟨Slab.wf_set hc _ h.wf, ?_, fun cid j hl => ?_, fun j d hl => ?_⟩
  · unfold ConnBound
    rw [show (setConn s id c').conns.len = s.conns.len from Slab.len_set_live hc c']; exact h.bound
  · obtain ⟨d, hd, e⟩ := h.map.1 cid j hl
    rw [hg]; split
    · rename_i ej; subst ej; cases hc.symm.trans hd; exact ⟨c', rfl, hid.trans e⟩
    · exact ⟨d, hd, e⟩
  · rw [hg] at hl; split at hl
    · rename_i ej; subst ej; cases hl; rw [hid]; exact h.map.2 _ c hc
    · exact h.map.2 j d hl

theorem AdmInv.frame : LogFrame (fun s s' => AdmInv s → AdmInv s') where
  refl := fun _ h => h
  trans := fun h1 h2 h => h2 (h1 h)
  side := fun e h => h.congr (congrArg (·.1) e) (congrArg (·.2.2.2.1) e) (congrArg (·.2.2.1) e)
  conn := fun hc e hid h =>
    (h.set hc hid).congr (congrArg (·.1) e) (congrArg (·.2.2.2.1) e) (congrArg (·.2.2.1) e)
  cache := fun h hi => hi.data (dlMatches_data h)
  newFilter := fun s f hi => hi.data (nextNativeOffset_data s f)
  append := fun h hi => hi.data (appendToFilter_data h)

theorem AdmInv.hdFinal {s : RState} {id : Nat} {c : Conn} (hi : AdmInv s) (hc : getConn s id = some c)
    (r : Option String) : AdmInv (hdFinal s id c r) := by
  have hF := hdFinal_fields s id c r
  have hg := hdFinal_getConn s id c r
  refine ⟨by rw [hF.conns]; exact Slab.wf_remove hc hi.wf, ?_, ?_, ?_⟩
  · unfold ConnBound; rw [hF.conns, hF.config]
    have := Slab.len_remove_live hc
    have := hi.bound; unfold ConnBound at this; omega
  · intro cid j hl
    rw [hF.connectionMap] at hl
    have hne : cid ≠ c.clientId := fun e => by rw [e, alookup_aremove_same] at hl; cases hl
    rw [alookup_aremove_ne _ _ hne] at hl
    obtain ⟨d, hd, e⟩ := hi.map.1 cid j hl
    have : j ≠ id := fun ej => by subst ej; rw [hc] at hd; cases hd; exact hne e.symm
    exact ⟨d, by rw [hg, if_neg this]; exact hd, e⟩
  · intro j d hl
    rw [hg] at hl
    split at hl
    · cases hl
    · rename_i hj
      have a := hi.map.2 j d hl
      have hne : d.clientId ≠ c.clientId := fun e => by
        have b := hi.map.2 id c hc
        rw [e, b] at a; exact hj (Option.some.inj a).symm
      rw [hF.connectionMap, alookup_aremove_ne _ _ hne]; exact a

theorem AdmInv.handleDisconnection {s s' : RState} {id : Nat} {r : Option String} (hi : AdmInv s)
    (h : handleDisconnection s id r = .ok s') : AdmInv s' := by
  rcases handleDisconnection_cases h with ⟨_, rfl⟩ | ⟨c, hc, hw⟩
  · exact hi
  · exact AdmInv.frame.wakeParked hw (hi.hdFinal hc r)

theorem hnTakeover_spec {s s1 : RState} {spec : ConnectSpec} (hi : AdmInv s) (h : hnTakeover s spec = .ok s1) :
    AdmInv s1 ∧ alookup spec.clientId s1.connectionMap = none ∧ s1.config = s.config := by
  rcases hnTakeover_cases h with ⟨hnone, rfl⟩ | ⟨old, hold, hd⟩
  · exact ⟨hi, hnone, rfl⟩
  · refine ⟨hi.handleDisconnection hd, ?_⟩
    obtain ⟨c, hc, e⟩ := hi.map.1 _ _ hold
    rcases handleDisconnection_cases hd with ⟨hn, _⟩ | ⟨c', hc', hw⟩
    · rw [hc] at hn; cases hn
    · cases hc.symm.trans hc'
      have hF := hdFinal_fields s old c none
      have sh := wakeParked_wakeFrame hw
      rw [sh.cmap, sh.config, hF.connectionMap, e]
      exact ⟨alookup_aremove_same _ _, hF.config⟩

theorem AdmInv.register {s s4 : RState} {cid : String} {conn conn' : Conn} (hi : AdmInv s)
    (hnone : alookup cid s.connectionMap = none) (hroom : s.conns.len < s.config.maxConnections)
    (hid : conn'.clientId = cid)
    (hc : s4.conns = (s.conns.insert conn).1.set (s.conns.insert conn).2 conn')
    (hm : s4.connectionMap = ainsert cid (s.conns.insert conn).2 s.connectionMap)
    (hg : s4.config = s.config) :
    AdmInv s4 ∧ getConn s (s.conns.insert conn).2 = none ∧ getConn s4 (s.conns.insert conn).2 = some conn' ∧
      ∀ j, j ≠ (s.conns.insert conn).2 → getConn s4 j = getConn s j := by
  obtain ⟨hvac, hget, hlen, hwf⟩ := Slab.insert_spec s.conns conn hi.wf
  generalize hk : (s.conns.insert conn).2 = k at *
  generalize hs1 : (s.conns.insert conn).1 = slab at *
  have hlive : slab.get? k = some conn := by rw [hget]; simp
  have hget4 : ∀ j, getConn s4 j = if j = k then some conn' else getConn s j := fun j => by
    unfold getConn; rw [hc, Slab.get?_set_live hlive, hget]
    by_cases e : j = k <;> simp [e]
  refine ⟨⟨by rw [hc]; exact Slab.wf_set hlive _ hwf, ?_, ?_, ?_⟩, hvac, by rw [hget4]; simp,
    fun j hj => by rw [hget4]; simp [hj]⟩
  · unfold ConnBound; rw [hc, Slab.len_set_live hlive, hlen, hg]; omega
  · intro c j hl
    rw [hm] at hl
    by_cases e : c = cid
    · subst e
      rw [alookup_ainsert_same] at hl
      simp only [Option.some.injEq] at hl; subst hl
      exact ⟨conn', by rw [hget4]; simp, hid⟩
    · rw [alookup_ainsert_ne _ _ _ _ e] at hl
      obtain ⟨d, hd, ed⟩ := hi.map.1 c j hl
      have : j ≠ k := fun ej => by subst ej; rw [show getConn s j = s.conns.get? j from rfl, hvac] at hd; simp at hd
      exact ⟨d, by rw [hget4]; simp [this, hd], ed⟩
  · intro j d hl
    rw [hget4] at hl
    by_cases e : j = k
    · subst e
      simp only [if_true, Option.some.injEq] at hl; subst hl
      rw [hm, hid, alookup_ainsert_same]
    · simp only [e, if_false] at hl
      have a := hi.map.2 j d hl
      have hne : d.clientId ≠ cid := fun ec => by rw [ec, hnone] at a; simp at a
      rw [hm, alookup_ainsert_ne _ _ _ _ hne]; exact a

/-- `handleNewConnection_rel` with `AdmInv` carried to the registration, where the client id is unmapped -/
theorem handleNewConnection_inv {I J : RState → Prop} {s s' : RState} {spec : ConnectSpec} (ha : AdmInv s)
    (link : I (setLink s spec.link {}))
    (takeover : ∀ {s1 id}, alookup spec.clientId s.connectionMap = some id →
      handleDisconnection (setLink s spec.link {}) id none = .ok s1 → I s1)
    (reject : ∀ {s1}, I s1 → J (s1.g (.notRegistered spec.link)))
    (register : ∀ {s1}, I s1 → hnTakeover (setLink s spec.link {}) spec = .ok s1 → AdmInv s1 →
      alookup spec.clientId s1.connectionMap = none → s1.conns.len < s1.config.maxConnections →
      reschedule (hnPre s1 spec) (hnKey s1 spec) .init = .ok s' → J s')
    (h : handleNewConnection s spec = .ok s') : J s' :=
  handleNewConnection_rel link takeover reject (fun i ht hroom hr =>
    have ⟨a1, hnone, _⟩ := hnTakeover_spec (s := setLink s spec.link {}) (ha.congr rfl rfl rfl) ht
    register i ht a1 hnone hroom hr) h

structure NewSlot (s : RState) (spec : ConnectSpec) : Prop where
  adm : AdmInv (hnPre s spec)
  vacant : getConn s (hnKey s spec) = none
  new : getConn (hnPre s spec) (hnKey s spec) = some (hnNew s spec)
  old : ∀ j, j ≠ hnKey s spec → getConn (hnPre s spec) j = getConn s j

theorem hnPre_getConn {s : RState} {spec : ConnectSpec} (hi : AdmInv s)
    (hnone : alookup spec.clientId s.connectionMap = none) (hroom : s.conns.len < s.config.maxConnections) :
    NewSlot s spec :=
  have ⟨a, hvac, hnew, hold⟩ := AdmInv.register (conn' := hnNew s spec) (s4 := hnPre s spec) hi hnone hroom rfl rfl rfl rfl
  ⟨a, hvac, hnew, hold⟩

theorem ConnAll.hnPre {P : Nat → Conn → Prop} {s : RState} {spec : ConnectSpec} (h : ConnAll P s) (ha : AdmInv s)
    (hnone : alookup spec.clientId s.connectionMap = none) (hroom : s.conns.len < s.config.maxConnections)
    (hnew : P (hnKey s spec) (hnNew s spec)) : ConnAll P (hnPre s spec) := fun j d hd => by
  have sl := hnPre_getConn ha hnone hroom
  by_cases e : j = hnKey s spec
  · subst e; rw [sl.new] at hd; cases hd; exact hnew
  · rw [sl.old j e] at hd; exact h j d hd

theorem AdmInv.handleNewConnection {s s' : RState} {spec : ConnectSpec} (hi : AdmInv s)
    (h : handleNewConnection s spec = .ok s') : AdmInv s' :=
  have h0 : AdmInv (setLink s spec.link {}) := hi.congr rfl rfl rfl
  handleNewConnection_inv (I := AdmInv) hi h0 (fun _ => h0.handleDisconnection)
    (fun i => i.congr rfl rfl rfl)
    (fun _ _ a1 hnone hroom hr => AdmInv.frame.reschedule hr (hnPre_getConn a1 hnone hroom).adm) h

theorem AdmInv.step {s s' : RState} {op : Op} {out : Out} (hi : AdmInv s) (h : step s op = .ok (s', out)) :
    AdmInv s' :=
  AdmInv.frame.step (fun hd hi => hi.handleDisconnection hd) (fun _ _ h1 hi => hi.handleNewConnection h1) h hi

theorem AdmInv.events {s s' : RState} {id : Nat} {ev : Event} (hi : AdmInv s) (h : events s id ev = .ok s') :
    AdmInv s' :=
  hi.step (op := .event id ev) (out := .ok) (by simp only [Router.step, h])

theorem AdmInv.consume {s s' : RState} {b : Bool} (hi : AdmInv s) (h : consume s = .ok (s', b)) : AdmInv s' :=
  AdmInv.frame.consume h hi

theorem AdmInv.reachable {cfg : Config} {s : RState} (hr : Reachable cfg s) : AdmInv s :=
  hr.induction AdmInv (AdmInv.init cfg) fun _ o _ _ _ hi h => (hi.oracle o).step h

end Router
