/-
Association lists as the model uses them for its hash maps (`String` keys; `nlookup`/`ninsert`: `Nat` keys). Membership
after an update is an equivalence, so "every entry satisfies `P`" is carried across updates. At the end three facts about
positions in a plain list, which ServerWill shares.
-/
import Model.Router.Types
namespace Router
variable {β : Type}

theorem alookup_map_replace (k : String) (v : β) : ∀ (l : List (String × β)),
    alookup k (l.map (fun p => if p.1 = k then (k, v) else p)) = (alookup k l).map (fun _ => v)
  | [] => rfl
  | (k', v') :: r => by
    by_cases h : k' = k
    · subst h; simp [alookup]
    · simp [alookup, h, alookup_map_replace k v r]

theorem alookup_append (k : String) (l r : List (String × β)) :
    alookup k (l ++ r) = (alookup k l).or (alookup k r) := by
  induction l with
  | nil => simp [alookup]
  | cons a l ih =>
    obtain ⟨k', v'⟩ := a
    by_cases h : k' = k
    · simp [alookup, h]
    · simp [alookup, h, ih]

theorem alookup_ainsert_same (k : String) (v : β) (l : List (String × β)) :
    alookup k (ainsert k v l) = some v := by
  unfold ainsert
  cases h : alookup k l with
  | none => simp [alookup_append, h, alookup]
  | some w => simp [alookup_map_replace, h]

theorem alookup_map_replace_ne (k k' : String) (v : β) (hne : k' ≠ k) : ∀ (l : List (String × β)),
    alookup k' (l.map (fun p => if p.1 = k then (k, v) else p)) = alookup k' l
  | [] => rfl
  | (a, b) :: r => by
    by_cases h : a = k
    · subst h
      have : ¬ a = k' := fun e => hne e.symm
      simp [alookup, this, alookup_map_replace_ne a k' v hne r]
    · by_cases h2 : a = k'
      · subst h2; simp [alookup, h]
      · simp [alookup, h, h2, alookup_map_replace_ne k k' v hne r]

theorem alookup_ainsert_ne (k k' : String) (v : β) (l : List (String × β)) (hne : k' ≠ k) :
    alookup k' (ainsert k v l) = alookup k' l := by
  unfold ainsert
  split
  · exact alookup_map_replace_ne k k' v hne l
  · have : ¬ k = k' := fun e => hne e.symm
    simp [alookup_append, alookup, this]

theorem alookup_aremove_same (k : String) : ∀ (l : List (String × β)), alookup k (aremove k l) = none
  | [] => rfl
  | (a, b) :: r => by
    have ih := alookup_aremove_same k r
    simp only [aremove, ne_eq, decide_not] at ih ⊢
    by_cases h : a = k
    · simp [h, ih]
    · simp [h, alookup, ih]

theorem alookup_aremove_ne (k k' : String) (hne : k' ≠ k) : ∀ (l : List (String × β)),
    alookup k' (aremove k l) = alookup k' l
  | [] => rfl
  | (a, b) :: r => by
    have ih := alookup_aremove_ne k k' hne r
    simp only [aremove, ne_eq, decide_not] at ih ⊢
    by_cases h : a = k
    · subst h
      have : ¬ a = k' := fun e => hne e.symm
      simp [alookup, this, ih]
    · by_cases h2 : a = k'
      · subst h2; simp [h, alookup]
      · simp [h, alookup, h2, ih]

theorem alookup_ainsert (k k' : String) (v : β) (l : List (String × β)) :
    alookup k' (ainsert k v l) = if k' = k then some v else alookup k' l := by
  split
  · rename_i h; subst h; exact alookup_ainsert_same _ _ _
  · rename_i h; exact alookup_ainsert_ne _ _ _ _ h

theorem alookup_aremove (k k' : String) (l : List (String × β)) :
    alookup k' (aremove k l) = if k' = k then none else alookup k' l := by
  split
  · rename_i h; subst h; exact alookup_aremove_same _ _
  · rename_i h; exact alookup_aremove_ne _ _ h _

theorem alookup_aremove_some {k k' : String} {l : List (String × β)} {u : β}
    (h : alookup k' (aremove k l) = some u) : alookup k' l = some u := by
  rw [alookup_aremove] at h; split at h
  · cases h
  · exact h

theorem alookup_map_key (k : String) (g : String × β → String × β) (hg : ∀ p, (g p).1 = p.1) :
    ∀ l : List (String × β), alookup k (l.map g) = (alookup k l).map fun v => (g (k, v)).2
  | [] => rfl
  | (a, b) :: r => by
    have e : g (a, b) = (a, (g (a, b)).2) := Prod.ext (hg _) rfl
    rw [List.map_cons, e]
    by_cases h : a = k
    · subst h; simp [alookup]
    · simp [alookup, h, alookup_map_key k g hg r]

theorem alookup_eq_none_iff {k : String} : ∀ {l : List (String × β)}, alookup k l = none ↔ ∀ p ∈ l, p.1 ≠ k
  | [] => by simp [alookup]
  | (k', v) :: r => by
    simp only [alookup]
    split
    · rename_i e; simp [e]
    · rename_i e
      rw [alookup_eq_none_iff (l := r)]
      simp [e]

theorem alookup_eq_none_iff_keys {k : String} {l : List (String × β)} : alookup k l = none ↔ k ∉ l.map (·.1) := by
  rw [alookup_eq_none_iff, List.mem_map]
  exact ⟨fun h ⟨p, hp, e⟩ => h p hp e, fun h p hp e => h ⟨p, hp, e⟩⟩

theorem mem_of_alookup_eq_some {k : String} {v : β} : ∀ {l : List (String × β)}, alookup k l = some v → (k, v) ∈ l
  | [], h => by simp [alookup] at h
  | (k', v') :: r, h => by
    simp only [alookup] at h
    split at h
    · rename_i e; simp only [Option.some.injEq] at h; subst e h; simp
    · exact List.mem_cons_of_mem _ (mem_of_alookup_eq_some h)

theorem alookup_eq_some_of_mem {k : String} {v : β} : ∀ {l : List (String × β)}, (l.map (·.1)).Nodup →
    (k, v) ∈ l → alookup k l = some v
  | [], _, h => by cases h
  | (k', v') :: r, hn, h => by
    simp only [List.map_cons, List.nodup_cons] at hn
    simp only [alookup]
    rcases List.mem_cons.mp h with e | h
    · cases e; simp
    · split
      · rename_i e
        exact absurd (List.mem_map.mpr ⟨(k, v), h, e.symm⟩) hn.1
      · exact alookup_eq_some_of_mem hn.2 h

theorem mem_ainsert_iff {k : String} {v : β} {l : List (String × β)} {p : String × β} :
    p ∈ ainsert k v l ↔ (p ∈ l ∧ p.1 ≠ k) ∨ p = (k, v) := by
  unfold ainsert
  split
  · rename_i hk
    obtain ⟨w, hw⟩ := Option.isSome_iff_exists.mp hk
    constructor
    · intro h
      obtain ⟨q, hq, e⟩ := List.mem_map.mp h
      split at e
      · exact .inr e.symm
      · rename_i hne; exact .inl ⟨e ▸ hq, e ▸ hne⟩
    · rintro (⟨hp, hne⟩ | rfl)
      · exact List.mem_map.mpr ⟨p, hp, by rw [if_neg hne]⟩
      · exact List.mem_map.mpr ⟨(k, w), mem_of_alookup_eq_some hw, by rw [if_pos rfl]⟩
  · rename_i hk
    have hn : alookup k l = none := by simpa using hk
    rw [List.mem_append, List.mem_singleton]
    exact or_congr_left ⟨fun h => ⟨h, alookup_eq_none_iff.mp hn p h⟩, fun h => h.1⟩

theorem mem_aremove_iff {k : String} {l : List (String × β)} {p : String × β} :
    p ∈ aremove k l ↔ p ∈ l ∧ p.1 ≠ k := by
  unfold aremove; rw [List.mem_filter]; simp

theorem forall_ainsert {P : String × β → Prop} {k : String} {v : β} {l : List (String × β)}
    (h : ∀ p ∈ l, P p) (hv : P (k, v)) : ∀ p ∈ ainsert k v l, P p := fun p hp =>
  (mem_ainsert_iff.mp hp).elim (fun a => h p a.1) fun e => e ▸ hv

theorem forall_aremove {P : String × β → Prop} {k : String} {l : List (String × β)} (h : ∀ p ∈ l, P p) :
    ∀ p ∈ aremove k l, P p := fun p hp => h p (mem_aremove_iff.mp hp).1

theorem map_fst_ainsert (k : String) (v : β) (l : List (String × β)) :
    (ainsert k v l).map (·.1) = if (alookup k l).isSome then l.map (·.1) else l.map (·.1) ++ [k] := by
  unfold ainsert
  split
  · rw [List.map_map]
    refine List.map_congr_left fun p _ => ?_
    simp only [Function.comp]
    split
    · rename_i e; exact e.symm
    · rfl
  · simp

theorem nodup_map_fst_ainsert {k : String} {v : β} {l : List (String × β)} (h : (l.map (·.1)).Nodup) :
    ((ainsert k v l).map (·.1)).Nodup := by
  rw [map_fst_ainsert]
  split
  · exact h
  · rename_i hk
    have hn : alookup k l = none := by simpa using hk
    refine List.nodup_append.mpr ⟨h, by simp, fun a ha b hb => ?_⟩
    rw [List.mem_singleton.mp hb]
    exact fun e => alookup_eq_none_iff_keys.mp hn (e ▸ ha)

theorem nodup_map_fst_aremove (k : String) {l : List (String × β)} (h : (l.map (·.1)).Nodup) :
    ((aremove k l).map (·.1)).Nodup :=
  List.Nodup.sublist (List.Sublist.map _ List.filter_sublist) h

theorem nlookup_append (k : Nat) (l r : List (Nat × β)) :
    nlookup k (l ++ r) = (nlookup k l).or (nlookup k r) := by
  induction l with
  | nil => simp [nlookup]
  | cons a l ih =>
    obtain ⟨k', v'⟩ := a
    by_cases h : k' = k
    · simp [nlookup, h]
    · simp [nlookup, h, ih]

theorem nlookup_map_replace (k fi : Nat) (v : β) : ∀ (l : List (Nat × β)),
    nlookup k (l.map (fun p => if p.1 = fi then (fi, v) else p)) =
      if k = fi then (nlookup k l).map (fun _ => v) else nlookup k l
  | [] => by simp [nlookup]
  | (a, b) :: r => by
    have ih := nlookup_map_replace k fi v r
    by_cases h : a = fi
    · subst h
      by_cases hk : a = k
      · subst hk; simp [nlookup]
      · have hk' : ¬ k = a := fun e => hk e.symm
        simp only [List.map_cons, if_true, nlookup, hk, if_false, ih, hk']
    · by_cases hk : a = k
      · subst hk
        simp [nlookup, h]
      · simp only [List.map_cons, h, if_false, nlookup, hk, ih]

theorem nlookup_ninsert_same (k : Nat) (v : β) (l : List (Nat × β)) :
    nlookup k (ninsert k v l) = some v := by
  unfold ninsert
  cases h : nlookup k l with
  | none => simp [nlookup_append, h, nlookup]
  | some w => simp [nlookup_map_replace, h]

theorem nlookup_ninsert_ne (k k' : Nat) (v : β) (l : List (Nat × β)) (hne : k' ≠ k) :
    nlookup k' (ninsert k v l) = nlookup k' l := by
  unfold ninsert
  split
  · rw [nlookup_map_replace, if_neg hne]
  · have : ¬ k = k' := fun e => hne e.symm
    simp [nlookup_append, nlookup, this]

theorem nlookup_eq_none_iff {k : Nat} : ∀ {l : List (Nat × β)}, nlookup k l = none ↔ ∀ p ∈ l, p.1 ≠ k
  | [] => by simp [nlookup]
  | (k', v) :: r => by
    simp only [nlookup]
    split
    · rename_i e; simp [e]
    · rename_i e
      rw [nlookup_eq_none_iff (l := r)]
      simp [e]

theorem mem_of_nlookup_eq_some {k : Nat} {v : β} : ∀ {l : List (Nat × β)}, nlookup k l = some v → (k, v) ∈ l
  | [], h => by simp [nlookup] at h
  | (k', v') :: r, h => by
    simp only [nlookup] at h
    split at h
    · rename_i e; simp only [Option.some.injEq] at h; subst e h; simp
    · exact List.mem_cons_of_mem _ (mem_of_nlookup_eq_some h)

theorem mem_ninsert_iff {k : Nat} {v : β} {l : List (Nat × β)} {p : Nat × β} :
    p ∈ ninsert k v l ↔ (p ∈ l ∧ p.1 ≠ k) ∨ p = (k, v) := by
  unfold ninsert
  split
  · rename_i hk
    obtain ⟨w, hw⟩ := Option.isSome_iff_exists.mp hk
    constructor
    · intro h
      obtain ⟨q, hq, e⟩ := List.mem_map.mp h
      split at e
      · exact .inr e.symm
      · rename_i hne; exact .inl ⟨e ▸ hq, e ▸ hne⟩
    · rintro (⟨hp, hne⟩ | rfl)
      · exact List.mem_map.mpr ⟨p, hp, by rw [if_neg hne]⟩
      · exact List.mem_map.mpr ⟨(k, w), mem_of_nlookup_eq_some hw, by rw [if_pos rfl]⟩
  · rename_i hk
    have hn : nlookup k l = none := by simpa using hk
    rw [List.mem_append, List.mem_singleton]
    exact or_congr_left ⟨fun h => ⟨h, nlookup_eq_none_iff.mp hn p h⟩, fun h => h.1⟩

theorem lt_of_getElem?_some {α} {l : List α} {t : Nat} {x : α} (h : l[t]? = some x) : t < l.length :=
  (List.getElem?_eq_some_iff.mp h).1

theorem getElem?_set_some {α} {l : List α} {o t : Nat} {x x' y : α} (hx : l[o]? = some x) :
    (l.set o x')[t]? = some y ↔ (t = o ∧ y = x') ∨ (t ≠ o ∧ l[t]? = some y) := by
  rw [List.getElem?_set]
  by_cases h : o = t
  · subst h; simp [lt_of_getElem?_some hx, eq_comm]
  · simp [h, Ne.symm h]

theorem getElem?_append_one {α} {l : List α} {f y : α} {t : Nat} :
    (l ++ [f])[t]? = some y ↔ l[t]? = some y ∨ (t = l.length ∧ y = f) := by
  rcases Nat.lt_trichotomy t l.length with h | h | h
  · simp [List.getElem?_append_left h, Nat.ne_of_lt h]
  · subst h; simp [eq_comm]
  · rw [List.getElem?_eq_none (by simp; omega), List.getElem?_eq_none (by omega)]; simp; omega

end Router
