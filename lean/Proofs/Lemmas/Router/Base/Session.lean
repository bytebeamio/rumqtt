/-
The pieces of the record `hdFinal_eq_record` (Base/Decomp: the state `handle_disconnection` builds), up to the
reordering of `swap_remove_back`.
-/
import Proofs.Lemmas.Router.Base.Effect
import Proofs.Lemmas.Router.Base.Groups
namespace Router

theorem dropWaiters_perm (id : Nat) (fd : FilterData) :
    (dropWaiters id fd).waiters.Perm (fd.waiters.filter (fun w => !(w.1 == id))) :=
  (waitersRemove_perm_filter id _ fd.waiters []
    (Nat.le_trans (List.length_filter_le _ _) (Nat.le_succ _))).1

theorem parkedOf_perm (id : Nat) (fd : FilterData) :
    (parkedOf id fd).Perm ((fd.waiters.filter (fun w => w.1 == id)).map (·.2)) :=
  (waitersRemove_perm_filter id _ fd.waiters []
    (Nat.le_trans (List.length_filter_le _ _) (Nat.le_succ _))).2

theorem dropWaiters_sub (id : Nat) (fd : FilterData) : ∀ w ∈ (dropWaiters id fd).waiters, w ∈ fd.waiters :=
  fun _ hw => (List.mem_filter.mp ((dropWaiters_perm id fd).mem_iff.mp hw)).1

theorem mem_of_mem_parkedOf {id : Nat} {fd : FilterData} {r : DataRequest} (h : r ∈ parkedOf id fd) : (id, r) ∈ fd.waiters := by
  obtain ⟨w, hw, rfl⟩ := List.mem_map.mp ((parkedOf_perm id fd).subset h)
  obtain ⟨hm, e⟩ := List.mem_filter.mp hw
  rw [← show w.1 = id from by simpa using e]; exact hm

namespace Rp3

/-- the cursor a saved request resumes from: the retransmission point of its filter if one exists -/
def rewindOne (retx : List (Nat × Cursor)) (r : DataRequest) : DataRequest :=
  match nlookup r.filterIdx retx with
  | none => r
  | some c => { r with cursor := c }

theorem rewindOne_fields (retx : List (Nat × Cursor)) (r : DataRequest) :
    (rewindOne retx r).filter = r.filter ∧ (rewindOne retx r).filterIdx = r.filterIdx ∧
    (rewindOne retx r).qos = r.qos ∧ (rewindOne retx r).group = r.group ∧
    (rewindOne retx r).forwardRetained = r.forwardRetained ∧
    (rewindOne retx r).cursor = (match nlookup r.filterIdx retx with | some c => c | none => r.cursor) := by
  unfold rewindOne
  cases nlookup r.filterIdx retx <;> exact ⟨rfl, rfl, rfl, rfl, rfl, rfl⟩

end Rp3

theorem hdSavedOf_reqs (s : RState) (id : Nat) (c : Conn) :
    (hdSavedOf s id c).2 = ((c.tracker.requests ++ (datalogClean s.datalog id).2).map (atGroupCursor s.shared)).map
      (Rp3.rewindOne (retransmissionMap c.out.inflight [])) := by
  unfold hdSavedOf
  rw [rewindRequests_reqs, List.nil_append, datalogClean_map]
  rfl

theorem hdMoved_eq (s : RState) (id : Nat) (c : Conn) (r : Option String) :
    hdMoved (hdNotify s c r) id c =
      if !c.clean then
        turnMovedLogs (datalogClean s.datalog id).1 s.shared c.clientId ++
          rewoundLogs (removeFromGroups s.shared c.clientId) (retransmissionMap c.out.inflight [])
            ((c.tracker.requests ++ (datalogClean s.datalog id).2).map (atGroupCursor s.shared))
      else turnMovedLogs (datalogClean s.datalog id).1 s.shared c.clientId := by
  obtain ⟨l, e⟩ := hdNotify_upd s c r
  rw [e]
  rfl

theorem forall_saved {P : SessionState → Prop} {g : List (String × Option SessionState)} (s : RState) (id : Nat) (c : Conn)
    (h : ∀ p ∈ g, ∀ ss, p.2 = some ss → P ss)
    (hnew : c.clean = false →
      P ({ tracker := { c.tracker with requests := (hdSavedOf s id c).2, status := .paused .busy },
           subscriptions := c.subscriptions, unackedPubrels := c.out.unackedPubrels } : SessionState)) :
    ∀ p ∈ ainsert c.clientId (hdSession s id c) g, ∀ ss, p.2 = some ss → P ss :=
  forall_ainsert h fun ss hss => by
    obtain ⟨hcl, rfl⟩ := hdSession_some_iff.mp hss
    exact hnew hcl

end Router
