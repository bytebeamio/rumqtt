/-
The window of a connection (`Outgoing`) under what changes it: the numbering of a sweep's forwards, an ack, an UNSUBSCRIBE
(after which entries may have forgotten their cursor: `Forgets`); and what `retransmission_map` reads off it.
-/
import Model.Router.Step
import Proofs.Lemmas.Router.Base.Assoc
namespace Router

/-- `push_forwards` for QoS > 0 -/
theorem numberForwards_shape (fi : Nat) : ∀ (ps : List (Pub × Option Cursor)) (o : Outgoing) (acc : List Notif),
    ∃ pks : List Nat, pks.length = ps.length ∧
      (numberForwards o fi ps acc).1.inflight = o.inflight ++ (pks.zip ps).map (fun x => (x.1, fi, x.2.2)) ∧
      (numberForwards o fi ps acc).2 = acc ++ (pks.zip ps).map (fun x => Notif.forward { x.2.1 with pkid := x.1 } x.2.2) ∧
      (o.lastPkid < MAX_INFLIGHT → ∀ pk ∈ pks, 1 ≤ pk ∧ pk ≤ MAX_INFLIGHT)
  | [], o, acc => ⟨[], rfl, by simp [numberForwards], by simp [numberForwards], fun _ _ h => by cases h⟩
  | (p, c) :: rest, o, acc => by
    obtain ⟨pks, hl, h1, h2, h3⟩ := numberForwards_shape fi rest
      { o with inflight := o.inflight ++ [(o.lastPkid + 1, fi, c)],
               lastPkid := if o.lastPkid + 1 = MAX_INFLIGHT then 0 else o.lastPkid + 1 }
      (acc ++ [Notif.forward { p with pkid := o.lastPkid + 1 } c])
    refine ⟨(o.lastPkid + 1) :: pks, by simp [hl], ?_, ?_, fun hlt pk hpk => ?_⟩
    · simp only [numberForwards]; rw [h1]; simp
    · simp only [numberForwards]; rw [h2]; simp
    · rcases List.mem_cons.mp hpk with rfl | hpk
      · omega
      · refine h3 ?_ pk hpk
        show (if o.lastPkid + 1 = MAX_INFLIGHT then 0 else o.lastPkid + 1) < MAX_INFLIGHT
        split
        · simp [MAX_INFLIGHT]
        · omega

theorem numberForwards_lengths (fi : Nat) (ps : List (Pub × Option Cursor)) (o : Outgoing) (acc : List Notif) :
    (numberForwards o fi ps acc).1.inflight.length = o.inflight.length + ps.length ∧
    (numberForwards o fi ps acc).2.length = acc.length + ps.length := by
  obtain ⟨pks, hl, h1, h2, _⟩ := numberForwards_shape fi ps o acc
  rw [h1, h2]; simp [hl]

/-- the notifications seen through a projection that does not look at the packet id -/
theorem numberForwards_map {α : Type} {π : Notif → α} {g : Pub × Option Cursor → α}
    (h : ∀ p c k, π (.forward { p with pkid := k } c) = g (p, c))
    (fi : Nat) (ps : List (Pub × Option Cursor)) (o : Outgoing) (acc : List Notif) :
    (numberForwards o fi ps acc).2.map π = acc.map π ++ ps.map g := by
  obtain ⟨pks, hl, _, h2, _⟩ := numberForwards_shape fi ps o acc
  rw [h2, List.map_append, List.map_map]
  refine congrArg _ ?_
  calc _ = (pks.zip ps).map (g ∘ Prod.snd) := List.map_congr_left fun x _ => h x.2.1 x.2.2 x.1
    _ = _ := by rw [← List.map_map, List.map_snd_zip (by omega)]

theorem registerAck_spec (o : Outgoing) (pkid : Nat) :
    ((o.registerAck pkid).2 = true ↔ ∃ fi c rest, o.inflight = (pkid, fi, c) :: rest) ∧
    ((o.registerAck pkid).2 = true → (o.registerAck pkid).1.inflight = o.inflight.drop 1) ∧
    ((o.registerAck pkid).2 = false → (o.registerAck pkid).1 = o) := by
  unfold Outgoing.registerAck
  cases h : o.inflight with
  | nil => simp
  | cons hd tl =>
    obtain ⟨a, b, c⟩ := hd
    by_cases e : a = pkid
    · subst e; simp
    · simp [e]

theorem registerPubcomp_out (o : Outgoing) (pkid : Nat) :
    (o.registerPubcomp pkid).1.inflight = o.inflight ∧ (o.registerPubcomp pkid).1.lastPkid = o.lastPkid := by
  unfold Outgoing.registerPubcomp; split
  · exact ⟨rfl, rfl⟩
  · split <;> exact ⟨rfl, rfl⟩

theorem registerAck_dropN (o : Outgoing) (pkid : Nat) :
    ∃ n, (o.registerAck pkid).1.inflight = o.inflight.drop n ∧ (o.registerAck pkid).1.lastPkid = o.lastPkid := by
  unfold Outgoing.registerAck
  split
  · exact ⟨0, by simp, rfl⟩
  · rename_i h a b rest heq
    split
    · exact ⟨1, by simp [heq], rfl⟩
    · exact ⟨0, by simp, rfl⟩


def EForget (e e' : Nat × Nat × Option Cursor) : Prop :=
  e'.1 = e.1 ∧ e'.2.1 = e.2.1 ∧ (e'.2.2 = e.2.2 ∨ e'.2.2 = none)

/-- entry by entry: packet id and filter index stay, the cursor stays or is forgotten -/
def Forgets : List (Nat × Nat × Option Cursor) → List (Nat × Nat × Option Cursor) → Prop
  | [], [] => True
  | e :: l, e' :: l' => EForget e e' ∧ Forgets l l'
  | [], _ :: _ => False
  | _ :: _, [] => False

theorem EForget.refl (e : Nat × Nat × Option Cursor) : EForget e e := ⟨rfl, rfl, .inl rfl⟩
theorem EForget.trans {a b c : Nat × Nat × Option Cursor} (h1 : EForget a b) (h2 : EForget b c) : EForget a c :=
  ⟨h2.1.trans h1.1, h2.2.1.trans h1.2.1, by
    rcases h2.2.2 with e | e
    · rcases h1.2.2 with e' | e'
      · exact .inl (e.trans e')
      · exact .inr (e.trans e')
    · exact .inr e⟩

theorem Forgets.refl : ∀ l, Forgets l l
  | [] => trivial
  | e :: l => ⟨EForget.refl e, Forgets.refl l⟩

theorem Forgets.of_eq {l l' : List (Nat × Nat × Option Cursor)} (h : l' = l) : Forgets l l' := h ▸ Forgets.refl l

theorem Forgets.trans : ∀ {a b c : List (Nat × Nat × Option Cursor)}, Forgets a b → Forgets b c → Forgets a c
  | [], [], [], _, _ => trivial
  | _ :: _, _ :: _, _ :: _, h1, h2 => ⟨h1.1.trans h2.1, Forgets.trans h1.2 h2.2⟩
  | [], _ :: _, _, h1, _ => h1.elim
  | _ :: _, [], _, h1, _ => h1.elim
  | [], [], _ :: _, _, h2 => h2.elim
  | _ :: _, _ :: _, [], _, h2 => h2.elim

theorem Forgets.length : ∀ {l l' : List (Nat × Nat × Option Cursor)}, Forgets l l' → l'.length = l.length
  | [], [], _ => rfl
  | _ :: _, _ :: _, h => by simp [Forgets.length h.2]
  | [], _ :: _, h => h.elim
  | _ :: _, [], h => h.elim

theorem Forgets.drop : ∀ {l l' : List (Nat × Nat × Option Cursor)} (n : Nat), Forgets l l' →
    Forgets (l.drop n) (l'.drop n)
  | _, _, 0, h => by simpa using h
  | [], [], _ + 1, _ => by simp [Forgets]
  | _ :: _, _ :: _, n + 1, h => by simpa using Forgets.drop n h.2
  | [], _ :: _, _ + 1, h => h.elim
  | _ :: _, [], _ + 1, h => h.elim

theorem Forgets.getElem? : ∀ {l l' : List (Nat × Nat × Option Cursor)} {k : Nat} {e' : Nat × Nat × Option Cursor},
    Forgets l l' → l'[k]? = some e' → ∃ e, l[k]? = some e ∧ EForget e e'
  | [], [], _, _, _, hk => by simp at hk
  | e :: _, _ :: _, 0, _, h, hk => by
    simp only [List.getElem?_cons_zero, Option.some.injEq] at hk; subst hk
    exact ⟨e, by simp, h.1⟩
  | _ :: _, _ :: _, k + 1, _, h, hk => by
    simp only [List.getElem?_cons_succ] at hk ⊢
    exact Forgets.getElem? h.2 hk
  | [], _ :: _, _, _, h, _ => h.elim
  | _ :: _, [], _, _, h, _ => h.elim

theorem Forgets.keys : ∀ {l l' : List (Nat × Nat × Option Cursor)}, Forgets l l' →
    l'.map (fun e => (e.1, e.2.1)) = l.map (fun e => (e.1, e.2.1))
  | [], [], _ => rfl
  | _ :: _, _ :: _, h => by
    simp only [List.map_cons, List.cons.injEq, Prod.mk.injEq]
    exact ⟨⟨h.1.1, h.1.2.1⟩, Forgets.keys h.2⟩
  | [], _ :: _, h => h.elim
  | _ :: _, [], h => h.elim

theorem Forgets.pkids {l l' : List (Nat × Nat × Option Cursor)} (h : Forgets l l') :
    l'.map (·.1) = l.map (·.1) := by
  have := congrArg (List.map Prod.fst) h.keys
  simpa [List.map_map, Function.comp_def] using this

theorem Forgets.nil_iff {l' : List (Nat × Nat × Option Cursor)} : Forgets [] l' ↔ l' = [] := by
  cases l' <;> simp [Forgets]

theorem Forgets.forgetCursors (o : Outgoing) (fi : Nat) : Forgets o.inflight (o.forgetCursors fi).inflight := by
  unfold Outgoing.forgetCursors
  simp only
  induction o.inflight with
  | nil => trivial
  | cons e l ih =>
    refine ⟨?_, ih⟩
    by_cases he : e.2.1 = fi
    · simp only [he, if_true]; exact ⟨rfl, he.symm, .inr rfl⟩
    · simp only [he, if_false]; exact EForget.refl e

theorem forgetCursors_rest (o : Outgoing) (fi : Nat) :
    (o.forgetCursors fi).lastPkid = o.lastPkid ∧ (o.forgetCursors fi).unackedPubrels = o.unackedPubrels := ⟨rfl, rfl⟩

theorem unsubOut_spec (d : DataLog) (subs : List String) (o : Outgoing) (f : String) :
    Forgets o.inflight (unsubOut d subs o f).inflight ∧ (unsubOut d subs o f).lastPkid = o.lastPkid ∧
    (unsubOut d subs o f).unackedPubrels = o.unackedPubrels := by
  unfold unsubOut
  split
  · exact ⟨Forgets.refl _, rfl, rfl⟩
  · split
    · exact ⟨Forgets.refl _, rfl, rfl⟩
    · exact ⟨Forgets.forgetCursors o _, rfl, rfl⟩

def Outgoing.forgot (o o' : Outgoing) : Prop :=
  Forgets o.inflight o'.inflight ∧ o'.lastPkid = o.lastPkid ∧ o'.unackedPubrels = o.unackedPubrels

theorem Outgoing.forgot_refl (o : Outgoing) : o.forgot o := ⟨Forgets.refl _, rfl, rfl⟩
theorem Outgoing.forgot_trans {a b c : Outgoing} (h1 : a.forgot b) (h2 : b.forgot c) : a.forgot c :=
  ⟨h1.1.trans h2.1, h2.2.1.trans h1.2.1, h2.2.2.trans h1.2.2⟩
theorem Outgoing.forgot_of_eq {o o' : Outgoing} (h : o' = o) : o.forgot o' := h ▸ o.forgot_refl

/-- tuple order of cursors `(segment, offset)` (the order of `cursorMin`, Rust's `Ord` on `(u64, u64)`) -/
def cursorLe (a b : Cursor) : Prop := a.1 < b.1 ∨ (a.1 = b.1 ∧ a.2 ≤ b.2)

theorem cursorLe_refl (a : Cursor) : cursorLe a a := .inr ⟨rfl, Nat.le_refl _⟩

theorem cursorLe_trans {a b c : Cursor} (h1 : cursorLe a b) (h2 : cursorLe b c) : cursorLe a c := by
  unfold cursorLe at *
  rcases h1 with h1 | ⟨e1, l1⟩ <;> rcases h2 with h2 | ⟨e2, l2⟩
  · exact .inl (by omega)
  · exact .inl (by omega)
  · exact .inl (by omega)
  · exact .inr ⟨by omega, by omega⟩

theorem cursorMin_le_left (a b : Cursor) : cursorLe (cursorMin a b) a := by
  unfold cursorMin
  split
  · exact cursorLe_refl a
  · rename_i h
    simp only [Bool.or_eq_true, decide_eq_true_eq, Bool.and_eq_true, beq_iff_eq, not_or, not_and, Nat.not_lt, Nat.not_le] at h
    unfold cursorLe
    by_cases e : b.1 = a.1
    · exact .inr ⟨e, Nat.le_of_lt (h.2 e.symm)⟩
    · exact .inl (by omega)

theorem cursorMin_le_right (a b : Cursor) : cursorLe (cursorMin a b) b := by
  unfold cursorMin
  split
  · rename_i h
    simp only [Bool.or_eq_true, decide_eq_true_eq, Bool.and_eq_true, beq_iff_eq] at h
    exact h
  · exact cursorLe_refl b

theorem cursorLe_antisymm {a b : Cursor} (h1 : cursorLe a b) (h2 : cursorLe b a) : a = b := by
  unfold cursorLe at h1 h2
  exact Prod.ext (by omega) (by omega)

namespace Rp3

/-! `retransmission_map` keeps the LEAST cursor per filter index -/

theorem cursorMin_cases (a b : Cursor) : cursorMin a b = a ∨ cursorMin a b = b := by
  unfold cursorMin; split
  · exact .inl rfl
  · exact .inr rfl

theorem cursorMin_of_le {a b : Cursor} (h : cursorLe a b) : cursorMin a b = a :=
  if_pos (by simpa [cursorLe] using h)

theorem cursorMin_of_ge {a b : Cursor} (h : cursorLe b a) : cursorMin a b = b := by
  rcases cursorMin_cases a b with e | e
  · rw [e]; exact cursorLe_antisymm (e ▸ cursorMin_le_right a b) h
  · exact e

def optMin : Option Cursor → Option Cursor → Option Cursor
  | some a, some b => some (cursorMin a b)
  | some a, none => some a
  | none, b => b

theorem optMin_some_iff (a b : Option Cursor) (c : Cursor) :
    optMin a b = some c ↔
      (a = some c ∨ b = some c) ∧ (∀ i, a = some i → cursorLe c i) ∧ ∀ j, b = some j → cursorLe c j := by
  cases a <;> cases b <;> simp only [optMin, Option.some.injEq, reduceCtorEq, false_or, or_false, false_imp_iff,
    implies_true, true_and, and_true, forall_eq']
  · exact ⟨fun e => ⟨e, e ▸ cursorLe_refl _⟩, (·.1)⟩
  · exact ⟨fun e => ⟨e, e ▸ cursorLe_refl _⟩, (·.1)⟩
  · rename_i a b
    constructor
    · rintro rfl
      exact ⟨(cursorMin_cases a b).imp Eq.symm Eq.symm, cursorMin_le_left a b, cursorMin_le_right a b⟩
    · rintro ⟨rfl | rfl, ha, hb⟩
      · exact cursorMin_of_le hb
      · exact cursorMin_of_ge ha

theorem optMin_lb_iff (a b : Option Cursor) (c : Cursor) :
    (∀ i, optMin a b = some i → cursorLe c i) ↔ (∀ i, a = some i → cursorLe c i) ∧ ∀ j, b = some j → cursorLe c j := by
  cases a <;> cases b <;> simp only [optMin, Option.some.injEq, reduceCtorEq, false_imp_iff, implies_true, true_and,
    and_true, forall_eq']
  rename_i a b
  exact ⟨fun h => ⟨cursorLe_trans h (cursorMin_le_left a b), cursorLe_trans h (cursorMin_le_right a b)⟩,
    fun h => (cursorMin_cases a b).elim (fun e => by rw [e]; exact h.1) (fun e => by rw [e]; exact h.2)⟩

def leastFrom (k : Nat) : List (Nat × Nat × Option Cursor) → Option Cursor → Option Cursor
  | [], init => init
  | (_, fi, cur) :: rest, init => leastFrom k rest (if fi = k then optMin init cur else init)

theorem retx_leastFrom (k : Nat) : ∀ (l : List (Nat × Nat × Option Cursor)) (acc : List (Nat × Cursor)),
    nlookup k (retransmissionMap l acc) = leastFrom k l (nlookup k acc)
  | [], acc => rfl
  | (_, fi, some c) :: rest, acc => by
    simp only [retransmissionMap, leastFrom]
    split
    · rename_i least hl
      rw [retx_leastFrom k rest, nlookup_map_replace]
      by_cases hk : fi = k
      · subst hk; simp [hl, optMin]
      · have : ¬ k = fi := fun e => hk e.symm
        simp [hk, this]
    · rename_i hn
      rw [retx_leastFrom k rest, nlookup_append]
      by_cases hk : fi = k
      · subst hk; simp [hn, optMin, nlookup]
      · simp only [hk, if_false, nlookup]
        cases nlookup k acc <;> rfl
  | (_, fi, none) :: rest, acc => by
    simp only [retransmissionMap, leastFrom]
    rw [retx_leastFrom k rest]
    by_cases hk : fi = k
    · simp only [hk, if_true]
      cases nlookup k acc <;> rfl
    · simp [hk]

theorem leastFrom_some_iff (k : Nat) (c : Cursor) : ∀ (l : List (Nat × Nat × Option Cursor)) (init : Option Cursor),
    leastFrom k l init = some c ↔
      (init = some c ∨ ∃ e ∈ l, e.2.1 = k ∧ e.2.2 = some c) ∧ (∀ i, init = some i → cursorLe c i) ∧
      ∀ e ∈ l, e.2.1 = k → ∀ cur, e.2.2 = some cur → cursorLe c cur
  | [], init => by
    simp only [leastFrom, List.not_mem_nil, false_and, exists_false, or_false, false_imp_iff, implies_true, and_true]
    exact ⟨fun h => ⟨h, fun i hi => Option.some.inj (h.symm.trans hi) ▸ cursorLe_refl c⟩, (·.1)⟩
  | (pk, fi, cur0) :: rest, init => by
    simp only [leastFrom, List.mem_cons, exists_eq_or_imp, forall_eq_or_imp]
    rw [leastFrom_some_iff k c rest]
    by_cases hk : fi = k
    · simp only [hk, if_true, true_and, true_imp_iff]
      -- the lower bounds of `optMin init cur0` are those of both; under them it is `c` iff one of the two is
      rw [optMin_lb_iff, and_assoc]
      refine and_congr_left fun ⟨ha, hb, _⟩ => ?_
      rw [optMin_some_iff, ← or_assoc]
      exact or_congr_left ⟨(·.1), (⟨·, ha, hb⟩)⟩
    · simp only [hk, if_false, false_and, false_imp_iff, false_or, true_and]

theorem leastFrom_none_iff (k : Nat) : ∀ (l : List (Nat × Nat × Option Cursor)) (init : Option Cursor),
    leastFrom k l init = none ↔ init = none ∧ ∀ e ∈ l, e.2.1 = k → e.2.2 = none
  | [], init => by simp [leastFrom]
  | (pk, fi, cur0) :: rest, init => by
    simp only [leastFrom, List.mem_cons, forall_eq_or_imp]
    rw [leastFrom_none_iff k rest]
    by_cases hk : fi = k
    · simp only [hk, if_true, true_imp_iff]
      cases init <;> cases cur0 <;> simp [optMin]
    · simp only [hk, if_false, false_imp_iff, true_and]

theorem retransmissionMap_mem (k : Nat) (c : Cursor) (l : List (Nat × Nat × Option Cursor)) (acc : List (Nat × Cursor))
    (h : nlookup k (retransmissionMap l acc) = some c) :
    nlookup k acc = some c ∨ ∃ e ∈ l, e.2.1 = k ∧ e.2.2 = some c := by
  rw [retx_leastFrom] at h
  exact ((leastFrom_some_iff k c l _).mp h).1

end Rp3

end Router
