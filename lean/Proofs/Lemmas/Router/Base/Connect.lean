/-
`handle_new_connection` as one description: the state a registration hands to the scheduler is the record `hnPre`,
so every field of it is read off by `rfl`; `Connect` lists the three outcomes of a CONNECT that returns.
-/
import Proofs.Lemmas.Router.Base.Decomp
import Proofs.Lemmas.Router.Base.Slab
import Proofs.Lemmas.Router.Base.Assoc
namespace Router

theorem foldl_g_eq {α : Type} (f : α → Ghost) : ∀ (l : List α) (s : RState),
    l.foldl (fun s a => s.g (f a)) s = { s with ghost := s.ghost ++ l.map f }
  | [], s => by simp
  | a :: r, s => by
    simp only [List.foldl_cons, List.map_cons]
    rw [foldl_g_eq f r]
    simp [RState.g]

/-- the slab key a registration will get -/
def hnKey (s : RState) (spec : ConnectSpec) : Nat := (s.conns.insert (hnConn spec (hnRestored s spec))).2

/-- the connection record of a registration, with its initial replies (CONNACK, pending PUBRELs) -/
def hnNew (s : RState) (spec : ConnectSpec) : Conn :=
  { hnConn spec (hnRestored s spec) with
    acks := { committed := hnAcks spec (hnKey s spec) (hnSession s spec).isSome (hnRestored s spec) } }

/-- the events of a successful registration, in order -/
def hnGhost (s : RState) (spec : ConnectSpec) : List Ghost :=
  (match spec.will with | some _ => [Ghost.willSet spec.clientId] | none => []) ++
  [Ghost.registered (hnKey s spec) spec.link spec.clientId spec.clean (!spec.clean && (hnSession s spec).isSome)] ++
  (if (hnRestored s spec).isSome then [Ghost.restored (hnKey s spec) (hnTracker spec (hnRestored s spec)).requests] else []) ++
  (hnAcks spec (hnKey s spec) (hnSession s spec).isSome (hnRestored s spec)).map (Ghost.committed (hnKey s spec))

theorem mem_hnGhost_registered {s : RState} {spec : ConnectSpec} {id link : Nat} {cid : String} {clean sp : Bool}
    (h : Ghost.registered id link cid clean sp ∈ hnGhost s spec) :
    id = hnKey s spec ∧ link = spec.link ∧ cid = spec.clientId ∧ clean = spec.clean := by
  unfold hnGhost at h
  simp only [List.mem_append, List.mem_cons, List.mem_map, List.not_mem_nil, or_false] at h
  rcases h with ((h | h) | h) | h
  · split at h <;> simp at h
  · simp only [Ghost.registered.injEq] at h; exact ⟨h.1, h.2.1, h.2.2.1, h.2.2.2.1⟩
  · split at h <;> simp at h
  · obtain ⟨a, _, ha⟩ := h; simp at ha

theorem registered_mem_hnGhost (s : RState) (spec : ConnectSpec) :
    Ghost.registered (hnKey s spec) spec.link spec.clientId spec.clean (!spec.clean && (hnSession s spec).isSome)
      ∈ hnGhost s spec := by
  unfold hnGhost; simp

/-- the state just before the final `reschedule(id, Init)` of a registration -/
def hnPre (s : RState) (spec : ConnectSpec) : RState :=
  { s with
    conns := (s.conns.insert (hnConn spec (hnRestored s spec))).1.set (hnKey s spec) (hnNew s spec)
    connectionMap := ainsert spec.clientId (hnKey s spec) s.connectionMap
    subscriptionMap := (hnSubs (hnRestored s spec)).foldl (fun m f => subscriptionMapAdd m f (hnKey s spec)) s.subscriptionMap
    shared := rejoinGroups s.config.strategy spec.clientId (hnTracker spec (hnRestored s spec)).requests s.shared
    graveyard := aremove spec.clientId s.graveyard
    lastWills := match spec.will with | some w => ainsert spec.clientId w s.lastWills | none => s.lastWills
    ghost := s.ghost ++ hnGhost s spec }

theorem hnPre_shared (s : RState) (spec : ConnectSpec) : (hnPre s spec).shared =
    rejoinGroups s.config.strategy spec.clientId (hnTracker spec (hnRestored s spec)).requests s.shared := rfl

theorem hnPre_graveyard (s : RState) (spec : ConnectSpec) :
    (hnPre s spec).graveyard = aremove spec.clientId s.graveyard := rfl

theorem hnRegister_eq' (s : RState) (spec : ConnectSpec) :
    hnRegister s spec =
      if !trackerNoDup (hnTracker spec (hnRestored s spec)) then
        .error (.panic "debug_assert check_tracker_duplicates (new connection)")
      else reschedule (hnPre s spec) (hnKey s spec) .init := by
  have e : (hnWill { s with graveyard := aremove spec.clientId s.graveyard } spec).conns = s.conns := by
    unfold hnWill; split <;> rfl
  unfold hnRegister
  simp only []
  rw [e, foldl_g_eq]
  refine ite_congr rfl (fun _ => rfl) (fun _ => congrArg (reschedule · _ _) ?_)
  -- both sides are the same record; the will and the restored session decide which events were appended
  unfold hnPre hnGhost hnNew hnKey hnWill
  cases spec.will <;> cases (hnRestored s spec).isSome <;>
    simp [RState.g, setConn, List.append_assoc]

theorem hnRegister_cases {s s' : RState} {spec : ConnectSpec} (h : hnRegister s spec = .ok s') :
    trackerNoDup (hnTracker spec (hnRestored s spec)) = true ∧ reschedule (hnPre s spec) (hnKey s spec) .init = .ok s' := by
  rw [hnRegister_eq'] at h
  split at h
  · cases h
  · rename_i hnd; exact ⟨by simpa using hnd, h⟩

inductive Connect (s : RState) (spec : ConnectSpec) (s' : RState) : Prop
  | invalid (hv : validClientId spec.clientId = false) (e : s' = (setLink s spec.link {}).g (.notRegistered spec.link))
  | full (s1 : RState) (hv : validClientId spec.clientId = true)
      (ht : hnTakeover (setLink s spec.link {}) spec = .ok s1)
      (hfull : s1.conns.len ≥ s1.config.maxConnections) (e : s' = s1.g (.notRegistered spec.link))
  | registered (s1 : RState) (hv : validClientId spec.clientId = true)
      (ht : hnTakeover (setLink s spec.link {}) spec = .ok s1)
      (hroom : s1.conns.len < s1.config.maxConnections)
      (hnd : trackerNoDup (hnTracker spec (hnRestored s1 spec)) = true)
      (hr : reschedule (hnPre s1 spec) (hnKey s1 spec) .init = .ok s')

theorem handleNewConnection_cases {s s' : RState} {spec : ConnectSpec} (h : handleNewConnection s spec = .ok s') :
    Connect s spec s' := by
  rw [handleNewConnection_eq] at h
  simp only [] at h
  split at h
  · rename_i hv
    exact .invalid (by simpa using hv) (Except.ok.inj h).symm
  · rename_i hv
    have hv' : validClientId spec.clientId = true := by simpa using hv
    split at h
    · cases h
    · rename_i s1 h1
      split at h
      · rename_i hfull
        exact .full s1 hv' h1 hfull (Except.ok.inj h).symm
      · rename_i hroom
        obtain ⟨hnd, hr⟩ := hnRegister_cases h
        exact .registered s1 hv' h1 (by omega) hnd hr

theorem hnTakeover_cases {s s1 : RState} {spec : ConnectSpec} (h : hnTakeover s spec = .ok s1) :
    (alookup spec.clientId s.connectionMap = none ∧ s1 = s) ∨
    ∃ old, alookup spec.clientId s.connectionMap = some old ∧ handleDisconnection s old none = .ok s1 := by
  unfold hnTakeover at h
  split at h
  · rename_i old hold; exact .inr ⟨old, hold, h⟩
  · rename_i hnone; exact .inl ⟨hnone, (Except.ok.inj h).symm⟩

/-- `I`: what the caller knows once the link is emptied and the client's old connection taken over; `J`: the goal -/
theorem handleNewConnection_rel {I J : RState → Prop} {s s' : RState} {spec : ConnectSpec}
    (link : I (setLink s spec.link {}))
    (takeover : ∀ {s1 id}, alookup spec.clientId s.connectionMap = some id →
      handleDisconnection (setLink s spec.link {}) id none = .ok s1 → I s1)
    (reject : ∀ {s1}, I s1 → J (s1.g (.notRegistered spec.link)))
    (register : ∀ {s1}, I s1 → hnTakeover (setLink s spec.link {}) spec = .ok s1 →
      s1.conns.len < s1.config.maxConnections → reschedule (hnPre s1 spec) (hnKey s1 spec) .init = .ok s' → J s')
    (h : handleNewConnection s spec = .ok s') : J s' := by
  have tk : ∀ {s1}, hnTakeover (setLink s spec.link {}) spec = .ok s1 → I s1 := fun ht => by
    rcases hnTakeover_cases ht with ⟨_, rfl⟩ | ⟨old, hold, hd⟩
    · exact link
    · exact takeover hold hd
  cases handleNewConnection_cases h with
  | invalid _ e => subst e; exact reject link
  | full s1 _ ht _ e => subst e; exact reject (tk ht)
  | registered s1 _ ht hroom _ hr => exact register (tk ht) ht hroom hr

theorem hnPre_getConn_cases {s : RState} {spec : ConnectSpec} {j : Nat} {d : Conn}
    (h : getConn (hnPre s spec) j = some d) : d = hnNew s spec ∨ getConn s j = some d :=
  Slab.get?_insert_set s.conns _ _ h

theorem hnRestored_elim {s : RState} {spec : ConnectSpec} {P : Option SessionState → Prop} (h0 : P none)
    (h1 : ∀ p ∈ s.graveyard, ∀ ss, p.2 = some ss → P (some ss)) : P (hnRestored s spec) := by
  unfold hnRestored
  split
  · exact h0
  · unfold hnSession
    cases hl : alookup spec.clientId s.graveyard with
    | none => exact h0
    | some v =>
      cases v with
      | none => exact h0
      | some ss => exact h1 _ (mem_of_alookup_eq_some hl) ss rfl

end Router
