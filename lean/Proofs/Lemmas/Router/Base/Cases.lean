/-
What the larger functions of the router model do, over the model alone (no relation, no invariant in it): case relations,
each constructor with the exact call made or the exact new state, and the induction principles for a predicate `I` through
a SUBSCRIBE, an UNSUBSCRIBE, a batch (there `I` sees the flags too), a DeviceData event, a step (a relation enters as
`I := R s`). The principles and the case lemmas the frames' walk is built on carry the prefix `Walk.`; everything else
stands in `Router`.
-/
import Proofs.Lemmas.Router.Base.Basic
import Proofs.Lemmas.Router.Base.Effect
namespace Router

/-- `consume` serves the first live connection of the ready queue (if any) -/
def polled (s : RState) : Option Nat := (s.readyqueue.dropWhile (fun id => (s.conns.get? id).isNone)).head?

theorem polled_eq_some_iff {s : RState} {id : Nat} :
    polled s = some id ↔ ∃ rq, s.readyqueue.dropWhile (fun id => (s.conns.get? id).isNone) = id :: rq :=
  List.head?_eq_some_iff

theorem polled_eq_none_iff {s : RState} :
    polled s = none ↔ s.readyqueue.dropWhile (fun id => (s.conns.get? id).isNone) = [] :=
  List.head?_eq_none_iff

namespace Walk

theorem conns_of_set {P : Nat → Conn → Prop} {s s' : RState} {id : Nat} {c c' : Conn} (hc : getConn s id = some c)
    (hconns : s'.conns = s.conns.set id c') (hnew : P id c') (hold : ∀ j d, j ≠ id → getConn s j = some d → P j d) :
    ∀ j d, getConn s' j = some d → P j d := by
  intro j d hd
  rw [getConn_of_set hc hconns] at hd
  by_cases hj : j = id
  · subst hj; simp only [if_true, Option.some.injEq] at hd; subst hd; exact hnew
  · simp only [hj, if_false] at hd; exact hold j d hj hd

theorem prepareFilter_cases {s s' : RState} {id : Nat} {cursor : Cursor} {idx : Nat} {f : SubFilter}
    {group : Option String} {subId : Option Nat} (h : prepareFilter s id cursor idx f group subId = .ok s') :
    ∃ c, getConn s id = some c ∧
      ((f.path ∈ c.subscriptions ∧
          s' = (setConn (pfState s id cursor f.path group c.clientId) id (pfConn c f.path subId)).g
            (.subscribed id f.path f.qos idx cursor group false)) ∨
        (f.path ∉ c.subscriptions ∧ ∃ s3,
          track (setConn ((pfState s id cursor f.path group c.clientId).g (.subscribed id f.path f.qos idx cursor group true)) id
            { pfConn c f.path subId with subscriptions := c.subscriptions ++ [f.path] }) id (pfReq idx f cursor group) = .ok s3 ∧
          reschedule s3 id .newFilter = .ok s')) := by
  rw [prepareFilter_eq] at h
  split at h
  · cases h
  · rename_i c hc
    refine ⟨c, hc, ?_⟩
    simp only [] at h
    split at h
    · rename_i hold
      simp only [Except.ok.injEq] at h
      exact .inl ⟨by simpa using hold, h.symm⟩
    · rename_i hnew
      split at h
      · cases h
      · rename_i s3 h3
        unfold pfTail at h
        split at h
        · cases h
        · rename_i s4 h4
          have e : s' = s4 := by
            split at h
            · simp only [Except.ok.injEq] at h; exact h.symm
            · split at h
              · simp only [Except.ok.injEq] at h; exact h.symm
              · cases h
          exact .inr ⟨by simpa using hnew, s3, h3, e ▸ h4⟩

end Walk

/-! the state after `prepare_filter` as one record of its inputs: connection `id` is `pfNew`, every other field and every
other connection is read off by `rfl` -/

def pfNew (c : Conn) (path : String) (subId : Option Nat) (isNew : Bool) (t : Tracker) : Conn :=
  { pfConn c path subId with
    subscriptions := if isNew then c.subscriptions ++ [path] else c.subscriptions, tracker := t }

theorem pfNew_clientId (c : Conn) (path : String) (subId : Option Nat) (isNew : Bool) (t : Tracker) :
    (pfNew c path subId isNew t).clientId = c.clientId := by cases subId <;> rfl

theorem mem_pfNew_subscriptions (c : Conn) (path : String) (subId : Option Nat) (t : Tracker) :
    path ∈ (pfNew c path subId (!c.subscriptions.contains path) t).subscriptions := by
  unfold pfNew
  by_cases hin : path ∈ c.subscriptions <;> simp [hin]

theorem mem_pfNew_of_mem (c : Conn) (path : String) (subId : Option Nat) (isNew : Bool) (t : Tracker) {x : String}
    (h : x ∈ c.subscriptions) : x ∈ (pfNew c path subId isNew t).subscriptions := by
  unfold pfNew; split
  · exact List.mem_append_left _ h
  · exact h

theorem prepareFilter_post {s s' : RState} {id : Nat} {cursor : Cursor} {idx : Nat} {f : SubFilter}
    {group : Option String} {subId : Option Nat} (h : prepareFilter s id cursor idx f group subId = .ok s') :
    ∃ c t q, getConn s id = some c ∧
      (if f.path ∈ c.subscriptions then t = c.tracker ∧ q = s.readyqueue
       else t.requests = c.tracker.requests ++ [pfReq idx f cursor group] ∧ t.id = c.tracker.id ∧
         (t.status = c.tracker.status ∧ q = s.readyqueue ∨ t.status = .ready ∧ q = s.readyqueue ++ [id])) ∧
      s' = { setConn (pfState s id cursor f.path group c.clientId) id
               (pfNew c f.path subId (!c.subscriptions.contains f.path) t) with
             readyqueue := q,
             ghost := s.ghost ++ [.subscribed id f.path f.qos idx cursor group (!c.subscriptions.contains f.path)] } := by
  obtain ⟨c, hc, ⟨hold, rfl⟩ | ⟨hnew, s3, h3, h4⟩⟩ := Walk.prepareFilter_cases h
  · refine ⟨c, c.tracker, s.readyqueue, hc, by rw [if_pos hold]; exact ⟨rfl, rfl⟩, ?_⟩
    have e : c.subscriptions.contains f.path = true := by simpa using hold
    unfold pfNew
    rw [e]
    cases subId <;> rfl
  · have e : c.subscriptions.contains f.path = false := by simpa using hnew
    have hc0 : getConn ((pfState s id cursor f.path group c.clientId).g
        (.subscribed id f.path f.qos idx cursor group true)) id = some c := hc
    obtain ⟨c2, hc2, rfl⟩ := track_upd h3
    rw [getConn_of_set hc0 rfl, if_pos rfl] at hc2
    cases hc2
    obtain ⟨c3, t, woke, hc3, ht, rfl⟩ := reschedule_upd h4
    rw [getConn_of_set ((getConn_of_set hc0 rfl id).trans (if_pos rfl)) rfl, if_pos rfl] at hc3
    cases hc3
    refine ⟨c, t, if woke then s.readyqueue ++ [id] else s.readyqueue, hc, ?_, ?_⟩
    · rw [if_neg hnew]
      rcases tryReady_cases ht with ⟨rfl, rfl⟩ | ⟨rfl, rfl⟩
      · exact ⟨by rw [pfConn_tracker], by rw [pfConn_tracker], .inr ⟨rfl, rfl⟩⟩
      · exact ⟨by rw [pfConn_tracker], by rw [pfConn_tracker], .inl ⟨by rw [pfConn_tracker], rfl⟩⟩
    · unfold pfNew
      rw [e]
      cases woke <;> simp only [setConn_setConn, Bool.false_eq_true, if_false, if_true, Bool.not_false] <;> rfl

/-- `consume` after `poll`: the requests of connection `id` are taken out of its tracker and `id` goes to the
    back of the ready queue (`rq`: the queue behind it) -/
def Walk.takeRequests (s : RState) (id : Nat) (c : Conn) (rq : List Nat) : RState :=
  { setConn { s with readyqueue := rq } id { c with tracker := { c.tracker with requests := [] } } with
    readyqueue := rq ++ [id] }

theorem poll_live {s : RState} {id : Nat} {rq : List Nat}
    (hq : s.readyqueue.dropWhile (fun id => (s.conns.get? id).isNone) = id :: rq) :
    ∃ c, getConn s id = some c := by
  have hne : s.readyqueue.dropWhile (fun id => (s.conns.get? id).isNone) ≠ [] := by rw [hq]; simp
  have := List.head?_dropWhile_not (fun id => (s.conns.get? id).isNone) s.readyqueue
  rw [hq] at this
  simp only [List.head?_cons] at this
  unfold getConn
  cases hg : s.conns.get? id with
  | none => simp [hg] at this
  | some c => exact ⟨c, rfl⟩

theorem Walk.consume_cases {s s' : RState} {b : Bool} (h : Router.consume s = .ok (s', b)) :
    (b = false ∧ s.readyqueue.dropWhile (fun id => (s.conns.get? id).isNone) = [] ∧ s' = { s with readyqueue := [] }) ∨
    ∃ id rq c s1, s.readyqueue.dropWhile (fun id => (s.conns.get? id).isNone) = id :: rq ∧ getConn s id = some c ∧
      b = true ∧
      Router.consumeLoop (Router.ackDeviceData (takeRequests s id c rq) id) id MAX_SCHEDULE_ITERATIONS c.tracker.requests [] =
        .ok s1 ∧
      Router.wakeTurnMoved s1 = .ok s' := by
  unfold Router.consume at h
  split at h
  · rename_i hq
    cases h; exact .inl ⟨rfl, hq, rfl⟩
  · rename_i id rq hq
    simp only [] at h
    split at h
    · rename_i hnone
      obtain ⟨c, hc⟩ := poll_live hq
      rw [show getConn ({ s with readyqueue := rq } : RState) id = getConn s id from rfl, hc] at hnone; cases hnone
    · rename_i c hcn
      split at h
      · cases h
      · rename_i s1 h1
        split at h
        · cases h
        · rename_i s2 h2
          cases h; exact .inr ⟨id, rq, c, s1, hq, hcn, rfl, h1, h2⟩

namespace Walk

variable {I : RState → Prop}

theorem subscribeFilters_inv {id : Nat} {subId : Option Nat}
    (pf : ∀ {s s' : RState} {f : SubFilter}, I s →
      prepareFilter (Router.nextNativeOffset s (sfFilter f.path)).1 id (Router.nextNativeOffset s (sfFilter f.path)).2.2
        (Router.nextNativeOffset s (sfFilter f.path)).2.1 f (sfGroup f.path) subId = .ok s' → I s') :
    ∀ (fs : List SubFilter) {s s' : RState} {codes codes' : List Nat} {fl fl' : Flags}, I s →
      subscribeFilters s id subId fs codes fl = .ok (s', codes', fl') → I s'
  | [], s, s', codes, codes', fl, fl', hs, h => by
    simp only [subscribeFilters, Except.ok.injEq, Prod.mk.injEq] at h; obtain ⟨rfl, _⟩ := h; exact hs
  | f :: rest, s, s', codes, codes', fl, fl', hs, h => by
    rw [subscribeFilters_cons] at h
    split at h
    · simp only [Except.ok.injEq, Prod.mk.injEq] at h; obtain ⟨rfl, _⟩ := h; exact hs
    · split at h
      · simp only [Except.ok.injEq, Prod.mk.injEq] at h; obtain ⟨rfl, _⟩ := h; exact hs
      · simp only [] at h
        split at h
        · cases h
        · rename_i s1 h1
          exact subscribeFilters_inv pf rest (pf hs h1) h

theorem unsubscribeFilters_mem_inv {id : Nat}
    (hmap : ∀ (s : RState) (m : List (String × List Nat)), I s → I { s with subscriptionMap := m }) :
    ∀ (fs : List String) (_ : ∀ {s : RState} {ids : List Nat} {c : Conn} (f : String), f ∈ fs → I s →
      getConn s id = some c → I (ufState s id ids c f)) {s s' : RState} {rs rs' : List Bool}, I s →
      unsubscribeFilters s id fs rs = .ok (s', rs') → I s'
  | [], _, s, s', rs, rs', hs, h => by
    simp only [unsubscribeFilters, Except.ok.injEq, Prod.mk.injEq] at h
    obtain ⟨rfl, _⟩ := h; exact hs
  | f :: rest, uf, s, s', rs, rs', hs, h => by
    have uf' : ∀ {s : RState} {ids : List Nat} {c : Conn} (g : String), g ∈ rest → I s →
        getConn s id = some c → I (ufState s id ids c g) := fun g hg => uf g (List.mem_cons_of_mem _ hg)
    rw [unsubscribeFilters_cons] at h
    split at h
    · exact unsubscribeFilters_mem_inv hmap rest uf' hs h
    · split at h
      · exact unsubscribeFilters_mem_inv hmap rest uf' hs h
      · split at h
        · cases h
        · rename_i c hc
          split at h
          · exact unsubscribeFilters_mem_inv hmap rest uf' (hmap s _ hs) h
          · exact unsubscribeFilters_mem_inv hmap rest uf' (uf f List.mem_cons_self hs hc) h

theorem unsubscribeFilters_inv {id : Nat}
    (hmap : ∀ (s : RState) (m : List (String × List Nat)), I s → I { s with subscriptionMap := m })
    (uf : ∀ {s : RState} {ids : List Nat} {c : Conn} (f : String), I s → getConn s id = some c → I (ufState s id ids c f))
    (fs : List String) {s s' : RState} {rs rs' : List Bool} (hs : I s)
    (h : unsubscribeFilters s id fs rs = .ok (s', rs')) : I s' :=
  unsubscribeFilters_mem_inv hmap fs (fun f _ => uf f) hs h

theorem handlePackets_mem_inv {I : RState → Flags → Prop} {id : Nat} {cid : String} : ∀ (ps : List Packet)
    (_ : ∀ {s s' : RState} {p : Packet} {fl fl' : Flags}, p ∈ ps → I s fl →
      Router.handlePacket s id cid p fl = .ok (s', fl') → I s' fl')
    {s s' : RState} {fl fl' : Flags}, I s fl → handlePackets s id cid ps fl = .ok (s', fl') → I s' fl'
  | [], _, s, s', fl, fl', hs, h => by
    simp only [handlePackets, Except.ok.injEq, Prod.mk.injEq] at h; obtain ⟨rfl, rfl⟩ := h; exact hs
  | p :: rest, hp, s, s', fl, fl', hs, h => by
    simp only [handlePackets] at h
    split at h
    · cases h
    · rename_i s1 fl1 h1
      have a := hp List.mem_cons_self hs h1
      split at h
      · simp only [Except.ok.injEq, Prod.mk.injEq] at h; obtain ⟨rfl, rfl⟩ := h; exact a
      · exact handlePackets_mem_inv rest (fun hm => hp (List.mem_cons_of_mem _ hm)) a h

theorem handlePackets_inv {I : RState → Flags → Prop} {id : Nat} {cid : String}
    (hp : ∀ {s s' : RState} {p : Packet} {fl fl' : Flags}, I s fl → Router.handlePacket s id cid p fl = .ok (s', fl') → I s' fl')
    (ps : List Packet) {s s' : RState} {fl fl' : Flags} (hs : I s fl) (h : handlePackets s id cid ps fl = .ok (s', fl')) :
    I s' fl' :=
  handlePackets_mem_inv ps (fun _ => hp) hs h

/-- `I` may carry what its preservation needs, `J` is what is wanted at the end -/
theorem handleDevicePayload_inv {J : RState → Prop} {s s' : RState} {id : Nat} (hi : I s) (done : ∀ {s1}, I s1 → J s1)
    (packets : ∀ {c s1 fl}, getConn s id = some c →
      handlePackets (setLink s c.link { getLink s c.link with ibuf := [] }) id c.clientId (getLink s c.link).ibuf {} =
        .ok (s1, fl) → I s1)
    (resched : ∀ {s1 s2}, I s1 → Router.reschedule s1 id .freshData = .ok s2 → I s2)
    (drain : ∀ {s1 s2}, I s1 → Router.drainNotifications { s1 with notifications := [] } s1.notifications = .ok s2 → I s2)
    (wake : ∀ {s1 s2}, I s1 → Router.wakeTurnMoved s1 = .ok s2 → I s2)
    (disc : ∀ {s1 s2 r}, I s1 → handleDisconnection s1 id r = .ok s2 → J s2)
    (h : handleDevicePayload s id = .ok s') : J s' := by
  cases hc : getConn s id with
  | none => rw [handleDevicePayload_none hc] at h; cases h; exact done hi
  | some c =>
    obtain ⟨s1, fl, s2, s3, s4, h1, h2, h3, h4, h5⟩ := handleDevicePayload_phases hc h
    have q2 : I s2 := by
      split at h2
      · exact resched (packets hc h1) h2
      · cases h2; exact packets hc h1
    have q3 : I s3 := by
      split at h3
      · exact drain q2 h3
      · cases h3; exact q2
    split at h5
    · exact disc (wake q3 h4) h5
    · cases h5; exact done (wake q3 h4)

end Walk

theorem ufState_getConn {s : RState} {id : Nat} {c : Conn} (hc : getConn s id = some c) (ids : List Nat) (f : String)
    (j : Nat) : getConn (ufState s id ids c f) j = if j = id then some (ufConn s.datalog c f) else getConn s j :=
  getConn_of_set hc rfl j

theorem hdFinal_getConn (s : RState) (id : Nat) (c : Conn) (r : Option String) (j : Nat) :
    getConn (hdFinal s id c r) j = if j = id then none else getConn s j := by
  unfold getConn; rw [(hdFinal_fields s id c r).conns, Slab.get?_remove]

theorem reschedule_spec {s s' : RState} {id : Nat} {r : SchedReason} {c : Conn} (hc : getConn s id = some c)
    (hr : reschedule s id r = .ok s') :
    ∃ c', getConn s' id = some c' ∧ c'.tracker.requests = c.tracker.requests ∧ c'.out = c.out ∧
      (c'.tracker.status = .ready ∨ c'.tracker.status = c.tracker.status) ∧
      (r = .freshData ∨ r = .newFilter ∨ r = .incomingAck → c'.tracker.status ≠ .paused .caughtup) ∧
      (r = .incomingAck → c'.tracker.status ≠ .paused .inflightFull) ∧
      (∀ j, j ≠ id → getConn s' j = getConn s j) ∧ (∀ j ∈ s.readyqueue, j ∈ s'.readyqueue) ∧
      (c'.tracker.status = .ready → c.tracker.status = .ready ∨ id ∈ s'.readyqueue) := by
  obtain ⟨c0, t, woke, hc0, ht, rfl⟩ := reschedule_upd hr
  obtain rfl : c = c0 := Option.some.inj (hc.symm.trans hc0)
  have hget : ∀ j, getConn (if woke then { setConn s id { c with tracker := t } with readyqueue := s.readyqueue ++ [id] }
      else setConn s id { c with tracker := t }) j = if j = id then some { c with tracker := t } else getConn s j :=
    fun j => by split <;> exact getConn_of_set hc rfl j
  refine ⟨{ c with tracker := t }, by rw [hget]; simp, tryReady_some ht, rfl, ?_, (tryReady_status ht).1,
    (tryReady_status ht).2, fun j hj => by rw [hget]; simp [hj], fun j hj => ?_, fun hready => ?_⟩
  · rcases tryReady_cases ht with ⟨_, rfl⟩ | ⟨_, rfl⟩
    · exact .inl rfl
    · exact .inr rfl
  · split
    · exact List.mem_append_left _ hj
    · exact hj
  · rcases tryReady_cases ht with ⟨rfl, _⟩ | ⟨_, rfl⟩
    · right; simp
    · left; exact hready

theorem handleDisconnection_cases {s s' : RState} {id : Nat} {r : Option String} (h : handleDisconnection s id r = .ok s') :
    (getConn s id = none ∧ s' = s) ∨
    ∃ c, getConn s id = some c ∧ wakeParked (hdFinal s id c r) (hdMoved (hdNotify s c r) id c) = .ok s' := by
  rw [handleDisconnection_eq] at h
  split at h
  · rename_i hc; exact .inl ⟨hc, (Except.ok.inj h).symm⟩
  · rename_i c hc; exact .inr ⟨c, hc, h⟩

inductive EventCase (s s' : RState) (id : Nat) : Event → Prop
  | payload (h : handleDevicePayload s id = .ok s') : EventCase s s' id .deviceData
  | ready (h : reschedule s id .ready = .ok s' ∨ s' = s) : EventCase s s' id .ready
  | disconnect (h : handleDisconnection s id none = .ok s') : EventCase s s' id .disconnect
  | will (c : String) (h : handleLastWill s c = .ok s') : EventCase s s' id (.publishWill c)
  | shadow (f : String) (h : handleShadow s id f = .ok s') : EventCase s s' id (.shadow f)
  | meters (h : s' = s) : EventCase s s' id .sendMeters
  | alerts (h : s' = s) : EventCase s s' id .sendAlerts

theorem event_cases {s s' : RState} {id : Nat} {ev : Event} (h : events s id ev = .ok s') : EventCase s s' id ev := by
  cases ev with
  | deviceData => exact .payload h
  | ready =>
    simp only [events] at h
    split at h
    · exact .ready (.inl h)
    · cases h; exact .ready (.inr rfl)
  | disconnect => exact .disconnect h
  | publishWill c => exact .will c h
  | shadow f => exact .shadow f h
  | sendMeters => cases h; exact .meters rfl
  | sendAlerts => cases h; exact .alerts rfl

inductive OpCase (s s' : RState) : Op → Prop
  | connect (spec : ConnectSpec) (h : handleNewConnection s spec = .ok s') : OpCase s s' (.connect spec)
  | push (l : Nat) (p : Packet)
      (h : s' = s ∨ s' = setLink s l { getLink s l with ibuf := (getLink s l).ibuf ++ [p] }) : OpCase s s' (.push l p)
  | drain (l : Nat)
      (h : s' = s ∨ s' = setLink s l { getLink s l with tokens := (getLink s l).tokens - 1, obuf := [] }) : OpCase s s' (.drain l)
  | consume (b : Bool) (h : Router.consume s = .ok (s', b)) : OpCase s s' .consume
  | event (id : Nat) (ev : Event) (h : events s id ev = .ok s') : OpCase s s' (.event id ev)

theorem op_cases {s s' : RState} {op : Op} {out : Out} (h : step s op = .ok (s', out)) : OpCase s s' op := by
  cases op with
  | connect spec =>
    simp only [step] at h
    split at h
    · cases h
    · rename_i s1 h1; cases h; exact .connect spec h1
  | push l p =>
    simp only [step] at h
    split at h
    · cases h; exact .push l p (.inr rfl)
    · cases h; exact .push l p (.inl rfl)
  | consume =>
    simp only [step] at h
    split at h
    · cases h
    · rename_i s1 b h1; cases h; exact .consume b h1
  | drain l =>
    simp only [step] at h
    split at h
    · split at h
      · cases h; exact .drain l (.inr rfl)
      · cases h; exact .drain l (.inl rfl)
    · cases h; exact .drain l (.inl rfl)
  | event id e =>
    simp only [step] at h
    split at h
    · cases h
    · rename_i s1 he; cases h; exact .event id e he

theorem step_event {s s' : RState} {id : Nat} {ev : Event} {out : Out} (h : step s (.event id ev) = .ok (s', out)) :
    events s id ev = .ok s' := by
  cases op_cases h with
  | event _ _ he => exact he

namespace Walk
variable {I : RState → Prop}

theorem step_inv {s s' : RState} {op : Op} {out : Out} (hi : I s) (link : ∀ l b, I (setLink s l b))
    (connect : ∀ {spec}, handleNewConnection s spec = .ok s' → I s')
    (payload : ∀ {id}, handleDevicePayload s id = .ok s' → I s')
    (ready : ∀ {id}, Router.reschedule s id .ready = .ok s' → I s')
    (disconnect : ∀ {id}, handleDisconnection s id none = .ok s' → I s')
    (will : ∀ {c}, Router.handleLastWill s c = .ok s' → I s')
    (shadow : ∀ {id f}, Router.handleShadow s id f = .ok s' → I s')
    (consume : ∀ {b}, Router.consume s = .ok (s', b) → I s')
    (h : step s op = .ok (s', out)) : I s' := by
  cases op_cases h with
  | connect spec h1 => exact connect h1
  | push l p e => exact e.elim (· ▸ hi) (· ▸ link _ _)
  | drain l e => exact e.elim (· ▸ hi) (· ▸ link _ _)
  | consume b h1 => exact consume h1
  | event id ev he =>
    cases event_cases he with
    | payload h1 => exact payload h1
    | ready h1 => exact h1.elim ready (· ▸ hi)
    | disconnect h1 => exact disconnect h1
    | will c h1 => exact will h1
    | shadow f h1 => exact shadow h1
    | meters e => exact e ▸ hi
    | alerts e => exact e ▸ hi

end Walk

/-- the failures: bad alias, malformed topic, subscription identifiers in a client publish -/
theorem appendToCommitlog_refused {s s' : RState} {id : Nat} {p : Pub} {e : Option AppendErr}
    (h : appendToCommitlog s id p = .ok (s', e)) (he : e ≠ none) :
    s'.notifications = s.notifications ∧ s'.datalog = s.datalog ∧ s'.ghost = s.ghost := by
  obtain ⟨c, _, ⟨rfl, _⟩ | ⟨s1, p1, h1, _, ⟨rfl, _, _⟩ | ⟨_, _, _, _, _, _, rfl⟩⟩⟩ := appendToCommitlog_cases h
  · exact ⟨rfl, rfl, rfl⟩
  · rcases h1 with rfl | ⟨a, t, _, rfl⟩ <;> exact ⟨rfl, rfl, rfl⟩
  · exact absurd rfl he

theorem prepareFilter_ntf {s s' : RState} {id : Nat} {cursor : Cursor} {idx : Nat} {f : SubFilter}
    {group : Option String} {subId : Option Nat} (h : prepareFilter s id cursor idx f group subId = .ok s') :
    s'.notifications = s.notifications := by
  obtain ⟨c, _, ⟨_, e⟩ | ⟨_, s3, h3, h4⟩⟩ := Walk.prepareFilter_cases h
  · rw [e]; rfl
  · obtain ⟨_, _, e3⟩ := track_upd h3
    rw [(reschedule_wakeFrame h4).ntf, e3]; rfl

theorem subscribeFilters_ntf {id : Nat} {subId : Option Nat} : ∀ (fs : List SubFilter) {s s' : RState}
    {codes codes' : List Nat} {fl fl' : Flags}, subscribeFilters s id subId fs codes fl = .ok (s', codes', fl') →
    s'.notifications = s.notifications ∧ fl'.newData = fl.newData
  | [], s, s', codes, codes', fl, fl', h => by
    simp only [subscribeFilters, Except.ok.injEq, Prod.mk.injEq] at h; obtain ⟨rfl, _, rfl⟩ := h; exact ⟨rfl, rfl⟩
  | f :: rest, s, s', codes, codes', fl, fl', h => by
    rw [subscribeFilters_cons] at h
    split at h
    · simp only [Except.ok.injEq, Prod.mk.injEq] at h; obtain ⟨rfl, _, rfl⟩ := h; exact ⟨rfl, rfl⟩
    · split at h
      · simp only [Except.ok.injEq, Prod.mk.injEq] at h; obtain ⟨rfl, _, rfl⟩ := h; exact ⟨rfl, rfl⟩
      · simp only [] at h
        split at h
        · cases h
        · rename_i s1 h1
          obtain ⟨a, b⟩ := subscribeFilters_ntf rest h
          refine ⟨a.trans ((prepareFilter_ntf h1).trans ?_), b⟩
          rcases nextNativeOffset_upd s (sfFilter f.path) with e | ⟨_, _, _, e⟩ <;> rw [e]

end Router
