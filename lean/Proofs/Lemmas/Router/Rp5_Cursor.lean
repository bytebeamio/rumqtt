/-
`CS`, cursor soundness: every cursor the router holds — of a data request (tracked, parked, notified, saved), recorded
in an outgoing window, of a shared group (for the log of the group's path) — is a cursor its log has issued. The logs
only grow (`LogMono`), so issued cursors stay issued; `CS.transfer` is how a step that moves requests around keeps it.
-/
import Proofs.Lemmas.Router.Base.Decomp
import Proofs.Lemmas.CommitLog
namespace Router
namespace Rp3
open CommitLog (Rep logC Issued SegMono U64)

def IssuedAt (d : DataLog) (i : Nat) (c : Cursor) : Prop := ∃ fd, d.native[i]? = some fd ∧ Issued (logC fd.log) c

/-- a request of a shared subscription reads the log of its group's path -/
def ReqOK (d : DataLog) (r : DataRequest) : Prop :=
  IssuedAt d r.filterIdx r.cursor ∧ ∀ g, r.group = some g → d.filterIdx? (gpath g) = some r.filterIdx

def allReqs (s : RState) (r : DataRequest) : Prop :=
  (∃ id c, getConn s id = some c ∧ r ∈ c.tracker.requests) ∨
  (∃ fd ∈ s.datalog.native, ∃ w ∈ fd.waiters, w.2 = r) ∨
  (∃ n ∈ s.notifications, n.2 = r)

def allWin (s : RState) (fi : Nat) (cur : Cursor) : Prop :=
  ∃ id c, getConn s id = some c ∧ ∃ e ∈ c.out.inflight, e.2.1 = fi ∧ e.2.2 = some cur

def GroupOK (d : DataLog) (p : String × SharedGroup) : Prop :=
  ∃ i, d.filterIdx? (gpath p.1) = some i ∧ IssuedAt d i p.2.cursor

structure CS (s : RState) : Prop where
  req : ∀ r, allReqs s r → ReqOK s.datalog r
  win : ∀ fi cur, allWin s fi cur → IssuedAt s.datalog fi cur
  grv : ∀ p ∈ s.graveyard, ∀ ss, p.2 = some ss → ∀ r ∈ ss.tracker.requests, ReqOK s.datalog r
  grp : ∀ p ∈ s.shared, GroupOK s.datalog p

/-- no filter log is within `MAX_INFLIGHT + max_outgoing_packet_count` entries of `2^64` (the bound of
    the C13 read theorems: the entry count cannot overflow `u64`) -/
def NoOverflow (s : RState) : Prop :=
  ∀ fd ∈ s.datalog.native, ∀ hist, Rep (logC fd.log) hist →
    hist.length + (MAX_INFLIGHT + s.config.maxOutgoingPacketCount) < U64

structure LogMono (d d' : DataLog) : Prop where
  logs : ∀ (i : Nat) fd, d.native[i]? = some fd → ∃ fd', d'.native[i]? = some fd' ∧ SegMono (logC fd.log) (logC fd'.log) ∧
    (logC fd.log).nextAbs ≤ (logC fd'.log).nextAbs
  fi : ∀ f i, d.filterIdx? f = some i → d'.filterIdx? f = some i

theorem LogMono.refl (d : DataLog) : LogMono d d :=
  ⟨fun _ fd h => ⟨fd, h, SegMono.refl _, Nat.le_refl _⟩, fun _ _ h => h⟩

theorem LogMono.trans {a b c : DataLog} (h1 : LogMono a b) (h2 : LogMono b c) : LogMono a c :=
  ⟨fun i fd h => by
    obtain ⟨fd1, g1, m1, n1⟩ := h1.logs i fd h
    obtain ⟨fd2, g2, m2, n2⟩ := h2.logs i fd1 g1
    exact ⟨fd2, g2, m1.trans m2, Nat.le_trans n1 n2⟩, fun f i h => h2.fi f i (h1.fi f i h)⟩

theorem LogMono.of_eq {d d' : DataLog} (hl : d'.native.map (·.log) = d.native.map (·.log))
    (hf : d'.filterIndexes = d.filterIndexes) : LogMono d d' := by
  refine ⟨fun i fd h => ?_, fun f i h => by unfold DataLog.filterIdx? at h ⊢; rw [hf]; exact h⟩
  have e : (d.native.map (·.log))[i]? = some fd.log := by simp [h]
  rw [← hl] at e
  simp only [List.getElem?_map, Option.map_eq_some_iff] at e
  obtain ⟨fd', h', e'⟩ := e
  exact ⟨fd', h', by rw [e']; exact SegMono.refl _, by rw [e']; exact Nat.le_refl _⟩

theorem IssuedAt.mono {d d' : DataLog} (hm : LogMono d d') {i : Nat} {c : Cursor} (h : IssuedAt d i c) : IssuedAt d' i c := by
  obtain ⟨fd, hfd, hi⟩ := h
  obtain ⟨fd', hfd', m, _⟩ := hm.logs i fd hfd
  exact ⟨fd', hfd', CommitLog.issued_of_segMono m hi⟩

theorem ReqOK.mono {d d' : DataLog} (hm : LogMono d d') {r : DataRequest} (h : ReqOK d r) : ReqOK d' r :=
  ⟨h.1.mono hm, fun g hg => hm.fi _ _ (h.2 g hg)⟩

theorem GroupOK.mono {d d' : DataLog} (hm : LogMono d d') {p : String × SharedGroup} (h : GroupOK d p) : GroupOK d' p := by
  obtain ⟨i, h1, h2⟩ := h
  exact ⟨i, hm.fi _ _ h1, h2.mono hm⟩

theorem CS.transfer {s s' : RState} (h : CS s) (hm : LogMono s.datalog s'.datalog)
    (hreq : ∀ r, allReqs s' r → allReqs s r ∨ ReqOK s'.datalog r)
    (hwin : ∀ fi cur, allWin s' fi cur → allWin s fi cur ∨ IssuedAt s'.datalog fi cur)
    (hgrv : ∀ p ∈ s'.graveyard, ∀ ss, p.2 = some ss → ∀ r ∈ ss.tracker.requests,
      (∃ q ∈ s.graveyard, ∃ ss0, q.2 = some ss0 ∧ r ∈ ss0.tracker.requests) ∨ ReqOK s'.datalog r)
    (hgrp : ∀ p ∈ s'.shared, (∃ q ∈ s.shared, q.1 = p.1 ∧ q.2.cursor = p.2.cursor) ∨ GroupOK s'.datalog p) : CS s' := by
  refine ⟨fun r hr => ?_, fun fi cur hw => ?_, fun p hp ss hss r hr => ?_, fun p hp => ?_⟩
  · rcases hreq r hr with h1 | h1
    · exact (h.req r h1).mono hm
    · exact h1
  · rcases hwin fi cur hw with h1 | h1
    · exact (h.win fi cur h1).mono hm
    · exact h1
  · rcases hgrv p hp ss hss r hr with ⟨q, hq, ss0, e, hr0⟩ | h1
    · exact (h.grv q hq ss0 e r hr0).mono hm
    · exact h1
  · rcases hgrp p hp with ⟨q, hq, e1, e2⟩ | h1
    · obtain ⟨i, a, b⟩ := (h.grp q hq).mono hm
      exact ⟨i, by rw [← e1]; exact a, by rw [← e2]; exact b⟩
    · exact h1

end Rp3
end Router
