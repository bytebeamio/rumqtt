/-
`MI`: every member of a shared group is a live connection subscribed to a filter of the group. Where the group table
changes it follows member by member (`MI.of_mconn`).
-/
import Proofs.Lemmas.Router.Base.Walk
namespace Router

def MI (s : RState) : Prop :=
  ∀ p ∈ s.shared, ∀ cid ∈ p.2.clients, ∃ id c, getConn s id = some c ∧ c.clientId = cid ∧
    ∃ f ∈ c.subscriptions, ∃ path, extractGroup f = some (p.1, path)

def MConn (s s' : RState) : Prop :=
  ∀ id c, getConn s id = some c → ∃ c', getConn s' id = some c' ∧ c'.clientId = c.clientId ∧
    ∀ f ∈ c.subscriptions, f ∈ c'.subscriptions

theorem MConn.pre : ConnPre fun c c' => c'.clientId = c.clientId ∧ ∀ f ∈ c.subscriptions, f ∈ c'.subscriptions where
  refl := fun _ => ⟨rfl, fun _ h => h⟩
  trans := fun h1 h2 => ⟨h2.1.trans h1.1, fun f hf => h2.2 f (h1.2 f hf)⟩
  same := fun e1 e2 _ _ => ⟨e1, fun _ hf => e2 ▸ hf⟩
  push := fun _ _ _ => ⟨rfl, fun _ h => h⟩

theorem MConn.frame : StepFrame MConn := ConnsKeep.frame MConn.pre
theorem MConn.sweep : TurnFrame MConn := ConnsKeep.sweep MConn.pre

theorem MConn.trans {a b c : RState} (h1 : MConn a b) (h2 : MConn b c) : MConn a c := MConn.frame.trans h1 h2

theorem MConn.of_conns {s s' : RState} (hc : s'.conns = s.conns) : MConn s s' := ConnsKeep.of_conns MConn.pre hc

theorem MConn.of_setc {s s' : RState} {id : Nat} {c c' : Conn} (hc : getConn s id = some c)
    (hconns : s'.conns = s.conns.set id c') (hcid : c'.clientId = c.clientId)
    (hsubs : ∀ f ∈ c.subscriptions, f ∈ c'.subscriptions) : MConn s s' :=
  ConnsKeep.of_set MConn.pre hc hconns ⟨hcid, hsubs⟩

theorem MI.of_mconn {s s' : RState} (h : MI s) (m : MConn s s')
    (he : ∀ p' ∈ s'.shared, ∀ cid ∈ p'.2.clients,
      (∃ p ∈ s.shared, p.1 = p'.1 ∧ cid ∈ p.2.clients) ∨
      (∃ id c, getConn s' id = some c ∧ c.clientId = cid ∧ ∃ f ∈ c.subscriptions, ∃ path, extractGroup f = some (p'.1, path))) :
    MI s' := by
  intro p' hp' cid hcid
  rcases he p' hp' cid hcid with ⟨p, hp, e, hm⟩ | h0
  · obtain ⟨id, c, hc, hci, f, hf, path, hx⟩ := h p hp cid hm
    obtain ⟨c', hc', e1, e2⟩ := m id c hc
    exact ⟨id, c', hc', e1.trans hci, f, e2 f hf, path, e ▸ hx⟩
  · exact h0

structure MStep (s s' : RState) : Prop where
  conn : MConn s s'
  shared : s'.shared = s.shared

theorem MI.step {s s' : RState} (h : MI s) (m : MStep s s') : MI s' :=
  h.of_mconn m.conn fun p' hp' cid hcid => .inl ⟨p', by rw [← m.shared]; exact hp', rfl, hcid⟩

theorem MStep.frame : StepFrame MStep := MConn.frame.with_shared MStep.mk MStep.conn MStep.shared

theorem MI.of_members {s s' : RState} (h : MI s) (m : MConn s s') (he : GroupsKept s.shared s'.shared) : MI s' :=
  h.of_mconn m fun p' hp' cid hcid => by
    obtain ⟨p, hp, e1, e2⟩ := he p' hp'
    exact .inl ⟨p, hp, e1, e2 ▸ hcid⟩

theorem consume_mi {s s' : RState} {b : Bool} (h : MI s) (hc : consume s = .ok (s', b)) : MI s' :=
  h.of_members (MConn.frame.consume MConn.sweep hc) (GroupsKept.frame.consume GroupsKept.sweep hc)

end Router
