/-
Request conservation along a move of requests and through `consume`: the keys are kept because `consume` hands back
what it took.
-/
import Proofs.Lemmas.Router.Rp4_HeldEffect
namespace Router

/-- what `o` holds outside the state goes from `ex` to `ex'`; `hp`: gains and losses balance -/
theorem RCX.move {s s' : RState} {o : Nat} {ex ex' : List RKey} {add rem : Nat → List DataRequest} (h : RCX s o ex)
    (m : Held s s' add rem) (hw : WIdx s → WIdx s')
    (hp : ∀ j, ((add j).map (·.key) ++ (if j = o then ex' else [])).Perm
      ((rem j).map (·.key) ++ (if j = o then ex else []))) : RCX s' o ex' := by
  refine ⟨?_, hw h.widx, by rw [m.grv, m.fi]; exact h.grv⟩
  rw [m.fi, show subsOf s' = subsOf s from funext m.subs]
  refine h.k.of_perm fun j => ?_
  have p1 := (m.held j).map (·.key)
  rw [keysOf_eq, keysOf_eq]
  rw [List.map_append, List.map_append] at p1
  exact perm_rebalance p1 (List.perm_append_comm.trans (hp j).symm)

theorem RCX.view {s s' : RState} {o : Nat} {ex : List RKey} (h : RCX s o ex) (m : Moves s s') : RCX s' o ex :=
  h.move m.1 m.2.widx fun _ => .refl _

theorem park_widx {s s' : RState} {id : Nat} {r : DataRequest} (h : park s id r = .ok s') (hw : WIdx s) : WIdx s' := by
  obtain ⟨fd, hfd, rfl⟩ := park_upd h
  intro k fdk hk w hw'
  simp only [List.getElem?_set] at hk
  split at hk
  · split at hk
    · simp only [Option.some.injEq] at hk; subst hk
      rename_i e _; subst e
      rcases List.mem_append.mp hw' with hm | hm
      · exact hw _ fd hfd w hm
      · simp only [List.mem_singleton] at hm; subst hm; rfl
    · simp at hk
  · exact hw k fdk hk w hw'

theorem consume_widx {s s' : RState} {b : Bool} (h : consume s = .ok (s', b)) (hw : WIdx s) : WIdx s' := by
  rcases Walk.consume_cases h with ⟨_, _, rfl⟩ | ⟨id, rq, c, s1, _, hcn, _, h1, h2⟩
  · exact hw
  · refine (Moves.closed.wakeTurnMoved h2).2.widx ?_
    have w0 : WIdx (ackDeviceData (Walk.takeRequests s id c rq) id) :=
      (Moves.closed.ackDeviceData _ id).2.widx (WIdx.of_waiters (s := s) rfl hw)
    have sweep : ∀ {s s1 : RState} {req req1 : DataRequest} {st : ConsumeStatus},
        forwardDeviceData s id req = .ok (s1, req1, st) → WIdx s → WIdx (noteTurn s s1 req1) :=
      fun {s s1 _ req1 _} h1 h => (Moves.closed.noteTurn s s1 req1).2.widx ((Moves.sweepClosed.forwardDeviceData h1).2.widx h)
    obtain ⟨s0, l, h0, ht⟩ := consumeLoop_inv (P := fun s _ => WIdx s) (fun _ h => h)
      (fun hp h => (Moves.closed.pause hp).2.widx h) sweep (fun h1 h3 h => park_widx h3 (sweep h1 h)) _ h1 w0
    obtain ⟨c0, _, rfl⟩ := trackv_upd ht
    exact WIdx.of_waiters rfl h0

theorem consume_rc {s s' : RState} {b : Bool} (hr : RC s) (h : consume s = .ok (s', b)) : RC s' := by
  obtain ⟨hK, hW, hG⟩ := (RC.iff s).mp hr
  obtain ⟨p, sb, g, _, fi⟩ := consume_held h
  refine (RC.iff s').mpr ⟨?_, consume_widx h hW, by rw [g, fi]; exact hG⟩
  rw [fi, show subsOf s' = subsOf s from funext sb]
  exact hK.of_perm fun j => keysOf_perm_of_sigs (p j)

end Router
