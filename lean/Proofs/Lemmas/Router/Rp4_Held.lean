/-
The data requests a connection holds anywhere in the state as one list `held s j` (tracked, parked, notified), and what
a call does to it as an equation between multisets, `Held s s' add rem`. Conservation, cursor soundness and ownership
are read off the list. `Held` does not say where a request is; `WSub` does, as far as the invariants need it.
-/
import Proofs.Lemmas.Router.Rp4_Closed
import Proofs.Lemmas.Router.Rp4_Keys
namespace Router

def pick (id : Nat) (l : List (Nat × DataRequest)) : List DataRequest :=
  (l.filter (fun w => w.1 == id)).map (·.2)

def tracked (s : RState) (j : Nat) : List DataRequest :=
  match getConn s j with
  | some c => c.tracker.requests
  | none => []

def parked (s : RState) (j : Nat) : List DataRequest := s.datalog.native.flatMap (fun fd => pick j fd.waiters)

def held (s : RState) (j : Nat) : List DataRequest := tracked s j ++ parked s j ++ pick j s.notifications

theorem mem_pick {j : Nat} {l : List (Nat × DataRequest)} {r : DataRequest} : r ∈ pick j l ↔ (j, r) ∈ l := by
  unfold pick
  simp only [List.mem_map, List.mem_filter, beq_iff_eq]
  constructor
  · rintro ⟨w, ⟨hw, rfl⟩, rfl⟩; exact hw
  · intro h; exact ⟨(j, r), ⟨h, rfl⟩, rfl⟩

theorem mem_tracked {s : RState} {j : Nat} {r : DataRequest} :
    r ∈ tracked s j ↔ ∃ c, getConn s j = some c ∧ r ∈ c.tracker.requests := by
  unfold tracked
  cases getConn s j <;> simp

theorem mem_parked {s : RState} {j : Nat} {r : DataRequest} :
    r ∈ parked s j ↔ ∃ fd ∈ s.datalog.native, (j, r) ∈ fd.waiters := by
  unfold parked
  simp only [List.mem_flatMap, mem_pick]

theorem pick_append (j : Nat) (a b : List (Nat × DataRequest)) : pick j (a ++ b) = pick j a ++ pick j b := by
  simp [pick, List.filter_append]

theorem pick_nil (j : Nat) : pick j [] = [] := rfl

theorem pick_cons (j : Nat) (w : Nat × DataRequest) (l : List (Nat × DataRequest)) :
    pick j (w :: l) = if w.1 = j then w.2 :: pick j l else pick j l := by
  unfold pick
  by_cases h : w.1 = j <;> simp [h]

theorem pick_perm {j : Nat} {a b : List (Nat × DataRequest)} (h : a.Perm b) : (pick j a).Perm (pick j b) :=
  (h.filter _).map _

theorem pickK_eq (j : Nat) (l : List (Nat × DataRequest)) : pickK j l = (pick j l).map (·.key) := by
  simp [pickK, pick, List.map_map, Function.comp_def]

theorem keysOf_eq (s : RState) (j : Nat) : keysOf s j = (held s j).map (·.key) := by
  unfold keysOf held trackerKeys waiterKeys notifKeys tracked parked
  simp only [List.map_append, List.map_flatMap, pickK_eq]
  cases getConn s j <;> rfl

/-- from `s` to `s'` connection `j` gains the requests `add j` and loses `rem j`, as multisets -/
structure Held (s s' : RState) (add rem : Nat → List DataRequest) : Prop where
  held : ∀ j, (held s' j ++ rem j).Perm (held s j ++ add j)
  subs : ∀ j, subsOf s' j = subsOf s j
  grv : s'.graveyard = s.graveyard
  cfg : s'.config = s.config
  fi : s'.datalog.filterIndexes = s.datalog.filterIndexes

def noRq : Nat → List DataRequest := fun _ => []

def oneRq (id : Nat) (rs : List DataRequest) : Nat → List DataRequest := fun j => if j = id then rs else []

theorem Held.refl (s : RState) : Held s s noRq noRq := ⟨fun _ => .refl _, fun _ => rfl, rfl, rfl, rfl⟩

theorem Held.trans {a b c : RState} {a1 r1 a2 r2 : Nat → List DataRequest} (h1 : Held a b a1 r1) (h2 : Held b c a2 r2) :
    Held a c (fun j => a1 j ++ a2 j) (fun j => r2 j ++ r1 j) := by
  refine ⟨fun j => ?_, fun j => (h2.subs j).trans (h1.subs j), h2.grv.trans h1.grv, h2.cfg.trans h1.cfg, h2.fi.trans h1.fi⟩
  -- `c ++ r2 ++ r1` is `b ++ a2 ++ r1` by `h2`, which is `b ++ r1 ++ a2`, and that is `a ++ a1 ++ a2` by `h1`
  have p2 : (Router.held b j ++ a2 j ++ r1 j).Perm (Router.held b j ++ r1 j ++ a2 j) := by
    rw [List.append_assoc, List.append_assoc]; exact List.perm_append_comm.append_left _
  rw [← List.append_assoc, ← List.append_assoc]
  exact (((h2.held j).append_right _).trans p2).trans ((h1.held j).append_right _)

theorem Held.reshape {s s' : RState} {a r a' r' : Nat → List DataRequest} (m : Held s s' a r)
    (h : ∀ j, (a' j ++ r j).Perm (a j ++ r' j)) : Held s s' a' r' :=
  ⟨fun j => perm_rebalance (m.held j) (h j), m.subs, m.grv, m.cfg, m.fi⟩

theorem Held.nn {a b c : RState} (h1 : Held a b noRq noRq) (h2 : Held b c noRq noRq) : Held a c noRq noRq :=
  (h1.trans h2).reshape fun _ => .refl _

theorem tracked_of_set {s s' : RState} {id : Nat} {c c' : Conn} (hc : getConn s id = some c)
    (hconns : s'.conns = s.conns.set id c') (j : Nat) :
    tracked s' j = if j = id then c'.tracker.requests else tracked s j := by
  unfold tracked
  rw [getConn_of_set hc hconns]
  by_cases hj : j = id <;> simp only [hj, if_true, if_false]

theorem Held.of_fields {s s' : RState} (hc : s'.conns = s.conns) (hnat : s'.datalog.native = s.datalog.native)
    (hfi : s'.datalog.filterIndexes = s.datalog.filterIndexes) (hntf : s'.notifications = s.notifications)
    (hgrv : s'.graveyard = s.graveyard) (hcfg : s'.config = s.config) : Held s s' noRq noRq := by
  refine ⟨fun j => ?_, fun j => subsOf_congr (getConn_congr hc j), hgrv, hcfg, hfi⟩
  unfold Router.held tracked parked getConn
  rw [hc, hnat, hntf]

theorem Held.tracker_set {s s' : RState} {id : Nat} {c c' : Conn} (hc : getConn s id = some c)
    (hconns : s'.conns = s.conns.set id c') (hsub : c'.subscriptions = c.subscriptions)
    (hnat : s'.datalog.native = s.datalog.native) (hfi : s'.datalog.filterIndexes = s.datalog.filterIndexes)
    (hntf : s'.notifications = s.notifications) (hgrv : s'.graveyard = s.graveyard) (hcfg : s'.config = s.config) :
    Held s s' (oneRq id c'.tracker.requests) (oneRq id c.tracker.requests) := by
  refine ⟨fun j => ?_, fun j => ?_, hgrv, hcfg, hfi⟩
  · unfold Router.held parked oneRq
    rw [tracked_of_set hc hconns, hnat, hntf]
    by_cases hj : j = id
    · subst hj
      have : tracked s j = c.tracker.requests := by unfold tracked; rw [hc]
      simp only [if_true, this]
      simpa only [List.append_nil, parked] using perm_append3 (List.perm_append_comm (l₁ := c'.tracker.requests)
        (l₂ := c.tracker.requests)) (.refl (parked s j ++ [])) (.refl (pick j s.notifications ++ []))
    · simp only [hj, if_false, List.append_nil]; exact .refl _
  · rw [subsOf_set (getConn_of_set hc hconns) j]
    split
    · next hj => rw [hj, hsub, subsOf_live hc]
    · rfl

theorem Held.of_setc {s s' : RState} {id : Nat} {c c' : Conn} (hc : getConn s id = some c)
    (hconns : s'.conns = s.conns.set id c') (hr : c'.tracker.requests = c.tracker.requests)
    (hsub : c'.subscriptions = c.subscriptions)
    (hnat : s'.datalog.native = s.datalog.native) (hfi : s'.datalog.filterIndexes = s.datalog.filterIndexes)
    (hntf : s'.notifications = s.notifications) (hgrv : s'.graveyard = s.graveyard) (hcfg : s'.config = s.config) :
    Held s s' noRq noRq :=
  (Held.tracker_set hc hconns hsub hnat hfi hntf hgrv hcfg).reshape fun j => by rw [hr]; exact List.perm_append_comm

theorem Held.of_set {s s' : RState} {id : Nat} {c c' : Conn} (hc : getConn s id = some c)
    (hconns : s'.conns = s.conns.set id c') (hr : c'.tracker.requests = c.tracker.requests)
    (hsub : c'.subscriptions = c.subscriptions) (hk : reqKey s' = reqKey s) : Held s s' noRq noRq := by
  simp only [reqKey, Prod.mk.injEq] at hk
  exact Held.of_setc hc hconns hr hsub hk.1 hk.2.1 hk.2.2.1 hk.2.2.2.1 hk.2.2.2.2.2

theorem trackv_held {s s' : RState} {id : Nat} {rs : List DataRequest} (h : trackv s id rs = .ok s') :
    Held s s' (oneRq id rs) noRq := by
  obtain ⟨c, hc, rfl⟩ := trackv_upd h
  refine Held.reshape (Held.tracker_set (c' := { c with tracker := { c.tracker with requests := c.tracker.requests ++ rs } })
    hc rfl rfl rfl rfl rfl rfl rfl) fun j => ?_
  unfold oneRq noRq
  split
  · rw [List.append_nil]; exact List.perm_append_comm
  · exact .refl _

theorem track_held {s s' : RState} {id : Nat} {r : DataRequest} (h : track s id r = .ok s') : Held s s' (oneRq id [r]) noRq := by
  obtain ⟨c, hc, rfl⟩ := track_upd h
  exact trackv_held (s := s) (rs := [r]) (by unfold trackv; rw [hc])

theorem Held.set_native {s s' : RState} {i : Nat} {fd fd' : FilterData} (hfd : s.datalog.native[i]? = some fd)
    (hc : s'.conns = s.conns) (hnat : s'.datalog.native = s.datalog.native.set i fd')
    (hf : s'.datalog.filterIndexes = s.datalog.filterIndexes) (hg : s'.graveyard = s.graveyard)
    (hcfg : s'.config = s.config) :
    Held s s' (fun j => pick j fd'.waiters ++ pick j s'.notifications)
      (fun j => pick j fd.waiters ++ pick j s.notifications) := by
  refine ⟨fun j => ?_, fun j => subsOf_congr (getConn_congr hc j), hg, hcfg, hf⟩
  have hwk := flatMap_set_perm s.datalog.native i fd fd' (fun fd => pick j fd.waiters) hfd
  have ht : tracked s' j = tracked s j := by unfold tracked getConn; rw [hc]
  unfold Router.held parked
  rw [ht, hnat]
  simpa only [List.append_nil, List.nil_append, List.append_assoc] using perm_append3 (.refl (tracked s j ++ []))
    ((List.perm_append_comm.trans hwk).trans List.perm_append_comm) (List.perm_append_comm (l₁ := pick j s'.notifications)
      (l₂ := pick j s.notifications))

theorem park_held {s s' : RState} {id : Nat} {r : DataRequest} (h : park s id r = .ok s') : Held s s' (oneRq id [r]) noRq := by
  obtain ⟨fd, hfd, rfl⟩ := park_upd h
  refine Held.reshape (Held.set_native hfd rfl rfl rfl rfl rfl) fun j => ?_
  simp only [oneRq, noRq, pick_append, pick_cons, pick_nil]
  by_cases hj : id = j
  · subst hj
    simp only [if_true, List.append_nil]
    rw [← List.append_assoc]; exact List.perm_append_comm.append_right _
  · have : ¬ j = id := fun e => hj e.symm
    simp only [hj, this, if_false, List.nil_append, List.append_nil]; exact .refl _

theorem appendToFilter_held {s s' : RState} {idx : Nat} {p : Pub} (h : appendToFilter s idx p = .ok s') :
    Held s s' noRq noRq := by
  obtain ⟨fd, _, hfd, _, e⟩ := appendToFilter_upd h
  obtain ⟨hc, hnat, hf, hn, hg, hcfg⟩ : s'.conns = s.conns ∧
      s'.datalog.native = s.datalog.native.set idx { fd with log := (fd.log.append p (pubSize p)).1, waiters := [] } ∧
      s'.datalog.filterIndexes = s.datalog.filterIndexes ∧ s'.notifications = s.notifications ++ fd.waiters ∧
      s'.graveyard = s.graveyard ∧ s'.config = s.config := by subst e; exact ⟨rfl, rfl, rfl, rfl, rfl, rfl⟩
  refine (Held.set_native hfd hc hnat hf hg hcfg).reshape fun j => ?_
  simp only [noRq, hn, pick_append, pick_nil, List.nil_append, List.append_nil]
  exact List.perm_append_comm

theorem clearWaiters_held {s : RState} {i : Nat} {fd : FilterData} (hfd : s.datalog.native[i]? = some fd) :
    Held s (clearWaiters s i fd) noRq (fun j => pick j fd.waiters) := by
  refine (Held.set_native (s' := clearWaiters s i fd) (fd' := { fd with waiters := [] }) hfd rfl rfl rfl rfl rfl).reshape
    fun j => ?_
  simp only [noRq, pick_nil, clearWaiters, List.nil_append]
  exact List.perm_append_comm

theorem setNotifications_held (s : RState) (ns : List (Nat × DataRequest)) :
    Held s { s with notifications := ns } (fun j => pick j ns) (fun j => pick j s.notifications) := by
  refine ⟨fun j => ?_, fun j => rfl, rfl, rfl, rfl⟩
  show ((tracked s j ++ parked s j ++ pick j ns) ++ _).Perm _
  unfold Router.held
  simpa only [List.append_nil, List.nil_append] using perm_append3 (.refl (tracked s j ++ [])) (.refl (parked s j ++ []))
    (List.perm_append_comm (l₁ := pick j ns) (l₂ := pick j s.notifications))

theorem Held.connClosed : ConnClosed (fun s s' => Held s s' noRq noRq) where
  refl := Held.refl
  trans := Held.nn
  of_rest hc hk := by
    simp only [reqKey, Prod.mk.injEq] at hk
    exact Held.of_fields hc hk.1 hk.2.1 hk.2.2.1 hk.2.2.2.1 hk.2.2.2.2.2
  of_set hc hconns hr hsub _ hk := Held.of_set hc hconns hr hsub hk

theorem drainNotifications_held : ∀ (ns : List (Nat × DataRequest)) {s s' : RState},
    drainNotifications s ns = .ok s' → Held s s' (fun j => pick j ns) noRq
  | [], s, s', h => by cases h; exact Held.refl _
  | (id, r) :: rest, s, s', h => by
    simp only [drainNotifications] at h
    split at h
    · cases h
    · rename_i s1 h1
      split at h
      · cases h
      · rename_i s2 h2
        refine (((track_held h1).trans (Held.connClosed.reschedule h2)).trans
          (drainNotifications_held rest h)).reshape fun j => ?_
        simp only [noRq, oneRq, pick_cons, List.append_nil]
        by_cases hj : id = j
        · subst hj; simp
        · have : ¬ j = id := fun e => hj e.symm
          simp [hj, this]

theorem Held.closed : PubClosed (fun s s' => Held s s' noRq noRq) where
  toConnClosed := Held.connClosed
  wake hfd h := ((clearWaiters_held hfd).trans (drainNotifications_held _ h)).reshape fun j => by simp [noRq]
  drain {s _} h := ((setNotifications_held s []).trans (drainNotifications_held _ h)).reshape fun j => by
    simp [noRq, pick_nil]
  append := appendToFilter_held

theorem Held.sweepClosed : SweepClosed (fun s s' => Held s s' noRq noRq) where
  toConnClosed := Held.connClosed
  of_out _ _ hc hconns hk := Held.of_set hc hconns rfl rfl hk
  of_shared _ _ := Held.of_fields rfl rfl rfl rfl rfl rfl

/-- every waiter list of `s'` is empty, or is part of the waiter list of the same, unchanged log in `s` -/
def WSub (s s' : RState) : Prop :=
  ∀ (i : Nat) (fd' : FilterData), s'.datalog.native[i]? = some fd' →
    fd'.waiters = [] ∨ ∃ fd, s.datalog.native[i]? = some fd ∧ fd'.log = fd.log ∧ ∀ w ∈ fd'.waiters, w ∈ fd.waiters

theorem WSub.refl (s : RState) : WSub s s := fun _ fd' h => .inr ⟨fd', h, rfl, fun _ hw => hw⟩

theorem WSub.trans {a b c : RState} (h1 : WSub a b) (h2 : WSub b c) : WSub a c := by
  intro i fd'' h
  rcases h2 i fd'' h with e | ⟨fd', hb, el, hs⟩
  · exact .inl e
  · rcases h1 i fd' hb with e | ⟨fd, ha, el', hs'⟩
    · refine .inl (List.eq_nil_iff_forall_not_mem.mpr fun w hw => ?_)
      have := hs w hw
      rw [e] at this; cases this
    · exact .inr ⟨fd, ha, el.trans el', fun w hw => hs' w (hs w hw)⟩

theorem WSub.of_native {s s' : RState} (h : s'.datalog.native = s.datalog.native) : WSub s s' := by
  intro i fd' hfd
  rw [h] at hfd
  exact .inr ⟨fd', hfd, rfl, fun _ hw => hw⟩

theorem WSub.of_set {s s' : RState} {i : Nat} {fd fd' : FilterData} (hfd : s.datalog.native[i]? = some fd)
    (hnat : s'.datalog.native = s.datalog.native.set i fd')
    (h : fd'.waiters = [] ∨ (fd'.log = fd.log ∧ ∀ w ∈ fd'.waiters, w ∈ fd.waiters)) : WSub s s' := by
  intro k fdk hk
  rw [hnat, List.getElem?_set] at hk
  split at hk
  · split at hk
    · simp only [Option.some.injEq] at hk; subst hk
      rename_i e _; subst e
      rcases h with h | ⟨h1, h2⟩
      · exact .inl h
      · exact .inr ⟨fd, hfd, h1, h2⟩
    · simp at hk
  · exact .inr ⟨fdk, hk, rfl, fun _ hw => hw⟩

theorem WSub.widx {s s' : RState} (w : WSub s s') (h : WIdx s) : WIdx s' := by
  intro i fd' hfd' x hx
  rcases w i fd' hfd' with e | ⟨fd, hfd, _, hs⟩
  · rw [e] at hx; cases hx
  · exact h i fd hfd x (hs x hx)

theorem WSub.closed : PubClosed WSub where
  refl := WSub.refl
  trans := WSub.trans
  of_rest _ hk := WSub.of_native (reqKey_native hk)
  of_set _ _ _ _ _ hk := WSub.of_native (reqKey_native hk)
  wake {s _ i fd} hfd h :=
    (WSub.of_set (s' := clearWaiters s i fd) (fd' := { fd with waiters := [] }) hfd rfl (.inl rfl)).trans
      (WSub.of_native (drainNotifications_native _ h))
  drain {s _} h := WSub.of_native (drainNotifications_native (s := { s with notifications := [] }) _ h)
  append h := by
    obtain ⟨fd, _, hfd, _, rfl⟩ := appendToFilter_upd h
    exact WSub.of_set (fd' := { fd with log := (fd.log.append _ _).1, waiters := [] }) hfd rfl (.inl rfl)

theorem WSub.sweepClosed : SweepClosed WSub where
  toConnClosed := WSub.closed.toConnClosed
  of_out _ _ _ _ hk := WSub.of_native (reqKey_native hk)
  of_shared _ _ := WSub.of_native rfl

/-- no request appears or vanishes, and a parked request stays parked in its unchanged log or is woken -/
def Moves (s s' : RState) : Prop := Held s s' noRq noRq ∧ WSub s s'

theorem Moves.closed : PubClosed Moves := Held.closed.and WSub.closed

theorem Moves.sweepClosed : SweepClosed Moves := Held.sweepClosed.and WSub.sweepClosed

end Router
