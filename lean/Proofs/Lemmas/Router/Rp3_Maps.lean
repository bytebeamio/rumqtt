/-
`DLInv`, what `log_content` of C01 rests on. `MapsOK`: `filter_indexes` is a bijection between the filters and the
indexes of `native`, and every cached `publish_filters` entry is a permutation of the indexes of the filters matching
its topic. `LogsOK`: every filter log represents an append history (`Rep` of C13).
-/
import Proofs.Lemmas.CommitLogBridge
import Proofs.Lemmas.Router.Base.Effect
namespace Router
namespace Rp3
open CommitLog (Rep logC)

/-- the indexes `DataLog::matches` computes for a topic that is not cached -/
def expectedIdxs (d : DataLog) (topic : String) : List Nat :=
  (d.filterIndexes.filter (fun p => topicMatches topic p.1)).map (·.2)

structure MapsOK (d : DataLog) : Prop where
  idx : ∀ f i, (f, i) ∈ d.filterIndexes ↔ (d.native[i]?).map (·.filter) = some f
  idxNodup : (d.filterIndexes.map (·.2)).Nodup
  keyNodup : (d.filterIndexes.map (·.1)).Nodup
  cache : ∀ topic v, alookup topic d.publishFilters = some v → v.Perm (expectedIdxs d topic)

def LogsOK (d : DataLog) : Prop := ∀ l ∈ d.native.map (·.log), ∃ hist : List Pub, Rep (logC l) hist

/-- the name under which C01 states the coherence of the maps -/
def MapsConsistent (s : RState) : Prop := MapsOK s.datalog

structure DLInv (s : RState) : Prop where
  maps : MapsOK s.datalog
  logs : LogsOK s.datalog
  segSize : 1 ≤ s.config.maxSegmentSize
  segCount : 1 ≤ s.config.maxSegmentCount

/-- the part of the state the invariant reads -/
def dkey (s : RState) : List String × List (CLog.Log Pub) × List (String × Nat) × List (String × List Nat) × Config :=
  (s.datalog.native.map (·.filter), s.datalog.native.map (·.log), s.datalog.filterIndexes,
   s.datalog.publishFilters, s.config)

theorem MapsOK.of_same {d d' : DataLog} (h : MapsOK d)
    (h1 : d'.native.map (fun fd : FilterData => fd.filter) = d.native.map (fun fd : FilterData => fd.filter))
    (h2 : d'.filterIndexes = d.filterIndexes) (h3 : d'.publishFilters = d.publishFilters) : MapsOK d' := by
  have e : ∀ i : Nat, (d'.native[i]?).map (fun fd : FilterData => fd.filter) = (d.native[i]?).map (fun fd : FilterData => fd.filter) := by
    intro i
    have := congrArg (fun l => l[i]?) h1
    simpa [List.getElem?_map] using this
  refine ⟨?_, by rw [h2]; exact h.idxNodup, by rw [h2]; exact h.keyNodup, ?_⟩
  · intro f i; rw [h2, e]; exact h.idx f i
  · intro topic v hv; rw [h3] at hv
    have := h.cache topic v hv
    simpa [expectedIdxs, h2] using this

theorem DLInv.of_dkey {s s' : RState} (h : DLInv s) (e : dkey s' = dkey s) : DLInv s' := by
  simp only [dkey, Prod.mk.injEq] at e
  obtain ⟨e1, e2, e3, e4, e5⟩ := e
  refine ⟨h.maps.of_same e1 e3 e4, ?_, by rw [e5]; exact h.segSize, by rw [e5]; exact h.segCount⟩
  intro l hl; rw [e2] at hl; exact h.logs l hl

theorem MapsOK.lookup_iff {d : DataLog} (h : MapsOK d) (f : String) (i : Nat) :
    d.filterIdx? f = some i ↔ (d.native[i]?).map (·.filter) = some f := by
  rw [← h.idx f i]
  unfold DataLog.filterIdx?
  exact ⟨mem_of_alookup_eq_some, alookup_eq_some_of_mem h.keyNodup⟩

theorem MapsOK.idx_lt {d : DataLog} (h : MapsOK d) {f : String} {i : Nat} (hm : (f, i) ∈ d.filterIndexes) :
    i < d.native.length := by
  have := (h.idx f i).mp hm
  cases hg : d.native[i]? with
  | none => simp [hg] at this
  | some fd => exact (List.getElem?_eq_some_iff.mp hg).1

theorem mem_expectedIdxs {d : DataLog} (h : MapsOK d) (topic : String) (i : Nat) :
    i ∈ expectedIdxs d topic ↔ ∃ fd, d.native[i]? = some fd ∧ topicMatches topic fd.filter = true := by
  unfold expectedIdxs
  simp only [List.mem_map, List.mem_filter]
  constructor
  · rintro ⟨⟨f, j⟩, ⟨hm, ht⟩, rfl⟩
    have := (h.idx f j).mp hm
    cases hg : d.native[j]? with
    | none => simp [hg] at this
    | some fd =>
      simp only [hg, Option.map_some, Option.some.injEq] at this
      exact ⟨fd, rfl, by rw [this]; exact ht⟩
  · rintro ⟨fd, hg, ht⟩
    exact ⟨(fd.filter, i), ⟨(h.idx _ _).mpr (by simp [hg]), ht⟩, rfl⟩

theorem expectedIdxs_nodup {d : DataLog} (h : MapsOK d) (topic : String) : (expectedIdxs d topic).Nodup := by
  unfold expectedIdxs
  exact (h.idxNodup.sublist (List.Sublist.map _ List.filter_sublist))

theorem MapsOK.cache_spec {d : DataLog} (h : MapsOK d) {topic : String} {v : List Nat}
    (hv : alookup topic d.publishFilters = some v) :
    v.Nodup ∧ ∀ i, i ∈ v ↔ ∃ fd, d.native[i]? = some fd ∧ topicMatches topic fd.filter = true := by
  have hp := h.cache topic v hv
  exact ⟨hp.nodup_iff.mpr (expectedIdxs_nodup h topic), fun i => by rw [hp.mem_iff, mem_expectedIdxs h]⟩

theorem MapsOK.cacheInsert {d : DataLog} (h : MapsOK d) {topic : String} {v : List Nat}
    (hp : v.Perm (expectedIdxs d topic)) : MapsOK { d with publishFilters := d.publishFilters ++ [(topic, v)] } := by
  refine ⟨h.idx, h.idxNodup, h.keyNodup, fun t u hu => ?_⟩
  simp only [alookup_append] at hu
  cases hl : alookup t d.publishFilters with
  | some u' => rw [hl] at hu; cases hu; exact h.cache t _ hl
  | none =>
    simp only [hl, Option.none_or, alookup] at hu
    split at hu
    · rename_i htt; cases hu; subst htt; exact hp
    · cases hu

theorem dlMatches_inv {s s' : RState} {topic : String} {v : List Nat} (hi : DLInv s)
    (h : dlMatches s topic = .ok (s', v)) :
    DLInv s' ∧ v.Perm (expectedIdxs s.datalog topic) ∧ s'.datalog.native = s.datalog.native ∧
      s'.datalog.filterIndexes = s.datalog.filterIndexes := by
  rcases dlMatches_cases h with ⟨hc, rfl⟩ | ⟨_, hs, _, rfl⟩
  · exact ⟨hi, hi.maps.cache topic _ hc, rfl, rfl⟩
  · have hp := perm_of_sameMembers hs
    refine ⟨⟨?_, hi.logs, hi.segSize, hi.segCount⟩, hp, rfl, rfl⟩
    show MapsOK { s.datalog with publishFilters := _ }
    split
    · exact hi.maps
    · exact hi.maps.cacheInsert hp

theorem expectedIdxs_append (d : DataLog) (topic f : String) (i : Nat) (fi : List (String × Nat))
    (h : d.filterIndexes = fi ++ [(f, i)]) :
    expectedIdxs d topic =
      (fi.filter (fun p => topicMatches topic p.1)).map (·.2) ++ (if topicMatches topic f then [i] else []) := by
  unfold expectedIdxs
  rw [h, List.filter_append, List.map_append]
  by_cases ht : topicMatches topic f = true <;> simp [ht]

theorem MapsOK.idx_zip {d : DataLog} (h : MapsOK d) (p : String × Nat) :
    p ∈ d.filterIndexes ↔ p ∈ (d.native.map (·.filter)).zipIdx := by
  rw [List.mem_zipIdx_iff_getElem?, List.getElem?_map]; exact h.idx p.1 p.2

/-- `filter_indexes` read as `zipIdx` of the filters (`idx_zip`) grows by the pair appended -/
theorem MapsOK.addFilter {d : DataLog} (h : MapsOK d) {f : String} (hnew : d.filterIdx? f = none) (l : CLog.Log Pub) :
    MapsOK (d.addFilter f l) := by
  have hkey : f ∉ d.filterIndexes.map (·.1) := alookup_eq_none_iff_keys.mp hnew
  have hlt : ∀ p ∈ d.filterIndexes, p.2 < d.native.length := fun p hp => h.idx_lt (f := p.1) hp
  refine ⟨fun g i => ?_, ?_, ?_, fun topic v hv => ?_⟩
  · show (g, i) ∈ d.filterIndexes ++ [(f, d.native.length)] ↔ ((d.native ++ [_])[i]?).map (·.filter) = some g
    rw [← List.getElem?_map, ← List.mem_zipIdx_iff_getElem? (x := (g, i)), List.map_append, List.zipIdx_append,
      List.mem_append, List.mem_append, h.idx_zip]
    simp
  · show (List.map _ (d.filterIndexes ++ [(f, d.native.length)])).Nodup
    rw [List.map_append, List.nodup_append]
    refine ⟨h.idxNodup, List.nodup_cons.mpr ⟨List.not_mem_nil, List.nodup_nil⟩, fun a ha b hb => ?_⟩
    obtain ⟨p, hp, rfl⟩ := List.mem_map.mp ha
    cases List.mem_singleton.mp hb
    exact Nat.ne_of_lt (hlt p hp)
  · show (List.map _ (d.filterIndexes ++ [(f, d.native.length)])).Nodup
    rw [List.map_append, List.nodup_append]
    refine ⟨h.keyNodup, List.nodup_cons.mpr ⟨List.not_mem_nil, List.nodup_nil⟩, fun a ha b hb e => ?_⟩
    cases List.mem_singleton.mp hb
    exact hkey ((show a = f from e) ▸ ha)
  · replace hv : alookup topic (d.publishFilters.map _) = some v := hv
    rw [alookup_map_key topic _ (fun p => by split <;> rfl)] at hv
    obtain ⟨u, hu, rfl⟩ := Option.map_eq_some_iff.mp hv
    have hp := h.cache topic u hu
    rw [expectedIdxs_append _ topic f d.native.length d.filterIndexes rfl]
    by_cases ht : topicMatches topic f = true
    · simp only [ht, if_true]; exact hp.append_right _
    · simpa [ht, expectedIdxs] using hp

theorem LogsOK.addFilter {d : DataLog} (h : LogsOK d) (f : String) {l : CLog.Log Pub}
    (hl : ∃ hist : List Pub, Rep (logC l) hist) : LogsOK (d.addFilter f l) := by
  intro l' hl'
  simp only [DataLog.addFilter, List.map_append, List.map_cons, List.map_nil, List.mem_append, List.mem_singleton] at hl'
  rcases hl' with hl' | rfl
  · exact h l' hl'
  · exact hl

theorem nextNativeOffset_inv {s : RState} {filter : String} (hi : DLInv s) :
    DLInv (nextNativeOffset s filter).1 ∧ (nextNativeOffset s filter).1.config = s.config := by
  rcases nextNativeOffset_cases s filter with ⟨_, _, e⟩ | ⟨hnew, e⟩ <;> rw [e]
  · exact ⟨hi, rfl⟩
  · exact ⟨⟨hi.maps.addFilter hnew _, hi.logs.addFilter _ ⟨[], CommitLog.clog_new _ _ hi.segSize hi.segCount⟩,
      hi.segSize, hi.segCount⟩, rfl⟩

end Rp3
end Router
