/-
`CS` through the events, the whole step, and in every reachable state below `NoOverflow` (`reachable_below`).
-/
import Proofs.Lemmas.Router.Base.Adm
import Proofs.Lemmas.Router.Rp1_Unchanged
import Proofs.Lemmas.Router.Rp5_Consume
namespace Router
namespace Rp3
open CommitLog (Rep logC Issued U64)

theorem handleDevicePayload_cs {s s' : RState} {id : Nat} (hi : DLInv s) (h : CS s)
    (hp : handleDevicePayload s id = .ok s') : CS s' := by
  rcases handleDevicePayload_cases hp with ⟨_, rfl⟩ | ⟨c, s1, fl, s4, hc, h1, hR, _, hd⟩
  · exact h
  · have c1 := handlePackets_cs (s := setLink s c.link { getLink s c.link with ibuf := [] }) _ (hi.of_dkey rfl)
      (h.step0 (CStep.connClosed.of_rest rfl rfl)) h1
    have c4 : CS s4 := c1.step0 (hR _ CStep.closed)
    split at hd
    · exact handleDisconnection_cs c4 hd
    · subst hd; exact c4


/-- the restored requests are the saved ones, the window is empty, a group re-created for a resumed session starts at a
    restored request's cursor -/
theorem register_cs {s s' : RState} {spec : ConnectSpec} (h : CS s) (ha : AdmInv s)
    (hnone : alookup spec.clientId s.connectionMap = none) (hroom : s.conns.len < s.config.maxConnections)
    (hr : reschedule (hnPre s spec) (hnKey s spec) .init = .ok s') : CS s' := by
  refine CS.step0 ?_ (CStep.closed.reschedule hr)
  have hrest : ∀ r ∈ (hnTracker spec (hnRestored s spec)).requests, ReqOK s.datalog r :=
    hnRestored_elim (P := fun o => ∀ r ∈ (hnTracker spec o).requests, ReqOK s.datalog r)
      (fun r hr => by simp [hnTracker] at hr) h.grv
  refine h.transfer (LogMono.refl _) (fun r hr => ?_) (fun fi cur hw => .inl ?_) (fun p hp ss hss r hr => ?_) (fun p hp => ?_)
  · obtain ⟨j, hj⟩ := (allReqs_iff _ r).mp hr
    rw [hnPre_held ha hnone hroom] at hj
    rcases List.mem_append.mp hj with hj | hj
    · split at hj
      · exact .inr (hrest r hj)
      · cases hj
    · exact .inl ((allReqs_iff s r).mpr ⟨j, hj⟩)
  · obtain ⟨j, d, hd, e, he, rest⟩ := hw
    rcases hnPre_getConn_cases hd with rfl | hd
    · cases he
    · exact ⟨j, d, hd, e, he, rest⟩
  · rw [hnPre_graveyard] at hp; exact .inl ⟨p, (mem_aremove_iff.mp hp).1, ss, hss, hr⟩
  · rw [hnPre_shared] at hp
    rcases rejoinGroups_shared _ _ _ _ p hp with h1 | ⟨r, hr, hg, hc⟩
    · exact .inl h1
    · have := hrest r hr
      exact .inr ⟨r.filterIdx, this.2 p.1 hg, by rw [hc]; exact this.1⟩

theorem handleNewConnection_cs {s s' : RState} {spec : ConnectSpec} (ha : AdmInv s) (h : CS s)
    (hn : handleNewConnection s spec = .ok s') : CS s' :=
  have h0 : CS (setLink s spec.link {}) := h.step0 (CStep.connClosed.of_rest rfl rfl)
  handleNewConnection_inv (I := CS) (J := CS) ha h0 (fun _ hd => handleDisconnection_cs h0 hd)
    (fun h1 => h1.step0 (CStep.connClosed.of_rest rfl rfl)) (fun h1 _ a1 hnone hroom hr => register_cs h1 a1 hnone hroom hr) hn

theorem handleDevicePayload_mono {s s' : RState} {id : Nat} (hi : DLInv s)
    (hp : handleDevicePayload s id = .ok s') : LogMono s.datalog s'.datalog := by
  rcases handleDevicePayload_cases hp with ⟨_, rfl⟩ | ⟨c, s1, fl, s4, hc, h1, hR, _, hd⟩
  · exact LogMono.refl _
  · have m4 : LogMono s.datalog s4.datalog :=
      LogMono.trans (handlePackets_mono (s := setLink s c.link { getLink s c.link with ibuf := [] }) _ (hi.of_dkey rfl) h1)
        (hR _ CStep.closed).mono
    split at hd
    · exact m4.trans (LogMono.of_dkey (handleDisconnection_dkey hd))
    · subst hd; exact m4

theorem step_mono {s s' : RState} {op : Op} {out : Out} (hi : DLInv s) (h : step s op = .ok (s', out)) :
    LogMono s.datalog s'.datalog := by
  cases op_cases h with
  | connect spec hc => exact LogMono.of_dkey (handleNewConnection_dkey hc)
  | consume b hc => exact LogMono.of_dkey (dkeyFrame.consume hc)
  | event id e he =>
    cases e with
    | deviceData => exact handleDevicePayload_mono hi he
    | disconnect => exact LogMono.of_dkey (handleDisconnection_dkey (id := id) (r := none) he)
    | _ => exact (LogsStep.closed.step (by simp) h hi.logs).2.mono
  | _ => exact (LogsStep.closed.step (by simp) h hi.logs).2.mono

theorem NoOverflow.back {s s' : RState} (hi : DLInv s') (hm : LogMono s.datalog s'.datalog)
    (hc : s'.config = s.config) (h : NoOverflow s') : NoOverflow s := by
  intro fd hfd hist hrep
  obtain ⟨i, hi'⟩ := List.mem_iff_getElem?.mp hfd
  obtain ⟨fd', hfd', _, hle⟩ := hm.logs i fd hi'
  obtain ⟨hist', hrep'⟩ := hi.logs fd'.log (List.mem_map.mpr ⟨fd', List.mem_of_getElem? hfd', rfl⟩)
  have := h fd' (List.mem_of_getElem? hfd') hist' hrep'
  rw [hrep.nextAbs_eq, hrep'.nextAbs_eq] at hle
  rw [hc] at this
  omega


theorem step_cs {s s' : RState} {op : Op} {out : Out} (ha : AdmInv s) (hi : DLInv s) (hno : NoOverflow s) (h : CS s)
    (hs : step s op = .ok (s', out)) : CS s' := by
  cases op_cases hs with
  | connect spec hc => exact handleNewConnection_cs ha h hc
  | consume b hc => exact consume_cs hi hno h hc
  | event id e he =>
    cases e with
    | deviceData => exact handleDevicePayload_cs hi h he
    | disconnect => exact handleDisconnection_cs (id := id) (r := none) h he
    | _ => exact h.step0 (LogsStep.closed.step (by simp) hs hi.logs).2
  | _ => exact h.step0 (LogsStep.closed.step (by simp) hs hi.logs).2

theorem CS.init (cfg : Config) : CS (init cfg) := by
  refine ⟨fun r hr => ?_, fun fi cur hw => ?_, fun p hp => by simp [Router.init] at hp, fun p hp => by simp [Router.init] at hp⟩
  · rcases hr with ⟨id, c, hc, _⟩ | ⟨fd, hfd, _⟩ | ⟨n, hn, _⟩
    · simp [getConn_init] at hc
    · simp [Router.init] at hfd
    · simp [Router.init] at hn
  · obtain ⟨id, c, hc, _⟩ := hw
    simp [getConn_init] at hc

theorem NoOverflow.oracle {s : RState} (h : NoOverflow s) (o : List Choice) : NoOverflow { s with oracle := o } := h
theorem CS.oracle {s : RState} (h : CS s) (o : List Choice) : CS { s with oracle := o } :=
  h.step0 (CStep.connClosed.of_rest rfl rfl)

/-- the logs only grow, so a state below the bound had every earlier state of its run below it as well -/
theorem reachable_below {cfg : Config} (h1 : 1 ≤ cfg.maxSegmentSize) (h2 : 1 ≤ cfg.maxSegmentCount) {X : RState → Prop}
    (hinit : X (init cfg))
    (hstep : ∀ {s : RState} {o : List Choice} {op : Op} {s' : RState} {out : Out}, Reachable cfg s →
      DLInv ({ s with oracle := o } : RState) → NoOverflow s → X s → step { s with oracle := o } op = .ok (s', out) → X s')
    {s : RState} (hr : Reachable cfg s) (hno : NoOverflow s) : X s := by
  have key : Reachable cfg s ∧ DLInv s ∧ (NoOverflow s → X s) := by
    refine hr.induction (fun s => Reachable cfg s ∧ DLInv s ∧ (NoOverflow s → X s))
      ⟨reachable_init cfg, init_inv cfg h1 h2, fun _ => hinit⟩ ?_
    intro s o op s' out ⟨hrs, hi, hx⟩ hs
    have hi0 : DLInv ({ s with oracle := o } : RState) := hi.of_dkey rfl
    have hrs' : Reachable cfg s' := hrs.step hs
    have hi' : DLInv s' := step_inv hi0 hs
    refine ⟨hrs', hi', fun hno' => ?_⟩
    have hcfg : s'.config = s.config := by rw [config_reachable hrs', config_reachable hrs]
    have hno0 : NoOverflow s := NoOverflow.back (s := { s with oracle := o }) hi' (step_mono hi0 hs) hcfg hno'
    exact hstep hrs hi0 hno0 (hx hno0) hs
  exact key.2.2 hno

theorem CS.reachable {cfg : Config} (h1 : 1 ≤ cfg.maxSegmentSize) (h2 : 1 ≤ cfg.maxSegmentCount) {s : RState}
    (hr : Reachable cfg s) (hno : NoOverflow s) : CS s :=
  reachable_below h1 h2 (CS.init cfg) (fun {s o _ _ _} hrs hi hno hx hs =>
    step_cs (s := { s with oracle := o }) ((AdmInv.reachable hrs).congr rfl rfl rfl) hi hno (hx.oracle o) hs) hr hno

theorem tracked_request_sound {cfg : Config} (h1 : 1 ≤ cfg.maxSegmentSize) (h2 : 1 ≤ cfg.maxSegmentCount) {s : RState}
    (hr : Reachable cfg s) (hno : NoOverflow s) {id : Nat} {c : Conn} {req : DataRequest}
    (hc : getConn s id = some c) (hreq : req ∈ c.tracker.requests) :
    ∃ fd hist, s.datalog.native[req.filterIdx]? = some fd ∧ Rep (logC fd.log) hist ∧
      Issued (logC fd.log) req.cursor ∧ hist.length + (MAX_INFLIGHT + s.config.maxOutgoingPacketCount) < U64 ∧
      (∀ gname g, req.group = some gname → alookup gname s.shared = some g → Issued (logC fd.log) g.cursor) := by
  have hcs := CS.reachable h1 h2 hr hno
  have hi := reachable_inv h1 h2 hr
  obtain ⟨⟨fd, hfd, hiss⟩, hgrp⟩ := hcs.req req (.inl ⟨id, c, hc, hreq⟩)
  obtain ⟨hist, hrep⟩ := hi.logs fd.log (List.mem_map.mpr ⟨fd, List.mem_of_getElem? hfd, rfl⟩)
  refine ⟨fd, hist, hfd, hrep, hiss, hno fd (List.mem_of_getElem? hfd) hist hrep, fun gname g hgn hl => ?_⟩
  obtain ⟨i, a, ⟨fd', hfd', b⟩⟩ := hcs.grp (gname, g) (mem_of_alookup_eq_some hl)
  have := hgrp gname hgn
  have a' : s.datalog.filterIdx? (gpath gname) = some i := a
  rw [this] at a'
  cases a'
  rw [hfd] at hfd'; cases hfd'
  exact b

end Rp3
end Router
