/-
`AI` (C06, replies are not withheld at idle): a `Paused(Caughtup)` connection has an empty ack log — every reply it was
owed is in its link buffer. Inside a batch it holds with an excuse (`AIx`). `ARel`: no connection appears, none becomes
`Paused(Caughtup)`, an empty ack log stays empty.
-/
import Proofs.Lemmas.Router.Base.Walk
namespace Router

/-- with an excuse `P` (inside a batch: the reschedule or the disconnection is still to come) -/
def ACIx (c : Conn) (P : Prop) : Prop := c.tracker.status = .paused .caughtup → c.acks.committed = [] ∨ P

/-- the excuse applies to `id` only -/
def AIx (s : RState) (id : Nat) (P : Prop) : Prop := ∀ j c, getConn s j = some c → ACIx c (j = id ∧ P)

def AI (s : RState) : Prop := ∀ j c, getConn s j = some c → c.tracker.status = .paused .caughtup → c.acks.committed = []

theorem AI.toX {s : RState} (h : AI s) (id : Nat) (P : Prop) : AIx s id P := fun j c hc e => .inl (h j c hc e)
theorem AIx.toAI {s : RState} {id : Nat} {P : Prop} (h : AIx s id P) (hp : ¬ P) : AI s := fun j c hc e => by
  rcases h j c hc e with h' | ⟨_, h'⟩
  · exact h'
  · exact absurd h' hp

theorem AIx.weaken {s : RState} {id : Nat} {P Q : Prop} (h : AIx s id P) (hpq : P → Q) : AIx s id Q :=
  fun j c hc e => (h j c hc e).imp (fun x => x) fun ⟨a, b⟩ => ⟨a, hpq b⟩

def AKeep (c c' : Conn) : Prop :=
  (c'.tracker.status = .paused .caughtup → c.tracker.status = .paused .caughtup) ∧
  (c.acks.committed = [] → c'.acks.committed = [])

theorem AKeep.refl (c : Conn) : AKeep c c := ⟨fun h => h, fun h => h⟩
theorem AKeep.trans {a b c : Conn} (h1 : AKeep a b) (h2 : AKeep b c) : AKeep a c :=
  ⟨fun h => h1.1 (h2.1 h), fun h => h2.2 (h1.2 h)⟩

def ARel (s s' : RState) : Prop := ∀ j c', getConn s' j = some c' → ∃ c, getConn s j = some c ∧ AKeep c c'

theorem ARel.refl (s : RState) : ARel s s := fun _ c' h => ⟨c', h, AKeep.refl _⟩
theorem ARel.trans {a b c : RState} (h1 : ARel a b) (h2 : ARel b c) : ARel a c := fun j c' h => by
  obtain ⟨cb, hb, kb⟩ := h2 j c' h
  obtain ⟨ca, ha, ka⟩ := h1 j cb hb
  exact ⟨ca, ha, ka.trans kb⟩

theorem AIx.rel {s s' : RState} {id : Nat} {P : Prop} (h : AIx s id P) (m : ARel s s') : AIx s' id P := fun j c' hc' e => by
  obtain ⟨c, hc, k⟩ := m j c' hc'
  exact (h j c hc (k.1 e)).imp k.2 (fun x => x)

theorem AI.rel {s s' : RState} (h : AI s) (m : ARel s s') : AI s' := ((h.toX 0 False).rel m).toAI id

theorem ARel.of_conns {s s' : RState} (hc : s'.conns = s.conns) : ARel s s' :=
  ConnAll.of_conns (ARel.refl s) hc

theorem ARel.of_set {s s' : RState} {id : Nat} {c c' : Conn} (hc : getConn s id = some c)
    (hconns : s'.conns = s.conns.set id c') (hk : AKeep c c') : ARel s s' :=
  Walk.conns_of_set hc hconns ⟨c, hc, hk⟩ fun _ d _ hd => ⟨d, hd, AKeep.refl d⟩

theorem ARel.sweep : TurnFrame ARel where
  refl := ARel.refl
  trans := ARel.trans
  of_conns := fun hc _ _ _ _ _ => ARel.of_conns hc
  of_set := fun hc hs ha _ _ _ _ _ => ARel.of_set hc hs ⟨fun h => h, ha⟩
  of_native_set := fun _ hc _ _ _ _ _ _ => ARel.of_conns hc
  of_new_log := fun _ _ hc _ _ _ _ _ => ARel.of_conns hc
  of_turn := fun _ _ => ARel.of_conns rfl
  of_groups := fun hc _ _ => ARel.of_conns hc
  of_push := fun _ _ hc hs _ _ => ARel.of_set hc hs ⟨fun h => h, fun h => h⟩

/-- waking a tracker makes no connection `Paused(Caughtup)` -/
theorem ARel.sched : SchedFrame ARel where
  toDataFrame := ARel.sweep.toDataFrame
  of_tracker := fun hc hs hst _ _ _ _ => ARel.of_set hc hs
    ⟨fun e => hst.elim (fun h => h ▸ e) fun h => (by rw [h] at e; cases e), fun h => h⟩

theorem AIx.set {s s' : RState} {id k : Nat} {P : Prop} {c c' : Conn} (h : AIx s k P) (hc : getConn s id = some c)
    (hconns : s'.conns = s.conns.set id c') (hci : ACIx c' (id = k ∧ P)) : AIx s' k P :=
  Walk.conns_of_set hc hconns hci fun j d _ hd => h j d hd

theorem reschedule_discharges {s s' : RState} {id : Nat} {r : SchedReason} {P : Prop} (h : AIx s id P)
    (hr : reschedule s id r = .ok s') (hrs : r = .freshData ∨ r = .newFilter ∨ r = .incomingAck) : AI s' := by
  obtain ⟨c, _, _, hc, _⟩ := reschedule_upd hr
  obtain ⟨c', hc', _, _, _, hn1, _⟩ := reschedule_spec hc hr
  have m := ARel.sched.reschedule hr
  intro j d hd e
  by_cases hj : j = id
  · subst hj; rw [hc'] at hd; cases hd; exact absurd e (hn1 hrs)
  · rcases (h.rel m) j d hd e with h' | ⟨h', _⟩
    · exact h'
    · exact absurd h' hj

end Router
