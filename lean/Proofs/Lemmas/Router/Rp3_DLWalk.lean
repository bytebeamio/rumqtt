/-
`dkey` (what `DLInv` reads) is kept by every function that changes neither the maps nor the logs of the data log:
its equality is a core frame, and `handle_disconnection` / `handle_new_connection` keep it as well.
Preserving `DLInv` is a log frame: the functions that keep `dkey` keep it, and the three operations on the maps and
logs of the data log (cache fill, new filter, append) preserve it each for its own reason.
-/
import Proofs.Lemmas.Router.Base.Connect
import Proofs.Lemmas.Router.Base.Reach
import Proofs.Lemmas.Router.Rp3_Publish
import Proofs.Lemmas.Router.Base.Walk
namespace Router
namespace Rp3
open CommitLog (Rep logC)

theorem dkey_of_keys {s s' : RState} (h : KeysKept s s') : dkey s' = dkey s :=
  (congr (congrArg (fun k c => (k.1, k.2.1, k.2.2.1, k.2.2.2, c)) h.1) h.2 :)

theorem dkeyFrame : CoreFrame (fun s s' => dkey s' = dkey s) :=
  KeysKept.frame.mono (fun _ => rfl) (fun h1 h2 => h2.trans h1) dkey_of_keys

@[simp] theorem dkey_setConn (s : RState) (id : Nat) (c : Conn) : dkey (setConn s id c) = dkey s := rfl
@[simp] theorem dkey_g (s : RState) (e : Ghost) : dkey (s.g e) = dkey s := rfl
@[simp] theorem dkey_setLink (s : RState) (l : Nat) (b : LinkBuf) : dkey (setLink s l b) = dkey s := rfl
@[simp] theorem dkey_pushNotifs (s : RState) (l : Nat) (ns : List Notif) : dkey (pushNotifs s l ns) = dkey s := rfl
@[simp] theorem dkey_wakeLink (s : RState) (l : Nat) : dkey (wakeLink s l) = dkey s := rfl

theorem readRetained_dkey {s s' : RState} {f : String} {ps : List Pub}
    (h : readRetained s f = .ok (s', ps)) : dkey s' = dkey s ∧ s'.datalog = s.datalog := by
  obtain ⟨_, _, _, rfl, _⟩ := readRetained_upd h; exact ⟨rfl, rfl⟩

theorem resolveAlias_dkey {s s1 : RState} {id : Nat} {c : Conn} {a : Option Nat} {p p1 : Pub}
    (h : resolveAlias s id c a p = .ok (s1, p1)) : dkey s1 = dkey s := by
  rcases (resolveAlias_cases h).1 with rfl | ⟨ta, rfl⟩ <;> rfl

theorem removeWaiterFor_same (d : DataLog) (id : Nat) (f : String) :
    (removeWaiterFor d id f).native.map (·.filter) = d.native.map (·.filter) ∧
    (removeWaiterFor d id f).native.map (·.log) = d.native.map (·.log) ∧
    (removeWaiterFor d id f).filterIndexes = d.filterIndexes ∧
    (removeWaiterFor d id f).publishFilters = d.publishFilters := by
  have h := dlkey_removeWaiterFor d id f
  unfold dlkey at h
  simpa only [Prod.mk.injEq] using h

theorem handleDisconnection_dkey {s s' : RState} {id : Nat} {r : Option String}
    (h : handleDisconnection s id r = .ok s') : dkey s' = dkey s := dkey_of_keys (handleDisconnection_keys h)

theorem handleNewConnection_dkey {s s' : RState} {spec : ConnectSpec}
    (h : handleNewConnection s spec = .ok s') : dkey s' = dkey s := dkey_of_keys (handleNewConnection_keys h)

theorem dlinvFrame : LogFrame (fun s s' => DLInv s → DLInv s') :=
  { dkeyFrame.mono (fun _ hi => hi) (fun h1 h2 hi => h2 (h1 hi)) (fun e hi => hi.of_dkey e) with
    cache := fun hm hi => (dlMatches_inv hi hm).1
    newFilter := fun _ _ hi => (nextNativeOffset_inv hi).1
    append := fun ha hi => appendToFilter_inv hi ha }

theorem handlePacket_inv {s s' : RState} {id : Nat} {cid : String} {pkt : Packet} {fl fl' : Flags} (hi : DLInv s)
    (h : handlePacket s id cid pkt fl = .ok (s', fl')) : DLInv s' := dlinvFrame.handlePacket h hi

theorem step_inv {s s' : RState} {op : Op} {o : Out} (hi : DLInv s)
    (h : step s op = .ok (s', o)) : DLInv s' :=
  dlinvFrame.step (fun hd hi => hi.of_dkey (handleDisconnection_dkey hd))
    (fun _ _ hn hi => hi.of_dkey (handleNewConnection_dkey hn)) h hi

theorem init_inv (cfg : Config) (h1 : 1 ≤ cfg.maxSegmentSize) (h2 : 1 ≤ cfg.maxSegmentCount) : DLInv (init cfg) := by
  refine ⟨⟨?_, ?_, ?_, ?_⟩, ?_, h1, h2⟩
  · intro f i; simp [init]
  · simp [init]
  · simp [init]
  · intro t v hv; simp [init, alookup] at hv
  · intro l hl; simp [init] at hl

theorem reachable_inv {cfg : Config} (h1 : 1 ≤ cfg.maxSegmentSize) (h2 : 1 ≤ cfg.maxSegmentCount)
    {s : RState} (hr : Reachable cfg s) : DLInv s :=
  hr.induction DLInv (init_inv cfg h1 h2)
    (fun s ch _ _ _ hi hs => step_inv (s := { s with oracle := ch }) (hi.of_dkey rfl) hs)

end Rp3
end Router
