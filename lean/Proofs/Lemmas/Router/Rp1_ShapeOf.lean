/-
`f_shape` / `f_core`: which `Shape R` / `CoreEq` each model function keeps. An event is a shape-preserving part followed
by at most one `handleDisconnection` of its own connection (`events_split`); after that the id is free
(`getConn_handleDisconnection`).
-/
import Proofs.Lemmas.Router.Base.Cases
import Proofs.Lemmas.Router.Base.Packet
import Proofs.Lemmas.Router.Base.Sweep
import Proofs.Lemmas.Router.Rp1_Shape
namespace Router

theorem SchedStep.shape {s s' : RState} {id : Nat} (h : SchedStep id s s') : Shape RT s s' := by
  obtain ⟨c, t, q, hc, rfl⟩ := h
  exact (Shape.setConn hc (RT.mk id c t)).congr rfl rfl rfl

theorem SchedStep.other {s s' : RState} {id j : Nat} (h : SchedStep id s s') (hj : j ≠ id) :
    getConn s' j = getConn s j := by
  obtain ⟨c, t, q, hc, rfl⟩ := h
  exact (getConn_of_set hc rfl j).trans (if_neg hj)

theorem reschedule_shape {s s' : RState} {id : Nat} {r : SchedReason}
    (h : reschedule s id r = .ok s') : Shape RT s s' := (reschedule_step h).shape

theorem track_shape {s s' : RState} {id : Nat} {r : DataRequest}
    (h : track s id r = .ok s') : Shape RT s s' := (track_step h).shape

theorem pause_shape {s s' : RState} {id : Nat} {r : PauseReason}
    (h : pause s id r = .ok s') : Shape RT s s' := (pause_step h).shape

theorem DataStep.core {s s' : RState} (h : DataStep s s') : CoreEq s s' := by
  obtain ⟨_, _, _, _, rfl⟩ := h; exact ⟨rfl, rfl, rfl⟩

theorem park_core {s s' : RState} {id : Nat} {r : DataRequest}
    (h : park s id r = .ok s') : CoreEq s s' := (park_data h).core

theorem clearWaiters_core (s : RState) (i : Nat) (fd : FilterData) : CoreEq s (clearWaiters s i fd) := ⟨rfl, rfl, rfl⟩

theorem noteTurn_core (s0 s1 : RState) (req : DataRequest) : CoreEq s1 (noteTurn s0 s1 req) := by
  obtain ⟨tm, e⟩ := noteTurn_upd s0 s1 req
  rw [e]; exact ⟨rfl, rfl, rfl⟩

theorem dlMatches_core {s s' : RState} {topic : String} {v : List Nat}
    (h : dlMatches s topic = .ok (s', v)) : CoreEq s s' := (dlMatches_data h).core

theorem updateRetained_core (s : RState) (topic : String) (p : Pub) : CoreEq s (updateRetained s topic p) :=
  (updateRetained_data s topic p).core

/-- the tail shared by `append_to_commitlog` and `handle_last_will` -/
theorem appendTail_core {s1 s' : RState} {g : Ghost} {topic : String} {p p' : Pub}
    (h : (match dlMatches ((updateRetained s1 topic p).g g) topic with
      | Except.error e => Except.error e
      | Except.ok (s, idxs) =>
        match appendToFilters s idxs p' with
        | Except.error e => Except.error e
        | Except.ok s => (Except.ok s : M RState)) = Except.ok s') : CoreEq s1 s' := by
  split at h
  · simp at h
  · rename_i s2 idxs h2
    split at h
    · simp at h
    · rename_i s3 h3
      simp only [Except.ok.injEq] at h; subst h
      have a : CoreEq s1 ((updateRetained s1 topic p).g g) := updateRetained_core s1 topic p
      exact (a.trans (dlMatches_core h2)).trans (appendToFilters_data idxs h3).core

theorem registerAck_lastPkid (o : Outgoing) (pkid : Nat) : (o.registerAck pkid).1.lastPkid = o.lastPkid :=
  (registerAck_dropN o pkid).elim fun _ h => h.2

theorem Shape.rt_ro {id : Nat} {s s' : RState} (h : Shape RT s s') : Shape (RO id) s s' :=
  h.mono fun _ _ _ => RT.toRO

theorem nextNativeOffset_core (s : RState) (filter : String) : CoreEq s (nextNativeOffset s filter).1 :=
  (nextNativeOffset_data s filter).core

theorem handleShadow_core {s s' : RState} {id : Nat} {f : String} (h : handleShadow s id f = .ok s') : CoreEq s s' := by
  obtain ⟨ls, e⟩ := handleShadow_upd s id f
  cases e.symm.trans h
  exact ⟨rfl, rfl, rfl⟩

theorem drainNotifications_shape (ns : List (Nat × DataRequest)) {s s' : RState}
    (h : drainNotifications s ns = .ok s') : Shape RT s s' :=
  drainNotifications_rel (Shape RT) Shape.refl (fun _ _ _ => Shape.trans)
    (fun _ _ _ _ h => (track_step h).shape) (fun _ _ _ h => (reschedule_step h).shape) ns h

theorem wakeParked_shape {s s' : RState} {logs : List Nat} (h : wakeParked s logs = .ok s') : Shape RT s s' :=
  wakeParked_rel (Shape RT) Shape.refl (fun _ _ _ => Shape.trans)
    (fun s i fd _ => (clearWaiters_core s i fd).shape) (fun _ _ ns h => drainNotifications_shape ns h) h

theorem wakeTurnMoved_shape {s s' : RState} (h : wakeTurnMoved s = .ok s') : Shape RT s s' :=
  wakeTurnMoved_rel (Shape RT) Shape.refl (fun _ _ _ => Shape.trans)
    (fun s i fd _ => (clearWaiters_core s i fd).shape) (fun _ _ ns h => drainNotifications_shape ns h)
    (fun _ => Shape.of_eq rfl rfl rfl) h

theorem getConn_handleDisconnection {s s' : RState} {id : Nat} {r : Option String}
    (h : handleDisconnection s id r = .ok s') : getConn s' id = none := by
  rcases handleDisconnection_cases h with ⟨hc, rfl⟩ | ⟨c, _, h⟩
  · exact hc
  · rw [(wakeParked_shape h).none_iff, hdFinal_getConn]; exact if_pos rfl

/-- the others' trackers change by the wake-up of parked group members -/
theorem handleDisconnection_conns {s s' : RState} {id : Nat} {r : Option String} {c : Conn}
    (hc : getConn s id = some c) (h : handleDisconnection s id r = .ok s') :
    getConn s' id = none ∧ ∀ j d, j ≠ id → getConn s j = some d → ∃ t, getConn s' j = some { d with tracker := t } := by
  refine ⟨getConn_handleDisconnection h, fun j d hj hd => ?_⟩
  rcases handleDisconnection_cases h with ⟨hn, _⟩ | ⟨c', _, hw⟩
  · rw [hc] at hn; cases hn
  · obtain ⟨d', hd', t, rfl⟩ := (wakeParked_shape hw).live ((hdFinal_getConn s id c' r j).trans ((if_neg hj).trans hd))
    exact ⟨t, hd'⟩

theorem commitAck_shape {s s' : RState} {id : Nat} {a : Ack}
    (h : commitAck s id a = .ok s') : Shape (RO id) s s' := by
  obtain ⟨c, hc, rfl⟩ := commitAck_upd h
  exact Shape.of_set hc rfl rfl rfl (RO.self ⟨rfl, rfl, rfl, rfl⟩ rfl)

theorem ackDeviceData_shape (s : RState) (id : Nat) : Shape (RO id) s (ackDeviceData s id) := by
  rcases ackDeviceData_upd s id with e | ⟨c, ls, hc, e⟩ <;> rw [e]
  · exact Shape.refl s
  · exact Shape.of_set hc rfl rfl rfl (RO.self ⟨rfl, rfl, rfl, rfl⟩ rfl)

theorem appendToCommitlog_shape {s s' : RState} {id : Nat} {p : Pub} {e : Option AppendErr}
    (h : appendToCommitlog s id p = .ok (s', e)) : Shape (RO id) s s' :=
  appendToCommitlog_rel (Shape (RO id)) Shape.refl (fun _ _ _ => Shape.trans)
    (fun _ _ _ hc _ => Shape.setConn hc (RO.self ⟨rfl, rfl, rfl, rfl⟩ rfl))
    (fun _ s topic p _ _ => CoreEq.shape (s' := (updateRetained s topic p).g _) (updateRetained_core s topic p))
    (fun _ _ _ _ h1 => (dlMatches_core h1).shape) (fun _ _ _ _ _ _ _ h1 => (appendToFilter_data h1).core.shape) h

theorem pfConn_rel (id : Nat) (c : Conn) (path : String) (subId : Option Nat) : RO id id c (pfConn c path subId) := by
  cases subId <;> exact RO.self ⟨rfl, rfl, rfl, rfl⟩ rfl

theorem prepareFilter_shape {s s' : RState} {id : Nat} {cursor : Cursor} {idx : Nat} {f : SubFilter}
    {group : Option String} {subId : Option Nat}
    (h : prepareFilter s id cursor idx f group subId = .ok s') : Shape (RO id) s s' := by
  obtain ⟨c, hc, ⟨_, rfl⟩ | ⟨_, s3, h3, h4⟩⟩ := Walk.prepareFilter_cases h
  · exact Shape.of_set hc rfl rfl rfl (pfConn_rel id c f.path subId)
  · have hr := pfConn_rel id c f.path subId
    have a : Shape (RO id) s (setConn ((pfState s id cursor f.path group c.clientId).g
        (.subscribed id f.path f.qos idx cursor group true)) id
        { pfConn c f.path subId with subscriptions := c.subscriptions ++ [f.path] }) :=
      Shape.of_set hc rfl rfl rfl ⟨hr.1, hr.2.1, fun h => absurd rfl h⟩
    exact (a.trans ((track_shape h3).mono fun _ _ _ => RT.toRO)).trans ((reschedule_shape h4).mono fun _ _ _ => RT.toRO)

theorem subscribeFilters_shape {id : Nat} {subId : Option Nat} (fs : List SubFilter) {s s' : RState}
    {codes codes' : List Nat} {fl fl' : Flags}
    (h : subscribeFilters s id subId fs codes fl = .ok (s', codes', fl')) : Shape (RO id) s s' :=
  Walk.subscribeFilters_inv (I := Shape (RO id) s)
    (fun a h1 => (a.trans (nextNativeOffset_core _ _).shape).trans (prepareFilter_shape h1)) fs (Shape.refl s) h

theorem ufState_shape {s : RState} {id : Nat} {ids : List Nat} {c : Conn} {f : String}
    (hc : getConn s id = some c) : Shape (RU id) s (ufState s id ids c f) :=
  Shape.of_set hc rfl rfl rfl (RU.self ⟨rfl, rfl, rfl, rfl⟩ (unsubOut_spec _ _ _ _))

theorem unsubscribeFilters_shape {id : Nat} (fs : List String) {s s' : RState} {rs rs' : List Bool}
    (h : unsubscribeFilters s id fs rs = .ok (s', rs')) : Shape (RU id) s s' :=
  Walk.unsubscribeFilters_inv (I := Shape (RU id) s) (fun _ _ a => a.trans (Shape.of_eq rfl rfl rfl))
    (fun _ a hc => a.trans (ufState_shape hc)) fs (Shape.refl s) h

theorem handlePacket_shape {s s' : RState} {id : Nat} {cid : String} {pkt : Packet} {fl fl' : Flags}
    (h : handlePacket s id cid pkt fl = .ok (s', fl')) : Shape (RA id) s s' := by
  rcases handlePacket_subs_cases h with ⟨_, _, fs, s1, _, _, _, h1, h2⟩ | ⟨_, fs, s1, _, _, h1, h2⟩ | ⟨hns, hnu⟩
  · exact ((subscribeFilters_shape fs h1).trans (commitAck_shape h2)).ro_ra
  · exact ((unsubscribeFilters_shape fs h1).trans (commitAck_shape h2).ro_ru).ru_ra
  · exact handlePacket_rel (Shape (RA id)) Shape.refl (fun _ _ _ => Shape.trans) (fun _ _ _ h1 => (commitAck_shape h1).ro_ra)
      (fun _ _ _ _ h1 => (appendToCommitlog_shape h1).ro_ra) (fun _ _ h1 => (reschedule_shape h1).rt_ra)
      (fun _ _ _ _ _ hc hd => Shape.of_set hc rfl rfl rfl (RA.self ⟨rfl, rfl, rfl, rfl⟩ hd))
      (fun _ => Shape.of_eq rfl rfl rfl) hns hnu h

theorem handlePackets_shape {id : Nat} {cid : String} (ps : List Packet) {s s' : RState} {fl fl' : Flags}
    (h : handlePackets s id cid ps fl = .ok (s', fl')) : Shape (RA id) s s' :=
  Walk.handlePackets_inv (I := fun t _ => Shape (RA id) s t) (fun a h1 => a.trans (handlePacket_shape h1)) ps (Shape.refl s) h

theorem forwardDeviceData_shape {s s' : RState} {id : Nat} {req req' : DataRequest} {st : ConsumeStatus}
    (h : forwardDeviceData s id req = .ok (s', req', st)) : Shape (RW id) s s' := by
  obtain ⟨c, hc, ⟨o, rfl⟩ | ⟨r, pubs, ls, sh, o, rfl⟩⟩ := forwardDeviceData_upd h
  · exact Shape.of_eq rfl rfl rfl
  · exact Shape.of_set hc rfl rfl rfl (RW.self ⟨rfl, rfl, rfl, rfl⟩)

theorem consumeLoop_shape {id : Nat} (fuel : Nat) {s s' : RState} {requests skipped : List DataRequest}
    (h : consumeLoop s id fuel requests skipped = .ok s') : Shape (RW id) s s' :=
  consumeLoop_rel (Shape (RW id)) Shape.refl (fun _ _ _ => Shape.trans)
    (fun s s1 _ req' _ h1 => (forwardDeviceData_shape h1).trans (noteTurn_core s s1 req').shape)
    (fun _ _ _ h => (park_core h).shape) (fun _ _ h => h.shape.rt_rw) fuel h

theorem consume_shape {s s' : RState} {b : Bool} (h : consume s = .ok (s', b)) :
    (polled s = none ∧ CoreEq s s') ∨ ∃ id, polled s = some id ∧ Shape (RW id) s s' := by
  rcases Walk.consume_cases h with ⟨_, hq, rfl⟩ | ⟨id, rq, c, s1, hq, hc, _, h1, h2⟩
  · exact .inl ⟨polled_eq_none_iff.mpr hq, rfl, rfl, rfl⟩
  · refine .inr ⟨id, polled_eq_some_iff.mpr ⟨rq, hq⟩, Shape.trans ?_ (wakeTurnMoved_shape h2).rt_rw⟩
    have a : Shape (RW id) s (Walk.takeRequests s id c rq) := Shape.of_set hc rfl rfl rfl (RT.mk id c _).toRW
    exact (a.trans (ackDeviceData_shape _ id).ro_rw).trans (consumeLoop_shape _ h1)

theorem handleLastWill_shape {s s' : RState} {cid : String} (h : handleLastWill s cid = .ok s') : Shape RT s s' :=
  handleLastWill_rel (Shape RT) Shape.refl (fun _ _ _ => Shape.trans) (fun _ _ => Shape.of_eq rfl rfl rfl)
    (fun _ s topic _ => CoreEq.shape (s' := (updateRetained s topic _).g _) (updateRetained_core s topic _))
    (fun _ _ _ _ h1 => (dlMatches_core h1).shape) (fun _ _ _ _ _ h1 => (appendToFilter_data h1).core.shape)
    (fun s _ h1 => Shape.trans (s2 := { s with notifications := [] }) (Shape.of_eq rfl rfl rfl) (drainNotifications_shape _ h1)) h

theorem handleDevicePayload_split {s s' : RState} {id : Nat} (h : handleDevicePayload s id = .ok s') :
    ∃ s1, Shape (RA id) s s1 ∧ (s' = s1 ∨ ∃ r, handleDisconnection s1 id r = .ok s') :=
  Walk.handleDevicePayload_inv (I := Shape (RA id) s)
    (J := fun s' => ∃ s1, Shape (RA id) s s1 ∧ (s' = s1 ∨ ∃ r, handleDisconnection s1 id r = .ok s'))
    (Shape.refl s) (fun {s1} a => ⟨s1, a, .inl rfl⟩)
    (fun _ h1 => Shape.congr_left (handlePackets_shape _ h1) rfl rfl rfl)
    (fun a h2 => a.trans (reschedule_shape h2).rt_ra)
    (fun a h3 => a.trans (Shape.congr_left (drainNotifications_shape _ h3).rt_ra rfl rfl rfl))
    (fun a h4 => a.trans (wakeTurnMoved_shape h4).rt_ra) (fun {s1 _ r} a h5 => ⟨s1, a, .inr ⟨r, h5⟩⟩) h

theorem events_split {s s' : RState} {id : Nat} {ev : Event} (h : events s id ev = .ok s') :
    ∃ s1, Shape (RA id) s s1 ∧ (s' = s1 ∨ ∃ r, handleDisconnection s1 id r = .ok s') := by
  cases event_cases h with
  | payload h1 => exact handleDevicePayload_split h1
  | ready h1 =>
    rcases h1 with h1 | rfl
    · exact ⟨s', (reschedule_shape h1).rt_ra, .inl rfl⟩
    · exact ⟨s', Shape.refl _, .inl rfl⟩
  | disconnect h1 => exact ⟨s, Shape.refl _, .inr ⟨none, h1⟩⟩
  | will c h1 => exact ⟨s', (handleLastWill_shape h1).rt_ra, .inl rfl⟩
  | shadow f h1 => exact ⟨s', (handleShadow_core h1).shape, .inl rfl⟩
  | meters e => exact ⟨s', e ▸ Shape.refl _, .inl rfl⟩
  | alerts e => exact ⟨s', e ▸ Shape.refl _, .inl rfl⟩

end Router
