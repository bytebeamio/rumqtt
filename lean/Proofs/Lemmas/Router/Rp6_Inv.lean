/-
The invariant `QI`:
  * `cover`: every subscription of a connection has a data request the connection owns,
  * `gt`: a request's group is the group of its filter (`$share/<g>/<p>` ↦ `<g>/<p>`, else none),
  * `pe`: a parked request of a non-shared subscription stands at the end of its log,
  * the saved sessions satisfy the first two.
-/
import Model.CommitLogSpec
import Proofs.Lemmas.Router.Rp6_Own
namespace Router
open CommitLog (logC)

def GT (r : DataRequest) : Prop := r.group = (extractGroup r.filter).map (·.1)

/-- the cursor stands at the end of the log, in a retained segment: nothing is left to read -/
def AtEnd (fd : FilterData) (cur : Cursor) : Prop :=
  (logC fd.log).head ≤ cur.1 ∧ cur.2 = (logC fd.log).nextAbs

def PE (s : RState) : Prop :=
  ∀ (i : Nat) (fd : FilterData), s.datalog.native[i]? = some fd → ∀ w ∈ fd.waiters, w.2.group = none → AtEnd fd w.2.cursor

structure QI (s : RState) : Prop where
  cover : ∀ j, ∀ f ∈ subsOf s j, ∃ r, Own s j r ∧ r.filter = f
  gt : ∀ j r, Own s j r → GT r
  pe : PE s
  grv : ∀ p ∈ s.graveyard, ∀ ss, p.2 = some ss →
    (∀ f ∈ ss.subscriptions, ∃ r ∈ ss.tracker.requests, r.filter = f) ∧ ∀ r ∈ ss.tracker.requests, GT r

theorem QI.cover_group {s : RState} (hq : QI s) {id : Nat} {f : String} (hf : f ∈ subsOf s id) :
    ∃ r, Own s id r ∧ r.filter = f ∧ r.group = (extractGroup f).map (·.1) := by
  obtain ⟨r, hown, rfl⟩ := hq.cover id f hf
  exact ⟨r, hown, rfl, hq.gt id r hown⟩

theorem PE.wsub {s s' : RState} (h : PE s) (w : WSub s s') : PE s' := by
  intro i fd' hfd' x hx hg
  rcases w i fd' hfd' with e | ⟨fd, hfd, el, hs⟩
  · rw [e] at hx; cases hx
  · have := h i fd hfd x (hs x hx) hg
    unfold AtEnd at this ⊢
    rw [el]; exact this

theorem QI.oeq {s s' : RState} (h : QI s) (m : OEq s s') : QI s' := by
  refine ⟨fun j f hf => ?_, fun j r hr => h.gt j r ((m.own j r).mp hr), h.pe.wsub m.wsub, by rw [m.grv]; exact h.grv⟩
  rw [m.subs] at hf
  obtain ⟨r, hr, e⟩ := h.cover j f hf
  exact ⟨r, (m.own j r).mpr hr, e⟩

theorem QI.init (cfg : Config) : QI (init cfg) := by
  refine ⟨fun j f hf => ?_, fun j r hr => ?_, fun i fd hfd => ?_, fun p hp => ?_⟩
  · simp [subsOf, getConn_init] at hf
  · rcases hr with ⟨c, hc, _⟩ | ⟨i, fd, hfd, _⟩ | hr
    · simp [getConn_init] at hc
    · simp [Router.init] at hfd
    · simp [Notified, Router.init] at hr
  · simp [Router.init] at hfd
  · simp [Router.init] at hp

theorem QI.oracle {s : RState} (h : QI s) (o : List Choice) : QI { s with oracle := o } :=
  h.oeq (OEq.connClosed.of_rest rfl rfl)

theorem QI.cover_gt_of_sigs {s s' : RState} (hq : QI s)
    (h : ∀ j, ((held s' j).map (·.sig)).Perm ((held s j).map (·.sig))) (hs : ∀ j, subsOf s' j = subsOf s j) :
    (∀ j, ∀ f ∈ subsOf s' j, ∃ r, Own s' j r ∧ r.filter = f) ∧ ∀ j r, Own s' j r → GT r := by
  refine ⟨fun j f hf => ?_, fun j r hr => ?_⟩
  · rw [hs] at hf
    obtain ⟨r, hr, e⟩ := hq.cover j f hf
    obtain ⟨r', hr', e'⟩ := List.mem_map.mp ((h j).mem_iff.mpr (List.mem_map_of_mem (f := (·.sig)) ((own_iff s j r).mp hr)))
    exact ⟨r', (own_iff s' j r').mpr hr', (congrArg (·.1) e').trans e⟩
  · obtain ⟨r0, hr0, e0⟩ := List.mem_map.mp ((h j).mem_iff.mp (List.mem_map_of_mem (f := (·.sig)) ((own_iff s' j r).mp hr)))
    have g := hq.gt j r0 ((own_iff s j r0).mpr hr0)
    unfold GT at g ⊢
    have e1 : r0.filter = r.filter := congrArg (·.1) e0
    have e2 : r0.group = r.group := congrArg (·.2.2) e0
    rw [← e1, ← e2]; exact g

theorem nextNativeOffset_oeq (s : RState) (filter : String) : OEq s (nextNativeOffset s filter).1 := by
  rcases nextNativeOffset_upd s filter with e | ⟨fd0, pf, hw0, e⟩
  · rw [e]; exact OEq.refl s
  · rw [e]
    refine ⟨fun j r => ?_, fun i fd' hfd' => ?_, fun j => rfl, rfl, rfl⟩
    · rw [own_iff, own_iff]
      refine iff_of_eq (congrArg (r ∈ ·) ?_)
      refine held_of_new_log (s := s) hw0 ?_ ?_ ?_ j <;> rfl
    · rcases getElem?_append_one.1 hfd' with h0 | ⟨_, rfl⟩
      · exact .inr ⟨fd', h0, rfl, fun _ h => h⟩
      · exact .inl hw0

theorem prepareFilter_own {s s' : RState} {id : Nat} {cursor : Cursor} {idx : Nat} {f : SubFilter}
    {group : Option String} {subId : Option Nat} (h : prepareFilter s id cursor idx f group subId = .ok s') :
    (∀ j r, Own s' j r ↔ Own s j r ∨ (j = id ∧ r = pfReq idx f cursor group ∧ f.path ∉ subsOf s id)) ∧
    s'.datalog.native = s.datalog.native ∧
    (∀ j, subsOf s' j = if j = id ∧ f.path ∉ subsOf s id then subsOf s id ++ [f.path] else subsOf s j) ∧
    s'.graveyard = s.graveyard ∧ s'.config = s.config := by
  obtain ⟨p, n, sb, g, cf⟩ := prepareFilter_held h
  refine ⟨fun j r => ?_, n, sb, g, cf⟩
  rw [own_iff, own_iff, (p j).mem_iff, List.mem_append]
  refine or_congr Iff.rfl ?_
  split
  · rename_i hh; simp only [List.mem_singleton]; exact ⟨fun e => ⟨hh.1, e, hh.2⟩, fun e => e.2.1⟩
  · rename_i hh; simp only [List.not_mem_nil, false_iff]; exact fun e => hh ⟨e.1, e.2.2⟩

theorem pfReq_gt (idx : Nat) (f : SubFilter) (cursor : Cursor) : GT (pfReq idx f cursor (sfGroup f.path)) := rfl

theorem prepareFilter_qi {s s' : RState} {id : Nat} {cursor : Cursor} {idx : Nat} {f : SubFilter}
    {subId : Option Nat} (hq : QI s) (h : prepareFilter s id cursor idx f (sfGroup f.path) subId = .ok s') : QI s' := by
  obtain ⟨o, n, sb, g, _⟩ := prepareFilter_own h
  refine ⟨fun j x hx => ?_, fun j r hr => ?_, hq.pe.wsub (WSub.of_native n), by rw [g]; exact hq.grv⟩
  · rw [sb] at hx
    split at hx
    · rename_i hj
      obtain ⟨rfl, hnew⟩ := hj
      rcases List.mem_append.mp hx with hx | hx
      · obtain ⟨r, hr, e⟩ := hq.cover j x hx
        exact ⟨r, (o j r).mpr (.inl hr), e⟩
      · simp only [List.mem_singleton] at hx; subst hx
        exact ⟨pfReq idx f cursor (sfGroup f.path), (o j _).mpr (.inr ⟨rfl, rfl, hnew⟩), rfl⟩
    · obtain ⟨r, hr, e⟩ := hq.cover j x hx
      exact ⟨r, (o j r).mpr (.inl hr), e⟩
  · rcases (o j r).mp hr with hr | ⟨_, rfl, _⟩
    · exact hq.gt j r hr
    · exact pfReq_gt idx f cursor

theorem subscribeFilters_qi {id : Nat} {subId : Option Nat} (fs : List SubFilter) {s s' : RState}
    {codes codes' : List Nat} {fl fl' : Flags} (hq : QI s) (h : subscribeFilters s id subId fs codes fl = .ok (s', codes', fl')) :
    QI s' ∧ (∀ j r, Own s j r → Own s' j r) ∧ s'.config = s.config :=
  Walk.subscribeFilters_inv (I := fun t => QI t ∧ (∀ j r, Own s j r → Own t j r) ∧ t.config = s.config)
    (fun {t _ f} ht h1 => by
      have m0 := nextNativeOffset_oeq t (sfFilter f.path)
      obtain ⟨o, _, _, _, c1⟩ := prepareFilter_own h1
      exact ⟨prepareFilter_qi (ht.1.oeq m0) h1, fun j r hr => (o j r).mpr (.inl ((m0.own j r).mpr (ht.2.1 j r hr))),
        by rw [c1, m0.cfg]; exact ht.2.2⟩)
    fs ⟨hq, fun _ _ h => h, rfl⟩ h

end Router
