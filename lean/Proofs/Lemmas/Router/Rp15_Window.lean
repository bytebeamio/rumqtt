/-
C08 — `retransmission_map` keeps the LEAST cursor per filter index, so the resume point is at or below every window
cursor of the index by definition (tuple order); for cursors issued by one log and still retained the tuple order is
the order of the log offsets (`offset_le_of_cursorLe`).
-/
import Proofs.Lemmas.Router.Rp12_Resume
import Proofs.Lemmas.CommitLog
namespace Router
open CommitLog

/-- the view of a window that C08's evaluated examples print -/
def idxOffsets (idx : Nat) (w : List (Nat × Nat × Option Cursor)) : List Nat :=
  w.filterMap (fun e => if e.2.1 = idx then e.2.2.map (·.2) else none)

def WindowSorted (idx : Nat) (w : List (Nat × Nat × Option Cursor)) : Prop := (idxOffsets idx w).Pairwise (· < ·)

theorem mem_idxOffsets {idx : Nat} {w : List (Nat × Nat × Option Cursor)} {e : Nat × Nat × Option Cursor} {cur : Cursor}
    (he : e ∈ w) (hi : e.2.1 = idx) (hc : e.2.2 = some cur) : cur.2 ∈ idxOffsets idx w := by
  unfold idxOffsets
  exact List.mem_filterMap.mpr ⟨e, he, by simp [hi, hc]⟩

theorem offset_le_of_cursorLe {α} {l : Log α} (hw : WF l) {a b : Cursor} (ha : Issued l a) (hb : Issued l b)
    (hret : l.head ≤ a.1) (h : cursorLe a b) : a.2 ≤ b.2 := by
  rcases h with hlt | ⟨_, hle⟩
  · rcases ha.2 with h0 | ⟨ga, hga, _, ha2⟩
    · omega
    · rcases hb.2 with h0 | ⟨gb, hgb, hb1, _⟩
      · omega
      · have := hw.contig.next_le_abs hga hgb (by omega)
        omega
  · exact hle

end Router
