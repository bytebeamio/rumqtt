/-
`GL` through `park` and through one sweep with the `park` that may follow it (`park_gl`, `sweep_gl`).
-/
import Proofs.Lemmas.Router.Rp1_ShapeOf
import Proofs.Lemmas.Router.Rp5_Sweep
import Proofs.Lemmas.Router.Rp9_Live
namespace Router
open Router.Rp3
open CommitLog (Rep logC Issued U64 cursorAbs)

theorem read_end_facts (fd : FilterData) (hist : List Pub) (hrep : Rep (logC fd.log) hist) (cur : Cursor) (n : Nat)
    (hiss : Issued (logC fd.log) cur) (hU : hist.length + n < U64) :
    ((fdPos (fd.log.readv cur n).2).2 = true → AbsEnd fd (fdPos (fd.log.readv cur n).2).1) ∧
    (AbsEnd fd cur → (fdPos (fd.log.readv cur n).2).2 = true) ∧
    (0 < n → (fd.log.readv cur n).1 = [] → AbsEnd fd cur) := by
  rw [← Rp3.posNext_eq]
  obtain ⟨e1, e2, e3, e4, e5⟩ := clog_readv_spec fd.log hist hrep cur n hiss hU
  have hna := hrep.nextAbs_eq
  have hca := CommitLog.cursorAbs_of_le e4
  have hb := e3.abs_bounds hrep.wf
  refine ⟨fun hd => ?_, fun he => ?_, fun hn hemp => ?_⟩
  · unfold AbsEnd; rw [hca, e2, hna]; exact e5.mp hd
  · unfold AbsEnd at he
    rw [e5]
    rw [hca, e2] at hb
    omega
  · have hd := clog_readv_empty_done fd.log hist hrep cur n hiss hU hn hemp
    have := e5.mp hd
    rw [← e1, hemp] at this
    unfold AbsEnd; rw [hna]; simpa using this

/-- `park` keeps `GL` when the parked request does not put the turn holder of its group to sleep
    before the end of the log -/
theorem park_gl {s s' : RState} {id : Nat} {r : DataRequest} (h : GL s) (hp : park s id r = .ok s')
    (hsafe : ∀ p ∈ s.shared, r.group = some p.1 → ∀ c, getConn s id = some c → p.2.current = some c.clientId →
      s.datalog.filterIdx? (gpath p.1) = some r.filterIdx →
      (∃ fd, s.datalog.native[r.filterIdx]? = some fd ∧ AbsEnd fd p.2.cursor) ∨ r.filterIdx ∈ s.turnMoved) : GL s' := by
  obtain ⟨fd, hfd, rfl⟩ := park_upd hp
  have hlt := lt_of_getElem?_some hfd
  refine ⟨h.nodup, h.wf, h.key, fun p hp' i hi => ?_⟩
  have hi0 : s.datalog.filterIdx? (gpath p.1) = some i := hi
  have keepEnd : (∃ fd0, s.datalog.native[i]? = some fd0 ∧ AbsEnd fd0 p.2.cursor) →
      ∃ fd1, (s.datalog.native.set r.filterIdx { fd with waiters := fd.waiters ++ [(id, r)] })[i]? = some fd1 ∧
        AbsEnd fd1 p.2.cursor := by
    rintro ⟨fd0, a, b⟩
    rw [List.getElem?_set]
    by_cases e : r.filterIdx = i
    · subst e; rw [hfd] at a; cases a; simp only [hlt, if_true]; exact ⟨_, rfl, b⟩
    · simp only [e, if_false]; exact ⟨fd0, a, b⟩
  -- is the parked request the turn holder's own, on this group's log?
  by_cases hd : r.group = some p.1 ∧ i = r.filterIdx ∧ ∃ c, getConn s id = some c ∧ p.2.current = some c.clientId
  · obtain ⟨hg, rfl, c, hcn, hcur⟩ := hd
    rcases hsafe p hp' hg c hcn hcur hi0 with h1 | h1
    · exact .inl (keepEnd h1)
    · exact .inr (.inl h1)
  · rcases h.lv p hp' i hi0 with h1 | h1 | h1
    · exact .inl (keepEnd h1)
    · exact .inr (.inl h1)
    · refine .inr (.inr fun id' c' r' hc' hcur hg' hpk => ?_)
      rw [parkedAt_set hfd rfl] at hpk
      by_cases e : i = r.filterIdx
      · simp only [e, if_true] at hpk
        rcases List.mem_append.mp hpk with hm | hm
        · exact h1 id' c' r' hc' hcur hg' ⟨fd, e ▸ hfd, hm⟩
        · simp only [List.mem_singleton, Prod.mk.injEq] at hm
          obtain ⟨rfl, rfl⟩ := hm
          exact hd ⟨hg', e, c', hc', hcur⟩
      · simp only [e, if_false] at hpk
        exact h1 id' c' r' hc' hcur hg' hpk

theorem sweep_conn {s s1 : RState} {id : Nat} {req req1 : DataRequest} {st : ConsumeStatus} {c c2 : Conn}
    (hc : getConn s id = some c) (hf : forwardDeviceData s id req = .ok (s1, req1, st))
    (hc2 : getConn (noteTurn s s1 req1) id = some c2) : c2.clientId = c.clientId := by
  obtain ⟨tm, etm⟩ := noteTurn_upd s s1 req1
  have hc2' : getConn s1 id = some c2 := by rw [etm] at hc2; exact hc2
  obtain ⟨c0, h0, hr⟩ := (forwardDeviceData_shape hf).live_back hc2'
  rw [hc] at h0; cases h0
  exact hr.1.1

theorem noteTurn_moved {s s1 : RState} {req1 : DataRequest} {gname : String} {g v : SharedGroup}
    (hg1 : req1.group = some gname) (h0 : alookup gname s.shared = some g) (h1 : alookup gname s1.shared = some v)
    (hne : v.current ≠ g.current) : req1.filterIdx ∈ (noteTurn s s1 req1).turnMoved := by
  rcases noteTurn_cases s s1 req1 with ⟨_, hno⟩ | ⟨e, _⟩
  · exact absurd ⟨g, v, fdGrp_of hg1 h0, fdGrp_of hg1 h1, hne⟩ hno
  · rw [e]; exact List.mem_append_right _ (.head _)

theorem pushed_lmono {s : RState} {id : Nat} {c : Conn} (hc : getConn s id = some c) (req1 : DataRequest)
    (pubs : List (Pub × Option Cursor)) (sh : List (String × SharedGroup)) (o' : List Choice) :
    LMono s { pushWake (setConn s id (fdConn c req1 pubs)) c.link (fdOut c req1 pubs).2 with shared := sh, oracle := o' } ∧
    ({ pushWake (setConn s id (fdConn c req1 pubs)) c.link (fdOut c req1 pubs).2 with shared := sh, oracle := o' } : RState).datalog =
      s.datalog := by
  obtain ⟨ls, e, _⟩ := pushed_upd s id c req1 pubs sh o'
  rw [e]
  exact ⟨(LStep.of_setc (s' := setConn s id (fdConn c req1 pubs)) (c' := fdConn c req1 pubs) hc rfl rfl rfl rfl rfl rfl).mono.trans
    (LMono.of_conns rfl rfl rfl rfl), rfl⟩

theorem sweep_gl {s s1 : RState} {id : Nat} {req req1 : DataRequest} {st : ConsumeStatus}
    (h : GL s) (hi : DLInv s) (hno : NoOverflow s) (hcs : CS s) (hpos : 0 < s.config.maxOutgoingPacketCount)
    (hreq : ReqOK s.datalog req) (hf : forwardDeviceData s id req = .ok (s1, req1, st)) :
    GL (noteTurn s s1 req1) ∧
    (st = .filterCaughtup → ∀ s3, park (noteTurn s s1 req1) id req1 = .ok s3 → GL s3) := by
  obtain ⟨c, hc, hs⟩ := forwardDeviceData_sweep hf
  obtain ⟨_, eg, ei, _⟩ := forwardDeviceData_fields hf
  obtain ⟨tm, etm⟩ := noteTurn_upd s s1 req1
  have hsh2 : (noteTurn s s1 req1).shared = s1.shared := by rw [etm]
  have hd2 : (noteTurn s s1 req1).datalog = s1.datalog := by rw [etm]
  -- the table is kept: parking is safe if the group read through, when this connection holds its turn, is at the log's end
  have plain : LStep s s1 → s1.datalog = s.datalog →
      (∀ g, fdGrp s req = some g → g.current = some c.clientId →
        ∃ fd, s.datalog.native[req.filterIdx]? = some fd ∧ AbsEnd fd g.cursor) →
      GL (noteTurn s s1 req1) ∧ (st = .filterCaughtup → ∀ s3, park (noteTurn s s1 req1) id req1 = .ok s3 → GL s3) := by
    intro m hdl safe
    have g2 := h.step (m.trans (LStep.frame.noteTurn s s1 req1))
    refine ⟨g2, fun _ s3 hp => park_gl g2 hp fun p hp' hgp c2 hc2 hcur _ => ?_⟩
    rw [hsh2, m.shared] at hp'
    have hgr : fdGrp s req = some p.2 := by
      unfold fdGrp; rw [← eg, hgp]; exact alookup_eq_some_of_mem h.nodup hp'
    obtain ⟨fd, hfd, he⟩ := safe p.2 hgr (by rw [hcur, sweep_conn hc hf hc2])
    exact .inl ⟨fd, by rw [hd2, hdl, ei]; exact hfd, he⟩
  have oracle : ∀ o, LStep s { s with oracle := o } := fun _ => LStep.of_conns rfl rfl rfl rfl rfl
  have grpLog : ∀ g, fdGrp s req = some g → ∃ gname, req.group = some gname ∧ alookup gname s.shared = some g ∧
      (gname, g) ∈ s.shared ∧ s.datalog.filterIdx? (gpath gname) = some req.filterIdx ∧
      ∀ fd, s.datalog.native[req.filterIdx]? = some fd → ∃ hist, Rep (logC fd.log) hist ∧ Issued (logC fd.log) g.cursor ∧
        hist.length + (MAX_INFLIGHT + s.config.maxOutgoingPacketCount) < U64 := by
    intro g hgr
    obtain ⟨gname, hgn, hg⟩ := fdGrp_some hgr
    have hmem := mem_of_alookup_eq_some hg
    have hi' := hreq.2 gname hgn
    refine ⟨gname, hgn, hg, hmem, hi', fun fd hfd => ?_⟩
    obtain ⟨i0, hi0, fd0, hfd0, hiss⟩ := hcs.grp (gname, g) hmem
    have e0 : i0 = req.filterIdx := by
      have : s.datalog.filterIdx? (gpath gname) = some i0 := hi0
      rw [hi'] at this; exact (Option.some.inj this).symm
    subst e0
    rw [hfd] at hfd0; cases hfd0
    obtain ⟨hist, hrep⟩ := hi.logs fd.log (List.mem_map.mpr ⟨fd, List.mem_of_getElem? hfd, rfl⟩)
    exact ⟨hist, hrep, hiss, hno fd (List.mem_of_getElem? hfd) hist hrep⟩
  cases hs with
  | full => exact ⟨h.step ((LStep.refl _).trans (LStep.frame.noteTurn s s _)), fun e => by cases e⟩
  | skip hr hsk =>
    -- not this connection's turn
    refine plain (oracle _) rfl fun g hgr hcur => ?_
    rw [hgr] at hsk
    simp only [fdSkip, bne_iff_ne, ne_eq] at hsk
    exact absurd hcur.symm hsk
  | @empty o n fd hr hsk hemp =>
    -- nothing to push: the group's cursor is at the end of the log
    refine plain (oracle _) rfl fun g hgr _ => ?_
    obtain ⟨_, _, _, _, _, hlog⟩ := grpLog g hgr
    obtain ⟨hist, hrep, hiss, hU⟩ := hlog fd hr.log
    obtain ⟨hn, hn0⟩ := hr.slots
    rw [fdCur_some hgr] at hemp
    exact ⟨fd, hr.log, (read_end_facts fd hist hrep g.cursor n hiss (by omega)).2.2 (hn0 rfl hpos) hemp⟩
  | @push o rp n fd sh o' _ pubs hr hsk e1 e2 hne ht =>
    obtain ⟨m01, hdl⟩ := pushed_lmono hc req1 pubs sh o'
    have hS : ({ pushWake (setConn s id (fdConn c req1 pubs)) c.link (fdOut c req1 pubs).2 with shared := sh, oracle := o' } :
        RState).shared = sh := rfl
    generalize ({ pushWake (setConn s id (fdConn c req1 pubs)) c.link (fdOut c req1 pubs).2 with shared := sh, oracle := o' } :
        RState) = s1 at *
    rcases ht.cases with ⟨gname, g, x, g2, hgn, hgr, _, hu, hs1⟩ | ⟨hgr, hsh, _⟩
    · -- the turn holder pushes: cursor and turn move
      obtain ⟨gname', hgn', hg, hmem, hi', hlog⟩ := grpLog g hgr
      obtain rfl : gname = gname' := Option.some.inj (hgn.symm.trans hgn')
      obtain ⟨hist, hrep, hiss, hU⟩ := hlog fd hr.log
      have hcur1 : req1.cursor = (fdPos (fd.log.readv g.cursor n).2).1 := by rw [e1, fdCur_some hgr]; rfl
      rw [hcur1] at hs1
      obtain ⟨rf1, rf2, _⟩ := read_end_facts fd hist hrep g.cursor n hiss (by have := hr.slots.1; omega)
      have m : LMono s (noteTurn s s1 req1) := m01.trans (LStep.frame.noteTurn s s1 req1).mono
      have hds : (noteTurn s s1 req1).datalog = s.datalog := by rw [hd2, hdl]
      have hnat2 : (noteTurn s s1 req1).datalog.native[req.filterIdx]? = some fd := by rw [hds]; exact hr.log
      have hv : alookup gname s1.shared = some { g2 with cursor := (fdPos (fd.log.readv g.cursor n).2).1 } := by
        rw [hS, hs1]; exact alookup_ainsert_same _ _ _
      have hnd1 : (s1.shared.map (·.1)).Nodup := by rw [hS, hs1]; exact nodup_map_fst_ainsert h.nodup
      have hlve : LVe (noteTurn s s1 req1) gname { g2 with cursor := (fdPos (fd.log.readv g.cursor n).2).1 } := by
        intro i hi2
        have hi2' : s.datalog.filterIdx? (gpath gname) = some i := by rw [hds] at hi2; exact hi2
        have ei2 : i = req.filterIdx := by rw [hi'] at hi2'; exact (Option.some.inj hi2').symm
        subst ei2
        by_cases hdone : (fdPos (fd.log.readv g.cursor n).2).2 = true
        · exact .inl ⟨fd, hnat2, rf1 hdone⟩
        · by_cases hturn : ({ g2 with cursor := (fdPos (fd.log.readv g.cursor n).2).1 } : SharedGroup).current = g.current
          · rcases ((h.lv _ hmem).mono m) _ hi2 with ⟨fd', a', b'⟩ | h' | h'
            · rw [hnat2] at a'; cases a'
              exact absurd (rf2 b') hdone
            · exact .inr (.inl h')
            · exact .inr (.inr fun id' c' r' hc' hcur' hg' => h' id' c' r' hc' (hturn ▸ hcur') hg')
          · refine .inr (.inl ?_)
            have := noteTurn_moved (s := s) (req1 := req1) (eg.trans hgn) hg hv hturn
            rw [ei] at this; exact this
      have g2' : GL (noteTurn s s1 req1) := by
        refine h.of_entries m (by rw [hsh2]; exact hnd1) fun p hp' => ?_
        rw [hsh2] at hp'
        have hp'' : p ∈ ainsert gname _ s.shared := hs1 ▸ hS ▸ hp'
        rcases mem_ainsert_iff.mp hp'' with ⟨hp0, _⟩ | rfl
        · exact .inl hp0
        · have hw := updateNextClient_wf hu (h.wf (gname, g) hmem)
          exact .inr ⟨hw, h.key (gname, g) hmem, hlve⟩
      refine ⟨g2', fun hfc s3 hp3 => park_gl g2' hp3 fun p hp' hgp c2 hc2 hcur _ => ?_⟩
      have hcu : (fdPos (fd.log.readv g.cursor n).2).2 = true := by
        rw [fdCur_some hgr] at hfc
        split at hfc
        · cases hfc
        · split at hfc
          · assumption
          · cases hfc
      rw [hsh2] at hp'
      have hpg : p.1 = gname := Option.some.inj (by rw [← hgp, eg, hgn])
      have hp2 : p.2 = { g2 with cursor := (fdPos (fd.log.readv g.cursor n).2).1 } := by
        have := alookup_eq_some_of_mem hnd1 (show (p.1, p.2) ∈ s1.shared from hp')
        rw [hpg, hv] at this; exact (Option.some.inj this).symm
      rw [hp2]
      exact .inl ⟨fd, by rw [ei]; exact hnat2, rf1 hcu⟩
    · exact plain ⟨m01, hS.trans hsh⟩ hdl fun g hg => by rw [hgr] at hg; cases hg

end Router
