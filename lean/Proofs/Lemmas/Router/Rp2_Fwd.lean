/-
One sweep (`forward_device_data`) as C06 and C15 see it, read off `Sweep`. `fwdRetained` is the retained phase
`fdRetained` under the name C15's statements use.
-/
import Proofs.Lemmas.Router.Base.Sweep
import Proofs.Lemmas.Router.Rp2_Flush
namespace Router

def fwdRetained (s : RState) (req : DataRequest) (slots : Nat) : M (RState × List (Pub × Option Cursor) × Nat) :=
  if req.forwardRetained then
    match readRetained s req.filter with
    | .error e => .error e
    | .ok (s, ps) =>
      let ps := ps.take slots
      .ok (s, ps.map (fun p => (p, none)), slots - ps.length)
  else .ok (s, [], slots)

theorem fwdRetained_eq_fdRetained : @fwdRetained = @fdRetained := rfl

theorem fwdRetained_spec {s s1 : RState} {req : DataRequest} {slots slots' : Nat}
    {rp : List (Pub × Option Cursor)} (h : fwdRetained s req slots = .ok (s1, rp, slots')) :
    (req.forwardRetained = false ∧ rp = [] ∧ s1 = s ∧ slots' = slots) ∨
    (req.forwardRetained = true ∧ ∃ ps, readRetained s req.filter = .ok (s1, ps) ∧
      rp = (ps.take slots).map (fun p => (p, none)) ∧ slots' = slots - (ps.take slots).length) :=
  fdRetained_cases (fwdRetained_eq_fdRetained ▸ h)

/-- advancing the group's turn changes `shared` (and consumes an oracle choice) only -/
structure SharedOnly (s s' : RState) : Prop where
  conns : s'.conns = s.conns
  links : s'.links = s.links
  datalog : s'.datalog = s.datalog
  ghost : s'.ghost = s.ghost
  lastWills : s'.lastWills = s.lastWills
  readyqueue : s'.readyqueue = s.readyqueue
  notifications : s'.notifications = s.notifications

theorem fdGroupUpd_sharedOnly {s s' : RState} {req : DataRequest} {grp : Option SharedGroup}
    (h : fdGroupUpd s req grp = .ok s') : SharedOnly s s' := by
  obtain ⟨sh, o, rfl⟩ := fdGroupUpd_upd h
  exact ⟨rfl, rfl, rfl, rfl, rfl, rfl, rfl⟩

theorem fdOut_noAck (c : Conn) (req : DataRequest) (pubs : List (Pub × Option Cursor)) :
    ∀ n ∈ (fdOut c req pubs).2, n.isAck = false := fun n hn => by
  have := List.mem_map_of_mem (f := Notif.isAck) hn
  rw [fdOut_map (g := fun _ => false) fun _ _ _ => rfl] at this
  obtain ⟨_, _, e⟩ := List.mem_map.mp this
  exact e.symm

theorem SweepFrame.push {s : RState} {id : Nat} {c : Conn} (hc : getConn s id = some c) (req : DataRequest)
    (pubs : List (Pub × Option Cursor)) (sh : List (String × SharedGroup)) (o : List Choice) :
    SweepFrame s { pushWake (setConn s id (fdConn c req pubs)) c.link (fdOut c req pubs).2 with shared := sh, oracle := o }
      c.link := by
  obtain ⟨ls, e, hob, hoth⟩ := pushed_upd s id c req pubs sh o
  rw [e]
  refine ⟨(ConnFrame.setConn hc (c' := fdConn c req pubs) rfl).trans (ConnFrame.of_conns rfl),
    fun l hl => hoth l hl, _, hob.trans (List.append_assoc ..), fun n hn => ?_⟩
  rcases List.mem_append.mp hn with hn | hn
  · exact fdOut_noAck c req pubs n hn
  · split at hn
    · rw [List.mem_singleton.mp hn]; rfl
    · cases hn

structure Swept (s s' : RState) (l : Nat) (req req' : DataRequest) (st : ConsumeStatus) : Prop where
  frame : SweepFrame s s' l
  flag : (st = .inflightFull ∧ s' = s ∧ req'.forwardRetained = req.forwardRetained) ∨
    (st ≠ .inflightFull ∧ req'.forwardRetained = false)

theorem forwardDeviceData_spec {s s' : RState} {id : Nat} {c : Conn} {req req' : DataRequest} {st : ConsumeStatus}
    (hc : getConn s id = some c) (h : forwardDeviceData s id req = .ok (s', req', st)) :
    Swept s s' c.link req req' st := by
  obtain ⟨_, _, _, _, hr⟩ := fdReq0_fields req (fdGrp s req)
  cases forwardDeviceData_sweep_of hc h with
  | full => exact ⟨SweepFrame.refl _ _, .inl ⟨rfl, rfl, hr⟩⟩
  | skip => exact ⟨SweepFrame.of_frame (AckFrame.of_eq (by rfl) (by rfl)) _, .inr ⟨by split <;> simp, rfl⟩⟩
  | empty => exact ⟨SweepFrame.of_frame (AckFrame.of_eq (by rfl) (by rfl)) _, .inr ⟨by simp, rfl⟩⟩
  -- a sweep that pushed ends `bufferFull`, `filterCaughtup` or `partialRead` (`Sweep.push`), never `inflightFull`
  | push _ _ e => subst e; exact ⟨SweepFrame.push hc _ _ _ _, .inr ⟨by repeat' split <;> simp, rfl⟩⟩

end Router
