/-
C20 — the router model does not record the protocol version of a connection, only what the version decides:
`brokerAliases` (set at CONNECT iff `topic_alias_max > 0`, a v5 property) and `subscriptionIds` (from SUBSCRIBE packets
with a subscription identifier, a v5 property). `versionOf c` reads "v4" off that: neither is present.

The input ranges come in three strengths, told apart by the last letter of the name. None (`PacketOk`, `OpOk`,
`IbufOk`): the Rust field types of a pushed packet. `C` (`OpOkC`; over a run `OpsOk`, Rp18_IbufInv, the name without
`C`): and `topic_alias_max` of a CONNECT is a `u16`, what `ConnsOk` needs. `D` (`PacketOkD n`, `OpOkD n`, `IbufOkD n`,
Rp18_StoredDefs; over a run `OpsOkD n`, Rp18_IbufInv): and what gets stored is in range — payloads within the optional
bound `n`, the will of a CONNECT —, what `LogsOk n` needs. `D` implies `C` implies the plain one.
-/
import Model.Encode
import Proofs.Lemmas.Router.Rp2_Acks
import Proofs.Lemmas.Router.Rp2_Consume
namespace Router
open Encode Codec

def versionOf (c : Conn) : Admission.Version :=
  if c.brokerAliases.isNone && c.subscriptionIds.isEmpty then Admission.Version.v4 else Admission.Version.v5

/-- what the decoder can deliver (Rust field types); the bound on `fs.length` is what makes the SUBACK / UNSUBACK
    fit a frame -/
def PacketOk : Packet → Bool
  | .publish p => decide (p.pkid < 65536) && decide (p.qos ≤ 2) && decide (p.topic.length ≤ 65535)
  | .subscribe pkid subId fs => decide (pkid < 65536) && decide (2 + fs.length + 1 ≤ remainingLimit) &&
      fs.all (fun f => decide (f.qos ≤ 2)) &&
      (match subId with | some i => decide (i ≤ remainingLimit) | none => true)
  | .unsubscribe pkid fs => decide (pkid < 65536) && decide (2 + fs.length + 1 ≤ remainingLimit)
  | .puback k | .pubrec k | .pubcomp k => decide (k < 65536)
  | .pubrel k _ => decide (k < 65536)
  | _ => true

def OpOk : Op → Bool
  | .push _ pkt => PacketOk pkt
  | _ => true

def OpOkC : Op → Bool
  | .connect spec => decide (spec.aliasMax < 65536)
  | op => OpOk op

def IbufOk (s : RState) : Prop := ∀ l, ∀ p ∈ (getLink s l).ibuf, PacketOk p = true

theorem reply_acks_ok {pkt : Packet} {as : List Ack} (hp : PacketOk pkt = true) (hr : IsReplyTo pkt as) :
    ∀ a ∈ as, ackOk a = true := by
  intro a ha
  cases pkt with
  | publish p =>
    simp only [IsReplyTo] at hr
    simp only [PacketOk, Bool.and_eq_true, decide_eq_true_eq] at hp
    subst hr
    split at ha
    · simp only [List.mem_singleton] at ha; subst ha; simp [ackOk, hp.1.1]
    · split at ha
      · simp only [List.mem_singleton] at ha; subst ha; simp [ackOk, hp.1.1]
      · cases ha
  | subscribe pkid subId fs =>
    obtain ⟨codes, rfl, ⟨k, hk, rfl⟩, _⟩ := hr
    simp only [PacketOk, Bool.and_eq_true, decide_eq_true_eq] at hp
    simp only [List.mem_singleton] at ha; subst ha
    simp only [ackOk, Bool.and_eq_true, decide_eq_true_eq, List.length_map, List.length_take]
    exact ⟨hp.1.1.1, by have := hp.1.1.2; omega⟩
  | unsubscribe pkid fs =>
    obtain ⟨rs, rfl, hl⟩ := hr
    simp only [PacketOk, Bool.and_eq_true, decide_eq_true_eq] at hp
    simp only [List.mem_singleton] at ha; subst ha
    simp only [ackOk, Bool.and_eq_true, decide_eq_true_eq]
    exact ⟨hp.1, by rw [hl]; exact hp.2⟩
  | puback k => simp only [IsReplyTo] at hr; subst hr; cases ha
  | pubrec k =>
    simp only [PacketOk, decide_eq_true_eq] at hp
    rcases hr with rfl | rfl
    · cases ha
    · simp only [List.mem_singleton] at ha; subst ha; simp [ackOk, hp]
  | pubrel k b =>
    simp only [PacketOk, decide_eq_true_eq] at hp
    simp only [IsReplyTo] at hr; subst hr
    simp only [List.mem_singleton] at ha; subst ha; simp [ackOk, hp]
  | pubcomp k => simp only [IsReplyTo] at hr; subst hr; cases ha
  | pingreq => simp only [IsReplyTo] at hr; subst hr; simp only [List.mem_singleton] at ha; subst ha; rfl
  | disconnect => simp only [IsReplyTo] at hr; subst hr; cases ha
  | other => simp only [IsReplyTo] at hr; subst hr; cases ha

/-- a publish as the router stores it (log entry, retained message): `append_to_commitlog` strips the alias and
    rejects subscription ids -/
def StoredOk (p : Pub) (extra : Props) : Bool :=
  p.alias.isNone && p.subIds.isEmpty && decide (p.pkid < 65536) && decide (p.topic.length ≤ 65535) &&
  (p.hasProps || extra.isEmpty)

/-- the frame limit, for EVERY forward the router can build from the stored publish (alias and subscription id add a
    few bytes) -/
def FitsForward (p : Pub) (extra : Props) : Prop :=
  ∀ qos alias ex sid pk,
    V5.publishLen (qosOf qos) (mkForward qos alias ex sid p).topic pk p.payload
      (forwardProps (mkForward qos alias ex sid p) extra) ≤ remainingLimit

theorem mkForward_pubOk {p : Pub} {extra : Props} {qos pk : Nat} {alias : Option Nat} {ex : Bool} {sid : Option Nat}
    (hs : StoredOk p extra = true) (hx : extraOk extra = true) (hfit : FitsForward p extra)
    (hq : qos ≤ 2) (hpk : pk < 65536) (hpk0 : qos ≠ 0 → pk ≠ 0)
    (ha : ∀ a, alias = some a → a < 65536) (hsid : ∀ i, sid = some i → i ≤ remainingLimit) :
    pubOk { mkForward qos alias ex sid p with pkid := pk } extra = true ∧
    (alias = none → sid = none →
      ({ mkForward qos alias ex sid p with pkid := pk } : Pub).alias.isNone = true ∧
      ({ mkForward qos alias ex sid p with pkid := pk } : Pub).subIds.isEmpty = true) := by
  simp only [StoredOk, Bool.and_eq_true, decide_eq_true_eq, Option.isNone_iff_eq_none, List.isEmpty_iff,
    Bool.or_eq_true] at hs
  obtain ⟨⟨⟨⟨h1, h2⟩, h3⟩, h4⟩, h5⟩ := hs
  have hsz := hfit qos alias ex sid pk
  rw [mkForward_eq, h1, h2] at hsz ⊢
  simp only [Option.or_none, List.nil_append] at hsz ⊢
  have ht : (if ex = true then [] else p.topic).length ≤ 65535 := by split <;> simp [h4]
  have hpk0' : qos = 0 ∨ ¬ pk = 0 := by
    by_cases h : qos = 0
    · exact .inl h
    · exact .inr (hpk0 h)
  have hsz' : V5.publishLen (qosOf qos) (if ex = true then [] else p.topic) pk p.payload
      (forwardProps { p with qos := qos, pkid := pk, topic := (if ex = true then [] else p.topic), alias := alias, subIds := sid.toList, hasProps := p.hasProps || alias.isSome || sid.isSome } extra) ≤ remainingLimit := hsz
  constructor
  · unfold pubOk
    simp only [hx, hsz', ht, hq, hpk, decide_true, Bool.and_true, Bool.true_and]
    cases alias with
    | none => cases sid with
      | none => simpa [hpk0'] using h5
      | some i => simp [hpk0', hsid i rfl]
    | some a => cases sid with
      | none => simp [hpk0', ha a rfl]
      | some i => simp [hpk0', ha a rfl, hsid i rfl]
  · rintro rfl rfl; exact ⟨rfl, rfl⟩

theorem numberForwards_mem (idx : Nat) (fwds : List (Pub × Option Cursor)) (o : Outgoing) (acc : List Notif)
    (hl : o.lastPkid < MAX_INFLIGHT) : ∀ n ∈ (numberForwards o idx fwds acc).2,
    n ∈ acc ∨ ∃ p cur pk, (p, cur) ∈ fwds ∧ 1 ≤ pk ∧ pk ≤ MAX_INFLIGHT ∧ n = .forward { p with pkid := pk } cur := by
  obtain ⟨pks, _, _, h2, h3⟩ := numberForwards_shape idx fwds o acc
  rw [h2]
  intro n hn
  rcases List.mem_append.mp hn with h | h
  · exact .inl h
  · obtain ⟨x, hx, rfl⟩ := List.mem_map.mp h
    obtain ⟨a, b⟩ := List.of_mem_zip hx
    exact .inr ⟨x.2.1, x.2.2, x.1, b, (h3 hl x.1 a).1, (h3 hl x.1 a).2, rfl⟩

def AliasesOk (c : Conn) : Prop :=
  ∀ b, c.brokerAliases = some b → b.max < 65536 ∧ ∀ q ∈ b.aliases, q.2 ≤ b.max

theorem fdAliases_bound {c : Conn} (h : AliasesOk c) (f : String) :
    (c.brokerAliases = none → (fdAliases c f).2 = none) ∧ ∀ a, (fdAliases c f).2 = some a → a < 65536 := by
  unfold fdAliases aliasesFor
  by_cases hw : Topic.hasWildcards f.toList = true
  · simp [hw]
  · cases hb : c.brokerAliases with
    | none => simp [hw]
    | some b =>
      obtain ⟨hmax, hall⟩ := h b hb
      simp only [hw, Bool.false_eq_true, if_false, Option.bind_some, reduceCtorEq, false_imp_iff, true_and]
      intro a ha
      cases hl : alookup f b.aliases with
      | some a0 =>
        rw [hl] at ha; simp only [Option.some.injEq] at ha; subst ha
        have := hall (f, a0) (mem_of_alookup_eq_some hl); simp only [] at this; omega
      | none =>
        rw [hl] at ha
        simp only [BrokerAliases.setNew] at ha
        split at ha
        · cases ha
        · rename_i hk
          simp only [Option.some.injEq] at ha; subst ha; omega

theorem fdAliases_ok {c : Conn} (h : AliasesOk c) (f : String) :
    ∀ b, (fdAliases c f).1 = some b → b.max < 65536 ∧ ∀ q ∈ b.aliases, q.2 ≤ b.max := by
  intro b hb
  unfold fdAliases at hb
  split at hb
  · exact h b hb
  · split at hb
    · exact h b hb
    · rename_i b0 hb0
      have hb0' : c.brokerAliases = some b0 := by
        unfold aliasesFor at hb0
        split at hb0
        · cases hb0
        · exact hb0
      obtain ⟨hmax, hall⟩ := h b0 hb0'
      simp only [BrokerAliases.setNew] at hb
      split at hb
      · simp only [Option.some.injEq] at hb; subst hb; exact ⟨hmax, hall⟩
      · rename_i hk
        simp only [Option.some.injEq] at hb; subst hb
        exact ⟨hmax, forall_ainsert hall (by simp only []; omega)⟩

theorem fdOut_emittable {c : Conn} {req : DataRequest} {pubs : List (Pub × Option Cursor)} {extra : Props}
    (hsrc : ∀ pc ∈ pubs, StoredOk pc.1 extra = true ∧ FitsForward pc.1 extra) (hx : extraOk extra = true)
    (hq : req.qos ≤ 2) (hlast : c.out.lastPkid < MAX_INFLIGHT) (hal : AliasesOk c)
    (hsid : ∀ i, alookup req.filter c.subscriptionIds = some i → i ≤ remainingLimit) :
    ∀ n ∈ (fdOut c req pubs).2, Emittable (versionOf c) extra n = true := by
  intro n hn
  obtain ⟨hal0, hal1⟩ := fdAliases_bound hal req.filter
  have key : ∀ p cur pk, (p, cur) ∈ fdFwds c req pubs → pk < 65536 → (req.qos ≠ 0 → pk ≠ 0) →
      Emittable (versionOf c) extra (.forward { p with pkid := pk } cur) = true := by
    intro p cur pk hm h1 h2
    unfold fdFwds at hm
    obtain ⟨pc, hpc, e⟩ := List.mem_map.mp hm
    simp only [Prod.mk.injEq] at e
    obtain ⟨rfl, _⟩ := e
    obtain ⟨hs, hf⟩ := hsrc pc hpc
    obtain ⟨k1, k2⟩ := mkForward_pubOk (ex := ((aliasesFor c req.filter).bind (fun b => alookup req.filter b.aliases)).isSome)
      hs hx hf hq h1 h2 hal1 hsid
    unfold Emittable
    simp only [k1, Bool.true_and]
    unfold versionOf
    by_cases hv : (c.brokerAliases.isNone && c.subscriptionIds.isEmpty) = true
    · -- v4: no broker aliases, no subscription identifiers, so `mkForward` adds neither
      rw [if_pos hv]
      simp only [Bool.and_eq_true, Option.isNone_iff_eq_none, List.isEmpty_iff] at hv
      have hs0 : alookup req.filter c.subscriptionIds = none := by rw [hv.2]; rfl
      obtain ⟨a, b⟩ := k2 (hal0 hv.1) hs0
      simp only [a, b, Bool.and_self]
    · rw [if_neg hv]
  unfold fdOut at hn
  split at hn
  · rename_i hq0
    obtain ⟨pc, hpc, rfl⟩ := List.mem_map.mp hn
    have hpk : pc.1.pkid < 65536 := by
      unfold fdFwds at hpc
      obtain ⟨pc0, hpc0, rfl⟩ := List.mem_map.mp hpc
      have := (hsrc pc0 hpc0).1
      simp only [StoredOk, Bool.and_eq_true, decide_eq_true_eq] at this
      rw [mkForward_eq]; exact this.1.1.2
    have := key pc.1 pc.2 pc.1.pkid hpc hpk (fun h => absurd hq0 h)
    exact this
  · rcases numberForwards_mem req.filterIdx _ _ _ hlast n hn with h | ⟨p, cur, pk, hm, h1, h2, rfl⟩
    · cases h
    · exact key p cur pk hm (by simp [MAX_INFLIGHT] at h2; omega) (fun _ => by omega)

def AckLogsOk (s : RState) : Prop := ∀ id c, getConn s id = some c → ∀ a ∈ c.acks.committed, ackOk a = true

/-- `hlive`: `handle_device_payload` checks it -/
theorem handlePacket_acklogs {s s' : RState} {id : Nat} {cid : String} {pkt : Packet} {fl fl' : Flags}
    (hp : PacketOk pkt = true) (hi : AckLogsOk s) (hlive : ∃ c, getConn s id = some c)
    (h : handlePacket s id cid pkt fl = .ok (s', fl')) :
    s'.links = s.links ∧ AckLogsOk s' := by
  obtain ⟨as, hr, ⟨ha, _, _⟩, _⟩ := handlePacket_did h
  refine ⟨ha.links, fun j c' hc' a hm => ?_⟩
  by_cases hj : j = id
  · subst hj
    obtain ⟨c, hc⟩ := hlive
    obtain ⟨c1, hc1, e, _⟩ := ha.own c hc
    rw [hc'] at hc1; cases hc1
    rw [e] at hm
    rcases List.mem_append.mp hm with h1 | h1
    · exact hi j c hc a h1
    · exact reply_acks_ok hp hr a h1
  · have := ha.others j hj
    rw [hc'] at this
    cases hc : getConn s j with
    | none => rw [hc] at this; simp at this
    | some c =>
      rw [hc] at this
      simp only [Option.map_some, Option.some.injEq, Conn.view, Prod.mk.injEq] at this
      exact hi j c hc a (by rw [← this.1]; exact hm)

theorem ackDeviceData_emittable {s : RState} {id : Nat} {c : Conn} (hc : getConn s id = some c) (hi : AckLogsOk s)
    (v : Admission.Version) (extra : Props) :
    (getLink (ackDeviceData s id) c.link).obuf = (getLink s c.link).obuf ++ c.acks.committed.map Notif.ack ∧
    (∀ n ∈ c.acks.committed.map Notif.ack, Emittable v extra n = true) ∧
    (∀ l, l ≠ c.link → getLink (ackDeviceData s id) l = getLink s l) := by
  obtain ⟨a, b, _, _⟩ := ackDeviceData_spec s id c hc
  refine ⟨a, fun n hn => ?_, b⟩
  obtain ⟨x, hx, rfl⟩ := List.mem_map.mp hn
  exact hi id c hc x hx

end Router
