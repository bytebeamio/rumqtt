/-
`gbind` / `gbind2` take a `Good` goal through one bind; with them the `_good` / `_total` / `_dinv` lemmas of the leaf
functions: scheduler, wake-ups, data log.
-/
import Proofs.Lemmas.Router.Rp1_DInv
import Proofs.Lemmas.Router.Rp1_ShapeOf
namespace Router

/-- `match m with | .error e => .error e | .ok a => k a` in the goal `Good Q _`: discharge the error
    branch from `hm : Good P m`, continue in the ok branch with the equation and `P a` -/
syntax "gbind " term " with " ident ident ident : tactic
macro_rules
  | `(tactic| gbind $hm with $a $ha $q) =>
    `(tactic| (split
               next e he => exact Good.error_of he $hm
               rename_i $a:ident $ha:ident
               refine Good.with_ok $ha $hm (fun $q => ?_)))

syntax "gbind2 " term " with " ident ident ident ident : tactic
macro_rules
  | `(tactic| gbind2 $hm with $a $b $ha $q) =>
    `(tactic| (split
               next e he => exact Good.error_of he $hm
               rename_i $a:ident $b:ident $ha:ident
               refine Good.with_ok $ha $hm (fun $q => ?_)))

theorem Live.of_get {s : RState} {id : Nat} {c : Conn} (h : getConn s id = some c) : Live s id := by
  unfold Live; rw [h]; rfl
theorem Live.get {s : RState} {id : Nat} (h : Live s id) : ∃ c, getConn s id = some c := by
  unfold Live at h
  cases hc : getConn s id with
  | none => rw [hc] at h; simp at h
  | some c => exact ⟨c, rfl⟩
theorem Live.shape {R : Nat → Conn → Conn → Prop} {s s' : RState} {id : Nat} (h : Live s id) (hs : Shape R s s') :
    Live s' id := by
  unfold Live at h ⊢; rw [hs.isSome_eq]; exact h
theorem Live.core {s s' : RState} {id : Nat} (h : Live s id) (hs : CoreEq s s') : Live s' id := by
  unfold Live at h ⊢; rw [hs.getConn]; exact h

theorem reschedule_total {s : RState} {id : Nat} {c : Conn} {r : SchedReason} (h : DInv s)
    (hc : getConn s id = some c) (hr : r = .init → c.tracker.status = .paused .busy) :
    Total (fun s' => DInv s' ∧ s'.notifications = s.notifications) (reschedule s id r) := by
  cases ht : c.tracker.tryReady r with
  | none =>
    obtain ⟨e, hne⟩ := tryReady_none ht
    exact absurd (hr e) hne
  | some p =>
    obtain ⟨t, woke⟩ := p
    have hreq : ReqsOK (N s) ({ c with tracker := t } : Conn).tracker.requests := by
      show ReqsOK (N s) t.requests; rw [tryReady_some ht]; exact h.trk id c hc
    refine ⟨_, reschedule_of_tryReady hc ht, ?_⟩
    cases woke
    · exact ⟨h.set hc rfl hreq, rfl⟩
    · exact ⟨h.set hc rfl hreq, rfl⟩

theorem track_total {s : RState} {id : Nat} {r : DataRequest} (h : DInv s) (hl : Live s id)
    (hr : r.filterIdx < N s) :
    Total (fun s' => DInv s' ∧ s'.notifications = s.notifications) (track s id r) := by
  obtain ⟨c, hc⟩ := hl.get
  unfold track
  simp only [hc]
  exact ⟨_, rfl, h.set hc rfl ((h.trk id c hc).append (ReqsOK.cons hr (ReqsOK.nil _))), rfl⟩

theorem trackv_good {s : RState} {id : Nat} {rs : List DataRequest} (h : DInv s) (hl : Live s id)
    (hr : ReqsOK (N s) rs) :
    Good (fun s' => DInv s' ∧ s'.notifications = s.notifications) (trackv s id rs) := by
  obtain ⟨c, hc⟩ := hl.get
  unfold trackv
  simp only [hc]
  exact ⟨h.set hc rfl ((h.trk id c hc).append hr), rfl⟩

theorem pause_good {s : RState} {id : Nat} {r : PauseReason} (h : DInv s) (hl : Live s id)
    (hq : s.readyqueue.getLast? = some id) :
    Good (fun s' => DInv s' ∧ s'.notifications = s.notifications) (pause s id r) := by
  obtain ⟨c, hc⟩ := hl.get
  unfold pause
  rw [if_neg (by simp [hq])]
  simp only [hc]
  exact ⟨h.set hc rfl (h.trk id c hc), rfl⟩

theorem drainNotifications_total : ∀ (ns : List (Nat × DataRequest)) {s : RState}, DInv s →
    (∀ n ∈ ns, n.2.filterIdx < N s ∧ Live s n.1) →
    Total (fun s' => DInv s' ∧ s'.notifications = s.notifications) (drainNotifications s ns)
  | [], s, h, _ => ⟨s, rfl, h, rfl⟩
  | (id, r) :: rest, s, h, hn => by
    simp only [drainNotifications]
    have h0 := hn (id, r) (by simp)
    obtain ⟨s1, h1, q1⟩ := track_total h h0.2 h0.1
    obtain ⟨c1, hc1⟩ := (h0.2.shape (track_shape h1)).get
    obtain ⟨s2, h2, q2⟩ := reschedule_total (r := .freshData) q1.1 hc1 (by simp)
    simp only [h1, h2]
    have hN : N s2 = N s := by
      unfold N; rw [(reschedule_step h2).datalog, (track_step h1).datalog]
    refine (drainNotifications_total rest q2.1 fun n hn' => ?_).mono fun s' q => ⟨q.1, ?_⟩
    · have := hn n (by simp [hn'])
      exact ⟨by rw [hN]; exact this.1, this.2.shape ((track_shape h1).trans (reschedule_shape h2))⟩
    · rw [q.2, q2.2, q1.2]

theorem DInv.native_set {s : RState} (h : DInv s) (idx : Nat) (fd' : FilterData)
    (hw : ∀ w ∈ fd'.waiters, w.2.filterIdx < N s ∧ Live s w.1) (ns : List (Nat × DataRequest))
    (hns : ∀ n ∈ ns, n.2.filterIdx < N s ∧ Live s n.1) (g1 : List Ghost) :
    DInv ({ s with datalog := { s.datalog with native := s.datalog.native.set idx fd' }, notifications := ns, ghost := g1 } : RState) := by
  refine ⟨?_, ?_, ?_, ?_, ?_, ?_, h.grp⟩
  · intro q hq; show q.2 < (s.datalog.native.set idx _).length; rw [List.length_set]; exact h.fidx q hq
  · intro q hq i hi'; show i < (s.datalog.native.set idx _).length; rw [List.length_set]; exact h.pf q hq i hi'
  · intro j c hc; show ReqsOK (s.datalog.native.set idx _).length _; rw [List.length_set]; exact h.trk j c hc
  · intro fd hfd' w hw'
    show w.2.filterIdx < (s.datalog.native.set idx _).length ∧ _
    rw [List.length_set]
    rcases List.mem_or_eq_of_mem_set hfd' with hm | rfl
    · exact h.wt fd hm w hw'
    · exact hw w hw'
  · intro n hn
    show n.2.filterIdx < (s.datalog.native.set idx _).length ∧ _
    rw [List.length_set]
    exact hns n hn
  · intro q hq ss hss
    show ReqsOK (s.datalog.native.set idx _).length _ ∧ _
    rw [List.length_set]; exact h.grv q hq ss hss

theorem clearWaiters_dinv {s : RState} {i : Nat} {fd : FilterData} (h : DInv s) :
    DInv (clearWaiters s i fd) ∧ N (clearWaiters s i fd) = N s :=
  ⟨h.native_set i { fd with waiters := [] } (fun _ hw => by cases hw) s.notifications h.ntf s.ghost,
    by simp [N, clearWaiters]⟩

/-- it returns because the parked requests belong to live connections (`DInv.wt`) -/
theorem wakeParkedSorted_total : ∀ (logs : List Nat) {s : RState}, DInv s →
    Total (fun s' => DInv s' ∧ s'.notifications = s.notifications) (wakeParkedSorted s logs)
  | [], s, h => ⟨s, rfl, h, rfl⟩
  | i :: rest, s, h => by
    rw [wakeParkedSorted_cons]
    split
    · exact wakeParkedSorted_total rest h
    · rename_i fd hfd
      obtain ⟨h1, hN⟩ := clearWaiters_dinv (i := i) (fd := fd) h
      obtain ⟨s2, h2, q2⟩ := drainNotifications_total fd.waiters h1 fun n hn => by
        have := h.wt fd (List.mem_of_getElem? hfd) n hn
        exact ⟨by rw [hN]; exact this.1, this.2⟩
      simp only [h2]
      exact (wakeParkedSorted_total rest q2.1).mono fun s' q => ⟨q.1, by rw [q.2, q2.2]; rfl⟩

theorem wakeParked_total {s : RState} {logs : List Nat} (h : DInv s) :
    Total (fun s' => DInv s' ∧ s'.notifications = s.notifications) (wakeParked s logs) :=
  wakeParkedSorted_total _ h

theorem wakeTurnMoved_total {s : RState} (h : DInv s) :
    Total (fun s' => DInv s' ∧ s'.notifications = s.notifications) (wakeTurnMoved s) :=
  wakeParked_total (s := { s with turnMoved := [] }) (h.of_reads rfl)

theorem commitAck_good {s : RState} {id : Nat} {a : Ack} (h : DInv s) (hl : Live s id) :
    Good (fun s' => DInv s' ∧ s'.notifications = s.notifications) (commitAck s id a) := by
  obtain ⟨c, hc⟩ := hl.get
  unfold commitAck
  simp only [hc]
  exact ⟨h.set hc rfl (h.trk id c hc), rfl⟩

theorem dlMatches_good {s : RState} {topic : String} (h : DInv s) :
    Good (fun r => DInv r.1 ∧ (∀ i ∈ r.2, i < N r.1) ∧ r.1.notifications = s.notifications) (dlMatches s topic) := by
  unfold dlMatches
  split
  · rename_i v hv
    exact ⟨h, fun i hi => h.pf _ (mem_of_alookup_eq_some hv) i hi, rfl⟩
  · split
    · rename_i v rest ho
      simp only []
      split
      · rename_i hsm
        have hv : ∀ i ∈ v, i < N s := fun i hi => by
          have := (perm_of_sameMembers hsm).mem_iff.mp hi
          obtain ⟨p, hp, e⟩ := List.mem_map.mp this
          exact e ▸ h.fidx p (List.mem_filter.mp hp).1
        by_cases he : v.isEmpty = true
        · rw [if_pos he]
          exact ⟨h.of_reads rfl, hv, rfl⟩
        · rw [if_neg he]
          refine ⟨⟨h.fidx, ?_, h.trk, h.wt, h.ntf, h.grv, h.grp⟩, hv, rfl⟩
          intro p hp i hi
          rcases List.mem_append.mp hp with hp | hp
          · exact h.pf p hp i hi
          · simp only [List.mem_singleton] at hp; subst hp; exact hv i hi
      · exact Good.badChoice _
    · exact Good.badChoice _

theorem appendToFilter_good {s : RState} {idx : Nat} {p : Pub} (h : DInv s) (hi : idx < N s) :
    Good DInv (appendToFilter s idx p) := by
  unfold appendToFilter
  have hlt : idx < s.datalog.native.length := hi
  rw [List.getElem?_eq_getElem hlt]
  simp only []
  have hfd : s.datalog.native[idx] ∈ s.datalog.native := List.getElem_mem hlt
  have hns : ∀ n ∈ s.notifications ++ s.datalog.native[idx].waiters, n.2.filterIdx < N s ∧ Live s n.1 := fun n hn => by
    rcases List.mem_append.mp hn with hn | hn
    · exact h.ntf n hn
    · exact h.wt _ hfd n hn
  show DInv _
  split
  · exact h.native_set idx _ (fun w hw => by simp at hw) _ hns _
  · exact h.native_set idx _ (fun w hw => by simp at hw) _ hns _

theorem appendToFilters_good : ∀ (idxs : List Nat) {s : RState} {p : Pub}, DInv s → (∀ i ∈ idxs, i < N s) →
    Good DInv (appendToFilters s idxs p)
  | [], s, p, h, _ => h
  | i :: is, s, p, h, hi => by
    simp only [appendToFilters]
    gbind (appendToFilter_good (p := p) h (hi i (by simp))) with s1 h1 q1
    have hN : N s1 = N s := by
      obtain ⟨fd, evs, _, _, rfl⟩ := appendToFilter_upd h1
      exact List.length_set ..
    exact appendToFilters_good is q1 fun j hj => by rw [hN]; exact hi j (by simp [hj])

theorem updateRetained_dinv {s : RState} (h : DInv s) (topic : String) (p : Pub) :
    DInv (updateRetained s topic p) ∧ (updateRetained s topic p).notifications = s.notifications := by
  obtain ⟨r, e⟩ := updateRetained_upd s topic p
  rw [e]; exact ⟨h.of_reads rfl, rfl⟩

end Router
