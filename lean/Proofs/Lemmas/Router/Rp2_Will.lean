/-
C16: the `last_wills` bookkeeping of `handle_new_connection` and what `handle_last_will` publishes.
-/
import Proofs.Lemmas.Router.Base.Connect
import Proofs.Lemmas.Router.Rp2_Payload
namespace Router

/-- the `registered` events of a piece of ghost history: (connection id, link, client id) -/
def registeredEvents (g : List Ghost) : List (Nat × Nat × String) :=
  g.filterMap (fun e => match e with | .registered i l c _ _ => some (i, l, c) | _ => none)

def willSetEvents (g : List Ghost) : List String :=
  g.filterMap (fun e => match e with | .willSet c => some c | _ => none)

@[simp] theorem registeredEvents_append (a b : List Ghost) :
    registeredEvents (a ++ b) = registeredEvents a ++ registeredEvents b := by
  simp [registeredEvents]

@[simp] theorem willSetEvents_append (a b : List Ghost) :
    willSetEvents (a ++ b) = willSetEvents a ++ willSetEvents b := by
  simp [willSetEvents]

theorem hnTakeover_will {s s' : RState} {spec : ConnectSpec} (h : hnTakeover s spec = .ok s') :
    s'.lastWills = s.lastWills ∧
    ∃ evs, s'.ghost = s.ghost ++ evs ∧ registeredEvents evs = [] ∧ willSetEvents evs = [] := by
  rcases hnTakeover_cases h with ⟨_, rfl⟩ | ⟨old, _, hd⟩
  · exact ⟨rfl, [], by simp, rfl, rfl⟩
  · obtain ⟨_, h2, h3 | ⟨c, _, h3⟩⟩ := handleDisconnection_removed hd
    · exact ⟨h2, [], by rw [h3]; simp, rfl, rfl⟩
    · exact ⟨h2, _, h3, rfl, rfl⟩

theorem registeredEvents_committed (id : Nat) (acks : List Ack) :
    registeredEvents (acks.map (Ghost.committed id)) = [] ∧ willSetEvents (acks.map (Ghost.committed id)) = [] := by
  induction acks with
  | nil => exact ⟨rfl, rfl⟩
  | cons a as ih => exact ⟨by simp [registeredEvents], by simp [willSetEvents]⟩

theorem hnGhost_events (s : RState) (spec : ConnectSpec) :
    registeredEvents (hnGhost s spec) = [(hnKey s spec, spec.link, spec.clientId)] ∧
    willSetEvents (hnGhost s spec) = (if spec.will.isSome then [spec.clientId] else []) := by
  unfold hnGhost
  refine ⟨?_, ?_⟩
  · simp only [registeredEvents_append, (registeredEvents_committed _ _).1]
    cases spec.will <;> cases (hnRestored s spec).isSome <;> rfl
  · simp only [willSetEvents_append, (registeredEvents_committed _ _).2]
    cases spec.will <;> cases (hnRestored s spec).isSome <;> rfl

theorem handleNewConnection_will {s s' : RState} {spec : ConnectSpec} (h : handleNewConnection s spec = .ok s') :
    ∃ evs, s'.ghost = s.ghost ++ evs ∧
      ((registeredEvents evs = [] ∧ willSetEvents evs = [] ∧ Ghost.notRegistered spec.link ∈ evs ∧
          s'.lastWills = s.lastWills) ∨
       ((∃ id, registeredEvents evs = [(id, spec.link, spec.clientId)]) ∧
          willSetEvents evs = (if spec.will.isSome then [spec.clientId] else []) ∧
          s'.lastWills = (match spec.will with
            | some w => ainsert spec.clientId w s.lastWills
            | none => s.lastWills))) := by
  rcases handleNewConnection_cases h with ⟨_, rfl⟩ | ⟨s1, _, ht, _, rfl⟩ | ⟨s1, _, ht, _, _, hr⟩
  · exact ⟨[.notRegistered spec.link], rfl, .inl ⟨rfl, rfl, by simp, rfl⟩⟩
  · obtain ⟨hl1, e1, hg1, hr1, hw1⟩ := hnTakeover_will ht
    refine ⟨e1 ++ [.notRegistered spec.link], ?_, .inl ⟨?_, ?_, by simp, hl1⟩⟩
    · simp only [RState.g]; rw [hg1]; simp; rfl
    · rw [registeredEvents_append, hr1]; rfl
    · rw [willSetEvents_append, hw1]; rfl
  · obtain ⟨hl1, e1, hg1, hr1, hw1⟩ := hnTakeover_will ht
    have hd := (reschedule_step hr).wakeFrame
    obtain ⟨g1, g2⟩ := hnGhost_events s1 spec
    refine ⟨e1 ++ hnGhost s1 spec, ?_, .inr ⟨⟨hnKey s1 spec, ?_⟩, ?_, ?_⟩⟩
    · rw [hd.ghost, show (hnPre s1 spec).ghost = s1.ghost ++ hnGhost s1 spec from rfl, hg1]; simp; rfl
    · rw [registeredEvents_append, hr1, g1]; rfl
    · rw [willSetEvents_append, hw1, g2]; rfl
    · rw [hd.wills]; show (match spec.will with | some w => _ | none => _) = _
      rw [hl1]; rfl


theorem handleLastWill_eq {s : RState} {cid : String} {w : Will} {topic : String}
    (hw : alookup cid s.lastWills = some w) (ht : utf8? w.topic = some topic) :
    handleLastWill s cid =
      match Rp3.deliver ((updateRetained (({ s with lastWills := aremove cid s.lastWills } : RState).g (.willFired cid)) topic
          (willPub w)).g (.accepted none (willPub w) topic)) topic { willPub w with retain := false } with
      | .error e => .error e
      | .ok s2 => drainNotifications { s2 with notifications := [] } s2.notifications := by
  unfold handleLastWill Rp3.deliver willPub
  simp only [hw, ht]
  split
  · rename_i hm; rw [hm]
  · rename_i hm; rw [hm]
    split <;> (rename_i ha; simp only [ha])

theorem handleLastWill_fires {s s' : RState} {cid : String} {w : Will} {topic : String}
    (hw : alookup cid s.lastWills = some w) (ht : utf8? w.topic = some topic)
    (h : handleLastWill s cid = .ok s') :
    alookup cid s'.lastWills = none ∧
    ∃ (idxs : List Nat) (evs : List Ghost),
      s'.ghost = s.ghost ++ [.willFired cid, .accepted none (willPub w) topic] ++ evs ∧
      s'.datalog.retained = (updateRetained s topic (willPub w)).datalog.retained ∧
      Accepted s s' (willPub w) topic idxs evs := by
  rw [handleLastWill_eq hw ht] at h
  split at h
  · cases h
  · rename_i s2 hdl
    obtain ⟨idxs, evs, g, r, lw, a⟩ := accept_wrote (s := s) hdl rfl
    have dr := drainNotifications_wakeFrame _ h
    have dd := (drainNotifications_spec _ h).2
    refine ⟨?_, idxs, evs, ?_, ?_, a.matched, a.appended, a.accepted, fun j => ?_⟩
    · rw [dr.wills]
      show alookup cid s2.lastWills = none
      rw [lw]; exact alookup_aremove_same cid s.lastWills
    · rw [dr.ghost]; show s2.ghost = _
      rw [g]; simp [RState.g]
    · rw [dd]; exact r
    · rw [← a.logs j]; unfold logAt; rw [dd]


theorem handleLastWill_invalid_topic {s s' : RState} {cid : String} {w : Will}
    (hw : alookup cid s.lastWills = some w) (ht : utf8? w.topic = none)
    (h : handleLastWill s cid = .ok s') :
    alookup cid s'.lastWills = none ∧ s'.datalog = s.datalog ∧ s'.ghost = s.ghost ++ [.willFired cid] := by
  unfold handleLastWill at h
  simp only [hw, ht, Except.ok.injEq] at h
  subst h
  exact ⟨alookup_aremove_same cid s.lastWills, rfl, rfl⟩


theorem handleDevicePayload_disconnect_clears_will {s s' s1 : RState} {id : Nat} {c : Conn} {fl1 : Flags}
    {pre post : List Packet} (hc : getConn s id = some c)
    (hib : (getLink s c.link).ibuf = pre ++ Packet.disconnect :: post)
    (hpre : handlePackets (setLink s c.link { getLink s c.link with ibuf := [] }) id c.clientId pre {} = .ok (s1, fl1))
    (hns : fl1.stop = false)
    (h : handleDevicePayload s id = .ok s') : alookup c.clientId s'.lastWills = none := by
  obtain ⟨s2, fl, _, _, s4, hpk, h2, h3, h4, h5⟩ := handleDevicePayload_phases hc h
  rw [hib, handlePackets_append id c.clientId pre _ hpre hns] at hpk
  simp only [handlePackets, handlePacket, if_true, Except.ok.injEq, Prod.mk.injEq] at hpk
  obtain ⟨rfl, rfl⟩ := hpk
  simp only [if_true] at h5
  rw [(handleDisconnection_removed h5).2.1, show s4.lastWills = _ from payloadTail_walk lastWills_bookkeeping h2 h3 h4]
  exact alookup_aremove_same _ _

end Router
