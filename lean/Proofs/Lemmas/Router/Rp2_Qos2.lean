/-
C06 `qos2_forward_on_release_only`: what a PUBREL does.
-/
import Proofs.Lemmas.Router.Base.Cases
import Proofs.Lemmas.Router.Base.Packet
import Proofs.Lemmas.Router.Rp2_Append
import Proofs.Lemmas.Router.Rp2_Frame
namespace Router

/-- the QoS 2 publishes of a connection that wait for their PUBREL, oldest first -/
def recordedOf (s : RState) (id : Nat) : Option (List Pub) := (getConn s id).map (·.acks.recorded)

theorem AckFrame.recordedOf {s s' : RState} (h : AckFrame s s') (j : Nat) : recordedOf s' j = recordedOf s j := by
  have := h.conns j
  unfold Router.recordedOf
  cases h1 : getConn s' j <;> cases h2 : getConn s j <;> simp [h1, h2, Conn.view] at this ⊢
  rw [this.1]

theorem pubrel_nothing_recorded {s s' : RState} {id : Nat} {cid : String} {pkid : Nat} {fl fl' : Flags}
    {c : Conn} {props : Bool} (hc : getConn s id = some c) (hrec : c.acks.recorded = [])
    (h : handlePacket s id cid (.pubrel pkid props) fl = .ok (s', fl')) :
    s'.datalog = s.datalog ∧ s'.ghost = s.ghost ++ [.committed id (.pubcomp pkid)] ∧ fl'.disconnect = true := by
  cases packet_cases h with
  | pubrelNone _ _ e1 e2 => subst e1 e2; exact ⟨rfl, rfl, rfl⟩
  | pubrelErr hc' hp' _ _ _ | pubrelOk hc' hp' _ _ _ => cases hc.symm.trans hc'; rw [hrec] at hp'; cases hp'

theorem pubrel_forwards_oldest_recorded {s s' : RState} {id : Nat} {cid : String} {pkid : Nat} {fl fl' : Flags}
    {c : Conn} {p : Pub} {rest : List Pub} {props : Bool} (hc : getConn s id = some c) (hrec : c.acks.recorded = p :: rest)
    (h : handlePacket s id cid (.pubrel pkid props) fl = .ok (s', fl')) :
    recordedOf s' id = some rest ∧
    ∃ evs, s'.ghost = s.ghost ++ [.committed id (.pubcomp pkid)] ++ evs ∧
      ((fl'.disconnect = true ∧ evs = [] ∧ s'.datalog = s.datalog) ∨
       (∃ (q : Pub) (topic : String) (idxs : List Nat),
          SamePublish p q ∧ utf8? q.topic = some topic ∧
          acceptedEvents evs = [(some id, q, topic)] ∧
          appendedEvents evs = idxs.map (fun i => (i, { q with retain := false })) ∧
          (∀ j, logAt s' j = (logAt s j).map (appendN { q with retain := false } (idxs.count j))) ∧
          fl'.newData = true ∧ fl'.disconnect = fl.disconnect)) := by
  have hg0 : recordedOf ((setConn s id { c with acks := { committed := c.acks.committed ++ [Ack.pubcomp pkid], recorded := rest } }).g
      (.committed id (.pubcomp pkid))) id = some rest := by
    simp [recordedOf, getConn_setConn_same _ _ _ (Slab.lt_of_get? hc)]
  cases packet_cases h with
  | pubrelNone hc' h0 _ _ => cases hc.symm.trans hc'; rw [hrec] at h0; cases h0
  | pubrelErr hc' hrec' hap hes e =>
    cases hc.symm.trans hc'; obtain ⟨rfl, rfl⟩ := List.cons.inj (hrec.symm.trans hrec'); subst e
    obtain ⟨_, rfl⟩ := Option.isSome_iff_exists.mp hes
    obtain ⟨_, hdl, hgh⟩ := appendToCommitlog_refused hap (by simp)
    refine ⟨by rw [(appendToCommitlog_frame hap).recordedOf, hg0], [], ?_, .inl ⟨rfl, rfl, ?_⟩⟩
    · rw [hgh]; simp [RState.g, setConn]
    · rw [hdl]; rfl
  | @pubrelOk _ _ _ _ _ s2 hc' hrec' hap h3 e =>
    cases hc.symm.trans hc'; obtain ⟨rfl, rfl⟩ := List.cons.inj (hrec.symm.trans hrec'); subst e
    obtain ⟨q, topic, idxs, evs, hsp, hutf, hgh, _, acc⟩ := appendToCommitlog_ok hap
    refine ⟨by rw [(AckFrame.bookkeeping.reschedule h3).recordedOf, (appendToCommitlog_frame hap).recordedOf, hg0],
      [.accepted (some id) q topic] ++ evs, ?_, .inr ⟨q, topic, idxs, hsp, hutf, ?_, ?_, ?_, rfl, rfl⟩⟩
    · rw [(reschedule_step h3).wakeFrame.ghost, hgh]; simp [RState.g, setConn]
    · rw [acceptedEvents_append, acc.accepted]; simp [acceptedEvents]
    · rw [appendedEvents_append, acc.appended]; simp [appendedEvents]
    · intro j
      have : logAt s' j = logAt s2 j := by unfold logAt; rw [(reschedule_step h3).datalog]
      rw [this, acc.logs j]
      rfl

end Router
