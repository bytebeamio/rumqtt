/-
What is hard: between a `track` and the `reschedule` that follows it `SI` does not hold (a `Caughtup` tracker holds a
request), so the wake-up loop is taken pair by pair (`drainNotifications_pairs`). `SI` is a predicate of one state and
the loop principles speak of relations: they are used at `R s s' := SI s → SI s'`. A sweep only lengthens a window,
so `SRel` covers it.
-/
import Proofs.Lemmas.Router.Base.Outgoing
import Proofs.Lemmas.Router.Rp8_Sched
import Proofs.Lemmas.Router.Base.Walk
namespace Router

theorem commitAck_srel {s s' : RState} {id : Nat} {a : Ack} (h : commitAck s id a = .ok s') : SRel s s' := by
  obtain ⟨c, hc, rfl⟩ := commitAck_upd h
  exact SRel.of_set (c' := { c with acks := _ }) hc rfl (Keep.refl c) rfl

theorem track_reschedule_si {s s1 s2 : RState} {id : Nat} {r0 : DataRequest} {rs : SchedReason} (h : SI s)
    (h1 : track s id r0 = .ok s1) (h2 : reschedule s1 id rs = .ok s2) (hrs : rs = .freshData ∨ rs = .newFilter) : SI s2 := by
  obtain ⟨c, hc, rfl⟩ := track_upd h1
  exact set_reschedule_si h hc h2 rfl rfl rfl (fun _ => .inl (hrs.elim .inl fun e => .inr (.inl e)))
    fun e => .inr ((h.ci id c hc).2 e)

theorem drainNotifications_si (ns : List (Nat × DataRequest)) {s s' : RState} (h : SI s)
    (hd : drainNotifications s ns = .ok s') : SI s' :=
  drainNotifications_pairs (fun s s' => SI s → SI s') (fun _ h => h) (fun _ _ _ h1 h2 h => h2 (h1 h))
    (fun _ _ _ _ _ h1 h2 h => track_reschedule_si h h1 h2 (.inl rfl)) ns hd h

theorem drain_all_si {s s' : RState} (h : SI s)
    (hd : drainNotifications { s with notifications := [] } s.notifications = .ok s') : SI s' :=
  drainNotifications_si _ (h.rel (SRel.of_conns (s := s) (s' := { s with notifications := [] }) rfl rfl)) hd

theorem wakeParked_si {s s' : RState} {logs : List Nat} (h : SI s) (hw : wakeParked s logs = .ok s') : SI s' :=
  wakeParked_rel (fun s s' => SI s → SI s') (fun _ h => h) (fun _ _ _ h1 h2 h => h2 (h1 h))
    (fun _ _ _ _ hs => hs.rel (SRel.of_conns rfl rfl)) (fun _ _ ns hd hs => drainNotifications_si ns hs hd) hw h

theorem wakeTurnMoved_si {s s' : RState} (h : SI s) (hw : wakeTurnMoved s = .ok s') : SI s' :=
  wakeParked_si (h.rel (SRel.of_conns (s := s) (s' := { s with turnMoved := [] }) rfl rfl)) hw

theorem fdOut_length (c : Conn) (req : DataRequest) (pubs : List (Pub × Option Cursor)) :
    c.out.inflight.length ≤ (fdOut c req pubs).1.inflight.length := by
  unfold fdOut
  split
  · exact Nat.le_refl _
  · rw [(numberForwards_lengths req.filterIdx _ c.out []).1]; omega

theorem SRel.frame : TurnFrame SRel where
  refl := SRel.refl
  trans := SRel.trans
  of_conns := fun hc _ _ _ _ hq => SRel.of_conns hc hq
  of_set := fun hc hs _ _ _ _ _ hq => SRel.of_set hc hs (Keep.refl _) hq
  of_native_set := fun _ hc _ _ _ _ _ hq => SRel.of_conns hc hq
  of_new_log := fun _ _ hc _ _ _ _ hq => SRel.of_conns hc hq
  of_turn := fun _ _ => SRel.of_conns rfl rfl
  of_groups := fun hc hq _ => SRel.of_conns hc hq
  of_push := fun req pubs hc hs hq _ => SRel.of_set hc hs ⟨rfl, fun h => h, fdOut_length _ req pubs⟩ hq

end Router
