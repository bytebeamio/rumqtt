/-
`PE` through the request loop of `consume` (`consumeLoop_pe`; `consume` itself is `consume_qi`, Rp6_Idle): a request is
parked only when the sweep reported `FilterCaughtup`, and then (non-shared request, `max_outgoing_packet_count > 0`) its
cursor is the `Done` position of the read — the end of the log. The loop carries cursor soundness (`LoopCS`) and `PE`.
-/
import Proofs.Lemmas.Router.Rp5_Consume
import Proofs.Lemmas.Router.Rp6_Inv
namespace Router
open Router.Rp3
open CommitLog (Rep logC Issued U64)

theorem sweep_caughtup_at_end {s s1 : RState} {id : Nat} {c : Conn} {req req' : DataRequest}
    (hc : getConn s id = some c) (hplain : req.group = none)
    (h : forwardDeviceData s id req = .ok (s1, req', .filterCaughtup))
    (hpos : 0 < s.config.maxOutgoingPacketCount)
    {fd : FilterData} {hist : List Pub} (hfd : s.datalog.native[req.filterIdx]? = some fd)
    (hrep : Rep (logC fd.log) hist) (hiss : Issued (logC fd.log) req.cursor)
    (hU : hist.length + (MAX_INFLIGHT + s.config.maxOutgoingPacketCount) < U64) :
    AtEnd fd req'.cursor := by
  have hg := fdGrp_plain s hplain
  have hcur := fdCur_none hg
  -- the sweep read `n` entries from `req.cursor`, came back standing behind them, and the read was `Done`
  obtain ⟨n, fd', hfd', hn, hcur', hdone⟩ := sweep_done_iff hc h (fun e => nomatch e) (fun e => nomatch e) (by rw [hg]; rfl) hpos
    (fun fd' hfd' => by rw [hfd] at hfd'; cases hfd'; exact ⟨hist, hrep, hcur ▸ hiss, hU⟩)
  rw [hfd] at hfd'; cases hfd'
  rw [hcur] at hcur' hdone
  replace hdone := hdone.mp rfl
  obtain ⟨_, e2, _, e4, e5⟩ := clog_readv_spec fd.log hist hrep req.cursor n hiss (by omega)
  unfold AtEnd
  rw [hcur', hrep.nextAbs_eq]
  exact ⟨e4, by rw [e2]; exact e5.mp hdone⟩

theorem PE.park {s s' : RState} {id : Nat} {r0 : DataRequest} (h : PE s) (hp : park s id r0 = .ok s')
    (hend : r0.group = none → ∀ fd, s.datalog.native[r0.filterIdx]? = some fd → AtEnd fd r0.cursor) : PE s' := by
  obtain ⟨_, fd, hfd, hnat⟩ := park_add hp
  intro i fd' hfd' w hw hg
  rw [hnat, List.getElem?_set] at hfd'
  split at hfd'
  · split at hfd'
    · simp only [Option.some.injEq] at hfd'; subst hfd'
      rename_i e _; subst e
      rcases List.mem_append.mp hw with hw | hw
      · exact h _ fd hfd w hw hg
      · simp only [List.mem_singleton] at hw; subst hw
        exact hend hg fd hfd
    · simp at hfd'
  · exact h i fd' hfd' w hw hg

/-- the `hend` of `PE.park` -/
theorem sweep_park_at_end {id : Nat} {s s1 : RState} {req req1 : DataRequest} {l : List DataRequest}
    (h1 : forwardDeviceData s id req = .ok (s1, req1, .filterCaughtup)) (hcs : LoopCS s (req :: l))
    (hpos : 0 < s.config.maxOutgoingPacketCount) :
    req1.group = none → ∀ fd, (noteTurn s s1 req1).datalog.native[req1.filterIdx]? = some fd → AtEnd fd req1.cursor := by
  obtain ⟨hi, hno, _, hl⟩ := hcs
  obtain ⟨c, hcn⟩ := forwardDeviceData_conn h1
  obtain ⟨_, eg, ei, _⟩ := forwardDeviceData_fields h1
  have hd2 : (noteTurn s s1 req1).datalog = s1.datalog := by
    obtain ⟨tm, e⟩ := noteTurn_upd s s1 req1; rw [e]
  intro hg1 fd hfd
  have hplain : req.group = none := by rw [← eg]; exact hg1
  have hfd0 : s.datalog.native[req.filterIdx]? = some fd := by
    have hdl : s1.datalog = s.datalog := by
      obtain ⟨_, _, ⟨o, rfl⟩ | ⟨_, _, _, _, _, rfl⟩⟩ := forwardDeviceData_upd h1 <;> rfl
    rw [← ei, ← hdl, ← hd2]; exact hfd
  obtain ⟨hist, hrep⟩ := hi.logs fd.log (List.mem_map.mpr ⟨fd, List.mem_of_getElem? hfd0, rfl⟩)
  obtain ⟨⟨fd', hfd', hiss⟩, _⟩ := hl req (by simp)
  rw [hfd0] at hfd'; cases hfd'
  exact sweep_caughtup_at_end hcn hplain h1 hpos hfd0 hrep hiss (hno fd (List.mem_of_getElem? hfd0) hist hrep)

theorem consumeLoop_pe {id : Nat} (fuel : Nat) {s s' : RState} {requests skipped : List DataRequest}
    (hcs : LoopCS s (requests ++ skipped)) (hpos : 0 < s.config.maxOutgoingPacketCount) (hpe : PE s)
    (hc : consumeLoop s id fuel requests skipped = .ok s') : PE s' := by
  have cfg : ∀ {s s' : RState}, s'.config = s.config → 0 < s.config.maxOutgoingPacketCount →
      0 < s'.config.maxOutgoingPacketCount := fun e hp => by rw [e]; exact hp
  have sweep : ∀ {s s1 : RState} {req req1 : DataRequest} {st : ConsumeStatus}, forwardDeviceData s id req = .ok (s1, req1, st) →
      Moves s (noteTurn s s1 req1) := fun {s s1 _ req1 _} h1 =>
    ⟨(Held.sweepClosed.forwardDeviceData h1).nn (Held.connClosed.noteTurn s s1 req1),
     ((OEq.sweepClosed.forwardDeviceData h1).trans (OEq.connClosed.noteTurn s s1 req1)).wsub⟩
  obtain ⟨s0, l, h0, ht⟩ := consumeLoop_inv
    (P := fun s l => LoopCS s l ∧ 0 < s.config.maxOutgoingPacketCount ∧ PE s)
    (fun hp h => ⟨h.1.perm hp, h.2⟩)
    (fun hp h => ⟨h.1.pause hp, cfg (Held.connClosed.pause hp).cfg h.2.1, h.2.2.wsub (WSub.closed.pause hp)⟩)
    (fun h1 h => ⟨h.1.sweep h1, cfg (sweep h1).1.cfg h.2.1, h.2.2.wsub (sweep h1).2⟩)
    (fun h1 h3 h => ⟨(h.1.sweep h1).park h3, cfg (park_held h3).cfg (cfg (sweep h1).1.cfg h.2.1),
      (h.2.2.wsub (sweep h1).2).park h3 (sweep_park_at_end h1 h.1 h.2.1)⟩)
    fuel hc ⟨hcs, hpos, hpe⟩
  obtain ⟨c0, _, rfl⟩ := trackv_upd ht
  exact h0.2.2.wsub (WSub.of_native rfl)

end Router
