/-
C06's vocabulary: the ack log of a connection (`Appended`), the replies owed to request packets (`IsReplyTo`), the
`committed` events of the history (`Commits`: what the C06 monitor compares the drained acks with). `Appended` and
`Commits` compose by `++`.
-/
import Proofs.Lemmas.Router.Rp2_Frame
namespace Router

/-- the pending (registered, not yet flushed) replies of a connection -/
def acksOf (s : RState) (id : Nat) : Option (List Ack) := (getConn s id).map (·.acks.committed)

/-- `s'` differs from `s`, as far as ack logs / links / client ids are concerned, only in that
    `as` was appended to the ack log of connection `id` -/
structure Appended (s s' : RState) (id : Nat) (as : List Ack) : Prop where
  links : s'.links = s.links
  others : ∀ j, j ≠ id → (getConn s' j).map Conn.view = (getConn s j).map Conn.view
  own : ∀ c, getConn s id = some c → ∃ c', getConn s' id = some c' ∧
          c'.acks.committed = c.acks.committed ++ as ∧ c'.link = c.link ∧ c'.clientId = c.clientId

theorem Appended.of_frame {s s' : RState} (h : AckFrame s s') (id : Nat) : Appended s s' id [] where
  links := h.links
  others := fun j _ => h.conns j
  own := fun c hc => by
    obtain ⟨c', h1, h2, h3, h4⟩ := h.conns.get hc
    exact ⟨c', h1, by rw [h2]; simp, h3, h4⟩

theorem Appended.trans {a b c : RState} {id : Nat} {as bs : List Ack}
    (h1 : Appended a b id as) (h2 : Appended b c id bs) : Appended a c id (as ++ bs) where
  links := h2.links.trans h1.links
  others := fun j hj => (h2.others j hj).trans (h1.others j hj)
  own := fun x hx => by
    obtain ⟨x1, g1, e1, l1, k1⟩ := h1.own x hx
    obtain ⟨x2, g2, e2, l2, k2⟩ := h2.own x1 g1
    exact ⟨x2, g2, by rw [e2, e1, List.append_assoc], l2.trans l1, k2.trans k1⟩

theorem Appended.frame_right {a b c : RState} {id : Nat} {as : List Ack}
    (h1 : Appended a b id as) (h2 : AckFrame b c) : Appended a c id as := by
  have := h1.trans (Appended.of_frame h2 id)
  simpa using this

theorem Appended.setConn {s : RState} {id : Nat} {c c' : Conn} {as : List Ack} (h : getConn s id = some c)
    (ha : c'.acks.committed = c.acks.committed ++ as) (hl : c'.link = c.link) (hk : c'.clientId = c.clientId) :
    Appended s (setConn s id c') id as where
  links := rfl
  others := fun j hj => by rw [getConn_setConn_ne _ _ _ _ hj]
  own := fun x hx => by
    rw [h] at hx; cases hx
    exact ⟨c', getConn_setConn_same _ _ _ (Slab.lt_of_get? h), ha, hl, hk⟩

theorem Appended.g {s s' : RState} {id : Nat} {as : List Ack} (h : Appended s s' id as) (e : Ghost) :
    Appended s (s'.g e) id as := ⟨h.links, h.others, h.own⟩

theorem Appended.acksOf {s s' : RState} {id : Nat} {as : List Ack} (h : Appended s s' id as) {c : Conn}
    (hc : getConn s id = some c) : acksOf s' id = some (c.acks.committed ++ as) := by
  obtain ⟨c', g, e, _, _⟩ := h.own c hc
  simp [Router.acksOf, g, e]


/-- the acks a packet makes the router register (the spec of C06's first sentence) -/
def IsReplyTo : Packet → List Ack → Prop
  | .publish p, as => as = (if p.qos = 1 then [Ack.puback p.pkid] else if p.qos = 2 then [Ack.pubrec p.pkid] else [])
  | .subscribe pkid subId fs, as => ∃ codes, as = [Ack.suback pkid codes] ∧
      (∃ k, k ≤ fs.length ∧ codes = (fs.take k).map (·.qos)) ∧
      ((subId ≠ some 0 ∧ ∀ f ∈ fs, validSubscription f.path = true) → codes = fs.map (·.qos))
  | .unsubscribe pkid fs, as => ∃ reasons, as = [Ack.unsuback pkid reasons] ∧ reasons.length = fs.length
  | .puback _, as => as = []
  | .pubrec pkid, as => as = [] ∨ as = [Ack.pubrel pkid]
  | .pubrel pkid _, as => as = [Ack.pubcomp pkid]      -- with or without MQTT 5 properties
  | .pubcomp _, as => as = []
  | .pingreq, as => as = [Ack.pingresp]
  | .disconnect, as => as = []
  | .other, as => as = []

/-- the packets whose reply is registered together with `force_ack` -/
def Packet.forcesAck : Packet → Bool
  | .publish p => p.qos = 1 || p.qos = 2
  | .subscribe .. => true
  | .unsubscribe .. => true
  | .pingreq => true
  | _ => false

inductive Replies : List Packet → List Ack → Prop
  | nil : Replies [] []
  | cons {p : Packet} {ps : List Packet} {as bs : List Ack} :
      IsReplyTo p as → Replies ps bs → Replies (p :: ps) (as ++ bs)

/-- the `committed` events of a piece of ghost history: (connection id, ack) -/
def committedEvents (g : List Ghost) : List (Nat × Ack) :=
  g.filterMap (fun e => match e with | .committed i a => some (i, a) | _ => none)

@[simp] theorem committedEvents_append (a b : List Ghost) :
    committedEvents (a ++ b) = committedEvents a ++ committedEvents b := by
  simp [committedEvents]

def Commits (s s' : RState) (cs : List (Nat × Ack)) : Prop :=
  ∃ evs, s'.ghost = s.ghost ++ evs ∧ committedEvents evs = cs

theorem Commits.refl (s : RState) : Commits s s [] := ⟨[], by simp, rfl⟩

theorem Commits.trans {a b c : RState} {x y : List (Nat × Ack)} (h1 : Commits a b x) (h2 : Commits b c y) :
    Commits a c (x ++ y) := by
  obtain ⟨e1, g1, c1⟩ := h1
  obtain ⟨e2, g2, c2⟩ := h2
  exact ⟨e1 ++ e2, by rw [g2, g1, List.append_assoc], by rw [committedEvents_append, c1, c2]⟩

theorem Commits.of_eq {s s' : RState} (h : s'.ghost = s.ghost) : Commits s s' [] := ⟨[], by simp [h], rfl⟩

theorem Commits.g_other {s : RState} (e : Ghost) (he : committedEvents [e] = []) : Commits s (s.g e) [] :=
  ⟨[e], rfl, he⟩

theorem Commits.g_commit (s : RState) (id : Nat) (a : Ack) : Commits s (s.g (.committed id a)) [(id, a)] :=
  ⟨[.committed id a], rfl, rfl⟩

theorem Commits.bookkeeping : Bookkeeping (fun s s' => Commits s s' []) where
  refl := Commits.refl
  trans := fun h1 h2 => by simpa using h1.trans h2
  of_eq := fun _ _ _ _ h => Commits.of_eq h
  setConn := fun _ _ => Commits.of_eq rfl
  subscribed := fun _ _ _ _ _ _ _ _ => Commits.g_other _ rfl
  unsubscribed := fun _ _ _ => Commits.g_other _ rfl

theorem appendToFilter_commits {s s' : RState} {i : Nat} {p : Pub} (h : appendToFilter s i p = .ok s') :
    Commits s s' [] := by
  obtain ⟨fd, evs, _, hev, rfl⟩ := appendToFilter_upd h
  exact ⟨evs, rfl, by rcases hev with rfl | rfl <;> rfl⟩

end Router
