/-
`CStep s s' add`: `s'` holds no request, window cursor, saved session or group cursor that `s` did not hold, except the
requests `add j` that connection `j` gained (`add` as in `Held`). What it says of requests is read off `Held`; what it
says of logs, windows and group cursors is `CRest`.
-/
import Proofs.Lemmas.CommitLogBridge
import Proofs.Lemmas.Router.Rp4_Held
import Proofs.Lemmas.Router.Rp3_Maps
import Proofs.Lemmas.Router.Rp5_Cursor
namespace Router
namespace Rp3
open CommitLog (SegMono)

structure CStep (s s' : RState) (add : Nat → List DataRequest) : Prop where
  mono : LogMono s.datalog s'.datalog
  req : ∀ r, allReqs s' r → allReqs s r ∨ ∃ j, r ∈ add j
  win : ∀ fi cur, allWin s' fi cur → allWin s fi cur
  grv : ∀ p ∈ s'.graveyard, p ∈ s.graveyard
  grp : ∀ p ∈ s'.shared, ∃ q ∈ s.shared, q.1 = p.1 ∧ q.2.cursor = p.2.cursor

theorem CStep.refl (s : RState) : CStep s s noRq :=
  ⟨LogMono.refl _, fun _ h => .inl h, fun _ _ h => h, fun _ h => h, fun p h => ⟨p, h, rfl, rfl⟩⟩

structure CRest (s s' : RState) : Prop where
  mono : LogMono s.datalog s'.datalog
  win : ∀ fi cur, allWin s' fi cur → allWin s fi cur
  grp : ∀ p ∈ s'.shared, ∃ q ∈ s.shared, q.1 = p.1 ∧ q.2.cursor = p.2.cursor

theorem CRest.refl (s : RState) : CRest s s := ⟨LogMono.refl _, fun _ _ h => h, fun p h => ⟨p, h, rfl, rfl⟩⟩

theorem CRest.trans {a b c : RState} (h1 : CRest a b) (h2 : CRest b c) : CRest a c :=
  ⟨h1.mono.trans h2.mono, fun fi cur h => h1.win fi cur (h2.win fi cur h), fun p h => by
    obtain ⟨q, hq, e1, e2⟩ := h2.grp p h
    obtain ⟨q', hq', e1', e2'⟩ := h1.grp q hq
    exact ⟨q', hq', e1'.trans e1, e2'.trans e2⟩⟩

theorem CStep.nn {a b c : RState} (h1 : CStep a b noRq) (h2 : CStep b c noRq) : CStep a c noRq :=
  have none : ∀ {x y : RState}, CStep x y noRq → ∀ r, allReqs y r → allReqs x r := fun h r hr =>
    (h.req r hr).elim id fun ⟨_, hj⟩ => nomatch hj
  have t := CRest.trans ⟨h1.mono, h1.win, h1.grp⟩ ⟨h2.mono, h2.win, h2.grp⟩
  ⟨t.mono, fun r hr => .inl (none h1 r (none h2 r hr)), t.win, fun p h => h1.grv p (h2.grv p h), t.grp⟩

theorem CS.step {s s' : RState} {add : Nat → List DataRequest} (h : CS s) (m : CStep s s' add)
    (hx : ∀ j, ∀ r ∈ add j, allReqs s r ∨ ReqOK s'.datalog r) : CS s' :=
  h.transfer m.mono
    (fun r hr => by
      rcases m.req r hr with h1 | ⟨j, hj⟩
      · exact .inl h1
      · exact hx j r hj)
    (fun fi cur hw => .inl (m.win fi cur hw))
    (fun p hp ss hss r hr => .inl ⟨p, m.grv p hp, ss, hss, hr⟩)
    (fun p hp => .inl (m.grp p hp))

theorem CS.step0 {s s' : RState} (h : CS s) (m : CStep s s' noRq) : CS s' := h.step m fun _ _ hx => nomatch hx


theorem allReqs_iff (s : RState) (r : DataRequest) : allReqs s r ↔ ∃ j, r ∈ held s j := by
  unfold allReqs held tracked parked
  simp only [List.mem_append, List.mem_flatMap, mem_pick]
  constructor
  · rintro (⟨id, c, hc, hm⟩ | ⟨fd, hfd, w, hw, rfl⟩ | ⟨n, hn, rfl⟩)
    · exact ⟨id, .inl (.inl (by rw [hc]; exact hm))⟩
    · exact ⟨w.1, .inl (.inr ⟨fd, hfd, hw⟩)⟩
    · exact ⟨n.1, .inr hn⟩
  · rintro ⟨j, (hm | ⟨fd, hfd, hm⟩) | hn⟩
    · cases hc : getConn s j with
      | none => rw [hc] at hm; cases hm
      | some c => rw [hc] at hm; exact .inl ⟨j, c, hc, hm⟩
    · exact .inr (.inl ⟨fd, hfd, (j, r), hm, rfl⟩)
    · exact .inr (.inr ⟨(j, r), hn, rfl⟩)

theorem _root_.Router.Held.allReqs {s s' : RState} {add rem : Nat → List DataRequest} (m : Held s s' add rem)
    (r : DataRequest) (h : allReqs s' r) : allReqs s r ∨ ∃ j, r ∈ add j := by
  obtain ⟨j, hj⟩ := (allReqs_iff s' r).mp h
  rcases List.mem_append.mp ((m.held j).mem_iff.mp (List.mem_append_left _ hj)) with h1 | h1
  · exact .inl ((allReqs_iff s r).mpr ⟨j, h1⟩)
  · exact .inr ⟨j, h1⟩

theorem CStep.of_parts {s s' : RState} {add rem : Nat → List DataRequest} (m : Held s s' add rem) (r : CRest s s') :
    CStep s s' add :=
  ⟨r.mono, m.allReqs, r.win, by rw [m.grv]; exact fun _ h => h, r.grp⟩

theorem allWin_of_set {s s' : RState} {id : Nat} {c c' : Conn} (hc : getConn s id = some c)
    (hconns : s'.conns = s.conns.set id c') {fi : Nat} {cur : Cursor} (h : allWin s' fi cur) :
    allWin s fi cur ∨ ∃ e ∈ c'.out.inflight, e.2.1 = fi ∧ e.2.2 = some cur := by
  obtain ⟨j, d, hd, e, he, rest⟩ := h
  rw [getConn_of_set hc hconns] at hd
  by_cases hj : j = id
  · simp only [hj, if_true, Option.some.injEq] at hd; subst hd; exact .inr ⟨e, he, rest⟩
  · simp only [hj, if_false] at hd; exact .inl ⟨j, d, hd, e, he, rest⟩

theorem allWin_of_conns {s s' : RState} (hc : s'.conns = s.conns) {fi : Nat} {cur : Cursor} (h : allWin s' fi cur) :
    allWin s fi cur := by
  obtain ⟨j, d, hd, rest⟩ := h
  exact ⟨j, d, by rw [← getConn_congr hc j]; exact hd, rest⟩

theorem CRest.set_conn {s s' : RState} {id : Nat} {c c' : Conn} (hc : getConn s id = some c)
    (hconns : s'.conns = s.conns.set id c')
    (hw : ∀ e ∈ c'.out.inflight, ∀ cur, e.2.2 = some cur → ∃ e0 ∈ c.out.inflight, e0.2.1 = e.2.1 ∧ e0.2.2 = some cur)
    (hl : s'.datalog.native.map (·.log) = s.datalog.native.map (·.log))
    (hf : s'.datalog.filterIndexes = s.datalog.filterIndexes) (hs : s'.shared = s.shared) : CRest s s' := by
  refine ⟨LogMono.of_eq hl hf, fun fi cur h => ?_, by rw [hs]; exact fun p h => ⟨p, h, rfl, rfl⟩⟩
  rcases allWin_of_set hc hconns h with h | ⟨e, he, h1, h2⟩
  · exact h
  · obtain ⟨e0, he0, a, b⟩ := hw e he cur h2
    exact ⟨id, c, hc, e0, he0, a.trans h1, b⟩

theorem CRest.of_conns {s s' : RState} (hc : s'.conns = s.conns)
    (hl : s'.datalog.native.map (·.log) = s.datalog.native.map (·.log))
    (hf : s'.datalog.filterIndexes = s.datalog.filterIndexes) (hs : s'.shared = s.shared) : CRest s s' :=
  ⟨LogMono.of_eq hl hf, fun _ _ => allWin_of_conns hc, by rw [hs]; exact fun p h => ⟨p, h, rfl, rfl⟩⟩

theorem CRest.connClosed : ConnClosed CRest where
  refl := CRest.refl
  trans := CRest.trans
  of_rest hc hk := by
    simp only [reqKey, Prod.mk.injEq] at hk
    exact CRest.of_conns hc (by rw [hk.1]) hk.2.1 hk.2.2.2.2.1
  of_set hc hconns _ _ hw hk := by
    simp only [reqKey, Prod.mk.injEq] at hk
    exact CRest.set_conn hc hconns (fun e he _ h => ⟨e, hw e he, rfl, h⟩) (by rw [hk.1]) hk.2.1 hk.2.2.2.2.1

theorem drainNotifications_crest (ns : List (Nat × DataRequest)) {s s' : RState} (h : drainNotifications s ns = .ok s') :
    CRest s s' :=
  drainNotifications_rel CRest CRest.refl (fun _ _ _ => CRest.trans)
    (fun _ _ _ _ h => by
      obtain ⟨c, hc, rfl⟩ := track_upd h
      exact CRest.set_conn (c' := { c with tracker := _ }) hc rfl (fun e he _ h => ⟨e, he, rfl, h⟩) rfl rfl rfl)
    (fun _ _ _ => CRest.connClosed.reschedule) ns h

theorem CRest.closed : ReqClosed CRest where
  toConnClosed := CRest.connClosed
  wake {s _ i fd} hfd h :=
    (CRest.of_conns (s := s) (s' := clearWaiters s i fd) rfl (map_set_same hfd rfl) rfl rfl).trans
      (drainNotifications_crest _ h)
  drain {s _} h :=
    (CRest.of_conns (s := s) (s' := { s with notifications := [] }) rfl rfl rfl rfl).trans (drainNotifications_crest _ h)

theorem CStep.closed : ReqClosed (fun s s' => CStep s s' noRq) :=
  (Held.closed.toReqClosed.and CRest.closed).mono CStep.refl CStep.nn fun h => CStep.of_parts h.1 h.2

theorem CStep.connClosed : ConnClosed (fun s s' => CStep s s' noRq) := CStep.closed.toConnClosed

theorem trackv_cstep {s s' : RState} {id : Nat} {rs : List DataRequest} (h : trackv s id rs = .ok s') :
    CStep s s' (oneRq id rs) := by
  have m := trackv_held h
  obtain ⟨c, hc, rfl⟩ := trackv_upd h
  exact CStep.of_parts m (CRest.set_conn (c' := { c with tracker := _ }) hc rfl (fun e he _ h => ⟨e, he, rfl, h⟩) rfl rfl rfl)

theorem park_cstep {s s' : RState} {id : Nat} {r : DataRequest} (h : park s id r = .ok s') :
    CStep s s' (oneRq id [r]) := by
  have m := park_held h
  obtain ⟨fd, hfd, rfl⟩ := park_upd h
  exact CStep.of_parts m (CRest.of_conns rfl (map_set_same hfd rfl) rfl rfl)

/-- an append keeps issued cursors issued because the log it extends is well formed: along the publish path the relation
    carries `LogsOK` -/
def LogsStep (s s' : RState) : Prop := LogsOK s.datalog → LogsOK s'.datalog ∧ CStep s s' noRq

theorem LogsStep.of {s s' : RState} (m : CStep s s' noRq)
    (e : s'.datalog.native.map (·.log) = s.datalog.native.map (·.log)) : LogsStep s s' :=
  fun hl => ⟨fun l h => hl l (e ▸ h), m⟩

theorem appendToFilter_logsStep {s s' : RState} {idx : Nat} {p : Pub} (h : appendToFilter s idx p = .ok s') : LogsStep s s' := by
  intro hl
  obtain ⟨fd, _, hfd, _, e⟩ := appendToFilter_upd h
  obtain ⟨hc, hnat, hf, hn, hg, hs⟩ : s'.conns = s.conns ∧
      s'.datalog.native = s.datalog.native.set idx { fd with log := (fd.log.append p (pubSize p)).1, waiters := [] } ∧
      s'.datalog.filterIndexes = s.datalog.filterIndexes ∧ s'.notifications = s.notifications ++ fd.waiters ∧
      s'.graveyard = s.graveyard ∧ s'.shared = s.shared := by subst e; exact ⟨rfl, rfl, rfl, rfl, rfl, rfl⟩
  obtain ⟨hist, hrep⟩ := hl fd.log (List.mem_map.mpr ⟨fd, List.mem_of_getElem? hfd, rfl⟩)
  obtain ⟨hrep', hmm, _⟩ := CommitLog.clog_append fd.log hist hrep p (pubSize p)
  have hlt : idx < s.datalog.native.length := (List.getElem?_eq_some_iff.mp hfd).1
  constructor
  · intro l hl'
    rw [hnat] at hl'
    obtain ⟨fd0, hfd0, rfl⟩ := List.mem_map.mp hl'
    rcases List.mem_or_eq_of_mem_set hfd0 with hm | rfl
    · exact hl _ (List.mem_map_of_mem hm)
    · exact ⟨_, hrep'⟩
  · have hm : LogMono s.datalog s'.datalog := by
      refine ⟨fun i fd0 h0 => ?_, fun f i h0 => by rw [filterIdx?_congr hf]; exact h0⟩
      rw [hnat, List.getElem?_set]
      by_cases e : idx = i
      · subst e
        rw [hfd] at h0; cases h0
        refine ⟨{ fd with log := (fd.log.append p (pubSize p)).1, waiters := [] }, by simp [hlt], hmm, ?_⟩
        rw [hrep.nextAbs_eq, hrep'.nextAbs_eq]; simp
      · simp only [e, if_false]; exact ⟨fd0, h0, SegMono.refl _, Nat.le_refl _⟩
    exact CStep.of_parts (appendToFilter_held h) ⟨hm, fun _ _ => allWin_of_conns hc, by rw [hs]; exact fun p h => ⟨p, h, rfl, rfl⟩⟩

theorem LogsStep.closed : PubClosed LogsStep where
  refl s := fun hl => ⟨hl, CStep.refl s⟩
  trans h1 h2 := fun hl => ⟨(h2 (h1 hl).1).1, (h1 hl).2.nn (h2 (h1 hl).1).2⟩
  of_rest hc hk := LogsStep.of (CStep.connClosed.of_rest hc hk) (by rw [reqKey_native hk])
  of_set hc hconns hr hsub hw hk :=
    LogsStep.of (CStep.connClosed.of_set hc hconns hr hsub hw hk) (by rw [reqKey_native hk])
  wake hfd h := LogsStep.of (CStep.closed.wake hfd h) ((congrArg _ (drainNotifications_native _ h)).trans (map_set_same hfd rfl))
  drain {s _} h := LogsStep.of (CStep.closed.drain h) (congrArg _ (drainNotifications_native (s := { s with notifications := [] }) _ h))
  append := appendToFilter_logsStep

end Rp3
end Router
