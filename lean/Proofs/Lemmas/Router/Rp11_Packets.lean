/-
`AIx` through the packets; the excuse inside a batch is `FlagsOwe`.
-/
import Proofs.Lemmas.Router.Rp11_Acks
namespace Router

theorem prepareFilter_arel {s s' : RState} {id : Nat} {cursor : Cursor} {idx : Nat} {f : SubFilter}
    {group : Option String} {subId : Option Nat} (h : prepareFilter s id cursor idx f group subId = .ok s') : ARel s s' := by
  obtain ⟨c, hc, ⟨_, rfl⟩ | ⟨_, s3, h3, h4⟩⟩ := Walk.prepareFilter_cases h
  · exact ARel.of_set (s := s) (c' := pfConn c f.path subId) hc rfl (by cases subId <;> exact AKeep.refl c)
  · have a : ARel s (setConn ((pfState s id cursor f.path group c.clientId).g
        (.subscribed id f.path f.qos idx cursor group true)) id
        { pfConn c f.path subId with subscriptions := c.subscriptions ++ [f.path] }) :=
      ARel.of_set (s := s) (c' := { pfConn c f.path subId with subscriptions := c.subscriptions ++ [f.path] })
        hc rfl (by cases subId <;> exact ⟨fun h => h, fun h => h⟩)
    exact (a.trans (ARel.sched.track h3)).trans (ARel.sched.reschedule h4)

theorem subscribeFilters_arel {id : Nat} {subId : Option Nat} (fs : List SubFilter) {s s' : RState}
    {codes codes' : List Nat} {fl fl' : Flags} (h : subscribeFilters s id subId fs codes fl = .ok (s', codes', fl')) : ARel s s' :=
  Walk.subscribeFilters_inv (I := ARel s)
    (fun m h1 => (m.trans (ARel.sweep.nextNativeOffset _ _)).trans (prepareFilter_arel h1)) fs (ARel.refl s) h

theorem ufState_arel {s : RState} {id : Nat} {ids : List Nat} {c : Conn} {f : String} (hc : getConn s id = some c) :
    ARel s (ufState s id ids c f) :=
  ARel.of_set (c' := ufConn s.datalog c f) hc rfl ⟨fun h => h, fun h => h⟩

theorem unsubscribeFilters_arel {id : Nat} (fs : List String) {s s' : RState} {rs rs' : List Bool}
    (h : unsubscribeFilters s id fs rs = .ok (s', rs')) : ARel s s' :=
  Walk.unsubscribeFilters_inv (I := ARel s) (fun _ _ m => m.trans (ARel.of_conns rfl))
    (fun _ m hc => m.trans (ufState_arel hc)) fs (ARel.refl s) h

/-- the excuse inside a batch: a reschedule for the committed replies, or the disconnection, is still to come -/
def FlagsOwe (fl : Flags) : Prop := fl.forceAck = true ∨ fl.disconnect = true

theorem commitAck_aix {s s' : RState} {id : Nat} {a : Ack} {P : Prop} (h : AIx s id P) (hp : P)
    (hc : commitAck s id a = .ok s') : AIx s' id P := by
  obtain ⟨c, hcn, rfl⟩ := commitAck_upd hc
  have a1 : AIx (setConn s id { c with acks := { c.acks with committed := c.acks.committed ++ [a] } }) id P :=
    h.set hcn rfl fun _ => .inr ⟨rfl, hp⟩
  exact a1.rel (ARel.of_conns rfl)

theorem FlagsOwe.append {fl : Flags} (e : Option AppendErr) (h : FlagsOwe fl) : FlagsOwe (appendFlags fl e) := by
  rcases e with _ | _ | _
  · exact h
  · exact .inr rfl
  · exact .inr rfl

theorem handlePacket_aix {s s' : RState} {id : Nat} {cid : String} {pkt : Packet} {fl fl' : Flags}
    (h : AIx s id (FlagsOwe fl)) (hp : handlePacket s id cid pkt fl = .ok (s', fl')) :
    AIx s' id (FlagsOwe fl') := by
  cases packet_cases hp with
  | pub1 _ h1 h2 e =>
    subst e
    exact ((commitAck_aix (h.weaken fun _ => .inl rfl) (.inl rfl) h1).rel (ARel.sweep.appendToCommitlog h2)).weaken
      (FlagsOwe.append _)
  | pub2 _ hc e1 e2 =>
    subst e1 e2
    exact (h.weaken fun _ => .inl rfl).set hc rfl fun _ => .inr ⟨rfl, .inl rfl⟩
  | pub0 _ _ h2 e => subst e; exact (h.rel (ARel.sweep.appendToCommitlog h2)).weaken (FlagsOwe.append _)
  | subscribe h1 h2 e =>
    subst e
    have a := subscribeFilters_arel _ h1
    exact commitAck_aix ((h.rel a).weaken fun _ => .inl rfl) (.inl rfl) h2
  | unsubscribe h1 h2 e =>
    subst e
    exact commitAck_aix ((h.rel (unsubscribeFilters_arel _ h1)).weaken fun _ => .inl rfl) (.inl rfl) h2
  | ping h1 e => subst e; exact commitAck_aix (h.weaken fun _ => .inl rfl) (.inl rfl) h1
  | @pubackBad pkid c hc _ e1 e2 | @pubrecBad pkid c hc _ e1 e2 =>
    subst e1 e2
    exact (h.rel (ARel.of_set (c' := { c with out := (c.out.registerAck pkid).1 }) hc rfl ⟨fun h => h, fun h => h⟩)).weaken
      fun _ => .inr rfl
  | @pubackOk pkid c hc _ h2 e =>
    subst e
    refine h.rel (ARel.trans ?_ (ARel.sched.reschedule h2))
    exact ARel.of_set (c' := { c with out := (c.out.registerAck pkid).1 }) hc rfl ⟨fun h => h, fun h => h⟩
  | pubrecOk hc _ h2 e =>
    -- PUBREL is committed and the connection rescheduled for the incoming ack at once
    subst e
    refine (reschedule_discharges (P := True) ?_ h2 (.inr (.inr rfl))).toX _ _
    exact (h.weaken fun _ => trivial).set hc rfl fun _ => .inr ⟨rfl, trivial⟩
  | pubrelNone hc _ e1 e2 =>
    subst e1 e2
    exact (h.weaken fun _ => .inr rfl).set hc rfl fun _ => .inr ⟨rfl, .inr rfl⟩
  | pubrelErr hc _ h2 _ e =>
    subst e
    refine (AIx.rel (P := True) ?_ (ARel.sweep.appendToCommitlog h2)).weaken fun _ => .inr rfl
    exact (h.weaken fun _ => trivial).set hc rfl fun _ => .inr ⟨rfl, trivial⟩
  | pubrelOk hc _ h2 h3 e =>
    subst e
    refine (reschedule_discharges (AIx.rel (P := True) ?_ (ARel.sweep.appendToCommitlog h2)) h3 (.inr (.inr rfl))).toX _ _
    exact (h.weaken fun _ => trivial).set hc rfl fun _ => .inr ⟨rfl, trivial⟩
  | @pubcomp pkid c hc e1 e2 =>
    subst e1
    have a : AIx (setConn s id { c with out := (c.out.registerPubcomp pkid).1 }) id (FlagsOwe fl) :=
      h.rel (ARel.of_set (c' := { c with out := (c.out.registerPubcomp pkid).1 }) hc rfl ⟨fun h => h, fun h => h⟩)
    rcases e2 with ⟨_, rfl⟩ | ⟨_, rfl⟩
    · exact a.weaken fun _ => .inr rfl
    · exact a
  | disconnect e1 e2 => subst e1 e2; exact (h.rel (ARel.of_conns rfl)).weaken fun _ => .inr rfl
  | other e1 e2 => subst e1 e2; exact h

theorem handlePackets_aix {id : Nat} {cid : String} (ps : List Packet) {s s' : RState} {fl fl' : Flags} :
    AIx s id (FlagsOwe fl) → handlePackets s id cid ps fl = .ok (s', fl') → AIx s' id (FlagsOwe fl') :=
  Walk.handlePackets_inv (I := fun s fl => AIx s id (FlagsOwe fl)) handlePacket_aix ps

end Router
