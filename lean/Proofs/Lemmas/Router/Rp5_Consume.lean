/-
`CS` through `consume`, the packets, and `handle_disconnection`.
-/
import Proofs.Lemmas.Router.Rp3_Session
import Proofs.Lemmas.Router.Rp5_Subs
import Proofs.Lemmas.Router.Rp5_Sweep
namespace Router
namespace Rp3

theorem NoOverflow.of_dkey {s s' : RState} (h : NoOverflow s) (e : dkey s' = dkey s) : NoOverflow s' := by
  intro fd' hfd' hist hrep
  simp only [dkey, Prod.mk.injEq] at e
  obtain ⟨_, e2, _, _, e5⟩ := e
  have : fd'.log ∈ s.datalog.native.map (·.log) := by rw [← e2]; exact List.mem_map_of_mem hfd'
  obtain ⟨fd, hfd, el⟩ := List.mem_map.mp this
  rw [e5]
  exact h fd hfd hist (by rw [el]; exact hrep)

/-- what the request loop of `consume` carries: besides `CS` of the state, soundness of the requests the loop holds
    outside it -/
def LoopCS (s : RState) (l : List DataRequest) : Prop :=
  DLInv s ∧ NoOverflow s ∧ CS s ∧ ∀ r ∈ l, ReqOK s.datalog r

theorem LoopCS.perm {s : RState} {l l' : List DataRequest} (hp : l'.Perm l) (h : LoopCS s l) : LoopCS s l' :=
  ⟨h.1, h.2.1, h.2.2.1, fun r hr => h.2.2.2 r (hp.mem_iff.mp hr)⟩

theorem LoopCS.pause {id : Nat} {s s' : RState} {r : PauseReason} {l : List DataRequest} (hp : pause s id r = .ok s')
    (h : LoopCS s l) : LoopCS s' l :=
  have m := CStep.connClosed.pause hp
  have hk := dkeyFrame.pause hp
  ⟨h.1.of_dkey hk, h.2.1.of_dkey hk, h.2.2.1.step0 m, fun r hr => (h.2.2.2 r hr).mono m.mono⟩

theorem LoopCS.sweep {id : Nat} {s s1 : RState} {req req1 : DataRequest} {st : ConsumeStatus} {l : List DataRequest}
    (h1 : forwardDeviceData s id req = .ok (s1, req1, st)) (h : LoopCS s (req :: l)) :
    LoopCS (noteTurn s s1 req1) (req1 :: l) := by
  obtain ⟨hi, hno, hcs, hl⟩ := h
  obtain ⟨hs1, hr1⟩ := forwardDeviceData_cs hi hcs hno (hl req (by simp)) h1
  have hk1 := dkeyFrame.forwardDeviceData h1
  have hk2 : dkey (noteTurn s s1 req1) = dkey s := (dkeyFrame.noteTurn s s1 req1).trans hk1
  have hd2 : (noteTurn s s1 req1).datalog = s1.datalog := by
    obtain ⟨tm, e⟩ := noteTurn_upd s s1 req1; rw [e]
  refine ⟨hi.of_dkey hk2, hno.of_dkey hk2, hs1.step0 (CStep.closed.noteTurn s s1 req1), fun r hr => ?_⟩
  rw [hd2]
  rcases List.mem_cons.mp hr with rfl | hr
  · exact hr1
  · exact (hl r (List.mem_cons_of_mem _ hr)).mono (LogMono.of_dkey hk1)

theorem LoopCS.park {id : Nat} {s s' : RState} {req : DataRequest} {l : List DataRequest} (h3 : park s id req = .ok s')
    (h : LoopCS s (req :: l)) : LoopCS s' l :=
  have m := park_cstep h3
  have hk := dkeyFrame.park h3
  ⟨h.1.of_dkey hk, h.2.1.of_dkey hk,
   h.2.2.1.step m fun j r hr => .inr (by
    unfold oneRq at hr; split at hr
    · cases List.eq_of_mem_singleton hr; exact (h.2.2.2 _ (by simp)).mono m.mono
    · cases hr),
   fun r hr => (h.2.2.2 r (List.mem_cons_of_mem _ hr)).mono m.mono⟩

theorem LoopCS.trackv {id : Nat} {s s' : RState} {l : List DataRequest} (ht : trackv s id l = .ok s')
    (h : LoopCS s l) : CS s' :=
  have m := trackv_cstep ht
  h.2.2.1.step m fun j r hr => .inr (by
    unfold oneRq at hr; split at hr
    · exact (h.2.2.2 r hr).mono m.mono
    · cases hr)

theorem consumeLoop_cs {id : Nat} (fuel : Nat) {s s' : RState} {requests skipped : List DataRequest}
    (h : LoopCS s (requests ++ skipped)) (hc : consumeLoop s id fuel requests skipped = .ok s') : CS s' :=
  have ⟨_, _, h0, ht⟩ := consumeLoop_inv (P := LoopCS) LoopCS.perm LoopCS.pause LoopCS.sweep
    (fun h1 h3 h => (h.sweep h1).park h3) fuel hc h
  h0.trackv ht

theorem consume_loopCS {s : RState} {id : Nat} {c : Conn} (rq : List Nat) (hi : DLInv s) (hno : NoOverflow s) (h : CS s)
    (hcn : getConn s id = some c) :
    LoopCS (ackDeviceData (Walk.takeRequests s id c rq) id) c.tracker.requests ∧
    dkey (ackDeviceData (Walk.takeRequests s id c rq) id) = dkey s := by
  -- the tracked requests leave the state (the loop holds them); nothing is gained
  have a : CStep s (Walk.takeRequests s id c rq) noRq :=
    CStep.of_parts
      ((Held.tracker_set (s' := Walk.takeRequests s id c rq) (c' := { c with tracker := { c.tracker with requests := [] } })
        hcn rfl rfl rfl rfl rfl rfl rfl).reshape
        (a' := noRq) (r' := oneRq id c.tracker.requests) fun j => by unfold oneRq noRq; split <;> exact .refl _)
      (CRest.set_conn (c' := { c with tracker := { c.tracker with requests := [] } }) hcn rfl
        (fun e he _ h => ⟨e, he, rfl, h⟩) rfl rfl rfl)
  have m := a.nn (CStep.closed.ackDeviceData _ id)
  have hk : dkey (ackDeviceData (Walk.takeRequests s id c rq) id) = dkey s := by rw [dkeyFrame.ackDeviceData]; rfl
  exact ⟨⟨hi.of_dkey hk, hno.of_dkey hk, h.step0 m, fun r hr => (h.req r (.inl ⟨id, c, hcn, hr⟩)).mono m.mono⟩, hk⟩

theorem consume_cs {s s' : RState} {b : Bool} (hi : DLInv s) (hno : NoOverflow s) (h : CS s)
    (hc : consume s = .ok (s', b)) : CS s' := by
  rcases Walk.consume_cases hc with ⟨_, _, rfl⟩ | ⟨id, rq, c, s1, _, hcn, _, h1, h2⟩
  · exact h.step0 (CStep.connClosed.of_rest rfl rfl)
  · exact (consumeLoop_cs _ (by simpa using (consume_loopCS rq hi hno h hcn).1) h1).step0 (CStep.closed.wakeTurnMoved h2)

theorem handlePacket_mono {s s' : RState} {id : Nat} {cid : String} {pkt : Packet} {fl fl' : Flags}
    (hi : DLInv s) (hp : handlePacket s id cid pkt fl = .ok (s', fl')) : LogMono s.datalog s'.datalog := by
  rcases LogsStep.closed.handlePacket_cases hp with ⟨_, _, filters, s1, _, _, rfl, h1, h2⟩ | ⟨_, filters, s1, _, rfl, h1, h2⟩ | m
  · exact (subscribeFilters_mono filters h1).trans (CStep.connClosed.commitAck h2).mono
  · exact ((unsubscribeFilters_cstep filters h1).nn (CStep.connClosed.commitAck h2)).mono
  · exact (m hi.logs).2.mono

theorem handlePacket_cs {s s' : RState} {id : Nat} {cid : String} {pkt : Packet} {fl fl' : Flags}
    (hi : DLInv s) (h : CS s) (hp : handlePacket s id cid pkt fl = .ok (s', fl')) : CS s' := by
  rcases LogsStep.closed.handlePacket_cases hp with ⟨_, _, filters, s1, _, _, rfl, h1, h2⟩ | ⟨_, filters, s1, _, rfl, h1, h2⟩ | m
  · exact (subscribeFilters_cs filters hi h h1).step0 (CStep.connClosed.commitAck h2)
  · exact h.step0 ((unsubscribeFilters_cstep filters h1).nn (CStep.connClosed.commitAck h2))
  · exact h.step0 (m hi.logs).2

theorem handlePackets_cs {id : Nat} {cid : String} (ps : List Packet) {s s' : RState} {fl fl' : Flags}
    (hi : DLInv s) (h : CS s) (hp : handlePackets s id cid ps fl = .ok (s', fl')) : CS s' :=
  (Walk.handlePackets_inv (I := fun t _ => DLInv t ∧ CS t)
    (fun a h1 => ⟨handlePacket_inv a.1 h1, handlePacket_cs a.1 a.2 h1⟩) ps ⟨hi, h⟩ hp).2

theorem handlePackets_mono {id : Nat} {cid : String} (ps : List Packet) {s s' : RState} {fl fl' : Flags}
    (hi : DLInv s) (hp : handlePackets s id cid ps fl = .ok (s', fl')) : LogMono s.datalog s'.datalog :=
  (Walk.handlePackets_inv (I := fun t _ => DLInv t ∧ LogMono s.datalog t.datalog)
    (fun a h1 => ⟨handlePacket_inv a.1 h1, a.2.trans (handlePacket_mono a.1 h1)⟩) ps ⟨hi, LogMono.refl _⟩ hp).2


theorem rewindOne_ok {s : RState} (h : CS s) {id : Nat} {c : Conn} (hc : getConn s id = some c) {r : DataRequest}
    (hr : ReqOK s.datalog r) : ReqOK s.datalog (rewindOne (retransmissionMap c.out.inflight []) r) := by
  unfold rewindOne
  cases hl : nlookup r.filterIdx (retransmissionMap c.out.inflight []) with
  | none => exact hr
  | some cur =>
    rcases retransmissionMap_mem _ _ _ _ hl with h0 | ⟨e, he, e1, e2⟩
    · simp [nlookup] at h0
    · exact ⟨h.win r.filterIdx cur ⟨id, c, hc, e, he, e1, e2⟩, hr.2⟩

/-- the saved requests continue at their group's cursor and are rewound to window cursors, all issued for the request's
    log; a group whose member left is moved to such a window cursor at most -/
theorem handleDisconnection_cs {s s' : RState} {id : Nat} {r : Option String} (h : CS s)
    (hd : handleDisconnection s id r = .ok s') : CS s' := by
  rcases handleDisconnection_cases hd with ⟨_, rfl⟩ | ⟨c, hc, hd⟩
  · exact h
  · refine CS.step0 ?_ (CStep.closed.wakeParked hd)
    have hF := hdFinal_fields s id c r
    have hget := hdFinal_getConn s id c r
    obtain ⟨hp1, hp2⟩ := hdFinal_held hc r
    have hsrc : ∀ q ∈ c.tracker.requests ++ (datalogClean s.datalog id).2, ReqOK s.datalog q := fun q hq =>
      h.req q ((allReqs_iff s q).mpr ⟨id, List.mem_append_left _ (hp2.mem_iff.mp hq)⟩)
    have hm : LogMono s.datalog (hdFinal s id c r).datalog := by
      rw [hF.datalog, datalogClean_map]
      refine LogMono.of_eq ?_ rfl
      simp [Function.comp_def, dropWaiters]
    refine h.transfer hm (fun q hq => .inl ?_) (fun fi cur hw => .inl ?_) (fun p hp ss hss q hq => ?_) (fun p hp => ?_)
    · obtain ⟨j, hj⟩ := (allReqs_iff _ q).mp hq
      have := (hp1 j).mem_iff.mp hj
      refine (allReqs_iff s q).mpr ⟨j, ?_⟩
      split at this
      · rename_i e; exact List.mem_append_right _ (e ▸ this)
      · exact this
    · obtain ⟨j, d, hd', rest⟩ := hw
      rw [hget] at hd'
      by_cases hj : j = id
      · simp [hj] at hd'
      · simp only [hj, if_false] at hd'; exact ⟨j, d, hd', rest⟩
    · rw [hF.graveyard] at hp
      refine forall_saved (P := fun ss => ∀ q ∈ ss.tracker.requests,
          (∃ p0 ∈ s.graveyard, ∃ ss0, p0.2 = some ss0 ∧ q ∈ ss0.tracker.requests) ∨ ReqOK (hdFinal s id c r).datalog q) s id c
        (fun p hp ss hss q hq => .inl ⟨p, hp, ss, hss, hq⟩) (fun _ q hq => ?_) p hp ss hss q hq
      rw [hdSavedOf_reqs] at hq
      obtain ⟨q1, hq1, rfl⟩ := List.mem_map.mp hq
      obtain ⟨q0, hq0, rfl⟩ := List.mem_map.mp hq1
      exact .inr ((rewindOne_ok h hc (atGroupCursor_ok h (hsrc q0 hq0))).mono hm)
    · rw [hF.shared] at hp
      cases hcl : c.clean with
      | true =>
        simp only [hcl, Bool.not_true, Bool.false_eq_true, if_false] at hp
        exact .inl (removeFromGroups_mem hp)
      | false =>
        simp only [hcl, Bool.not_false, if_true] at hp
        rcases rewindRequests_shared _ _ _ _ p hp with ⟨q, hq, e1, e2⟩ | ⟨q, hq, hg, hl⟩
        · obtain ⟨q', hq', e1', e2'⟩ := removeFromGroups_mem hq
          exact .inl ⟨q', hq', e1'.trans e1, e2'.trans e2⟩
        · obtain ⟨q0, hq0, rfl⟩ := List.mem_map.mp hq
          have hok := atGroupCursor_ok h (hsrc q0 hq0)
          rcases retransmissionMap_mem _ _ _ _ hl with h0 | ⟨e, he, e1, e2⟩
          · simp [nlookup] at h0
          · refine .inr ⟨(atGroupCursor s.shared q0).filterIdx, hm.fi _ _ (hok.2 p.1 hg), ?_⟩
            exact (h.win _ _ ⟨id, c, hc, e, he, e1, e2⟩).mono hm

end Rp3
end Router
