/-
`Hist` across every function of the model, up to `step`. All are `Boring` but three: CONNECT may set a will, a fired
will is accepted and appended, a batch of packets (`handlePackets_did`).
-/
import Proofs.Lemmas.Router.Base.Connect
import Proofs.Lemmas.Router.Base.Sweep
import Proofs.Lemmas.Router.Rp2_Payload
namespace Router

theorem forwardDeviceData_boring {s s' : RState} {id : Nat} {req req' : DataRequest} {st : ConsumeStatus}
    (h : forwardDeviceData s id req = .ok (s', req', st)) : Boring s s' := by
  obtain ⟨c, _, ⟨o, rfl⟩ | ⟨r, pubs, ls, sh, o, rfl⟩⟩ := forwardDeviceData_upd h <;> exact Boring.of_eq rfl rfl rfl

theorem ackDeviceData_boring (s : RState) (id : Nat) : Boring s (ackDeviceData s id) := by
  rcases ackDeviceData_upd s id with e | ⟨c, ls, _, e⟩ <;> rw [e]
  · exact Boring.refl s
  · exact Boring.of_eq rfl rfl rfl

theorem consume_boring {s s' : RState} {b : Bool} (h : consume s = .ok (s', b)) : Boring s s' := by
  rcases Walk.consume_cases h with ⟨_, _, rfl⟩ | ⟨id, rq, c, s1, _, _, _, h1, h2⟩
  · exact Boring.of_eq rfl rfl rfl
  · have b0 : Boring s (Walk.takeRequests s id c rq) := Boring.of_eq rfl rfl rfl
    refine ((b0.trans (ackDeviceData_boring _ id)).trans ?_).trans (Boring.bookkeeping.wakeTurnMoved h2)
    exact consumeLoop_rel (id := id) Boring Boring.refl (fun _ _ _ => Boring.trans)
      (fun _ _ _ _ _ hf => (forwardDeviceData_boring hf).trans (Boring.bookkeeping.noteTurn ..))
      (fun _ _ _ => Boring.bookkeeping.park) (fun _ _ hs => Boring.bookkeeping.sched hs) _ h1

theorem handleShadow_boring {s s' : RState} {id : Nat} {f : String} (h : handleShadow s id f = .ok s') :
    Boring s s' := by
  obtain ⟨ls, e⟩ := handleShadow_upd s id f
  rw [e] at h; cases h; exact Boring.of_eq rfl rfl rfl

theorem handleDevicePayload_hist {s s' : RState} {id : Nat} (h : handleDevicePayload s id = .ok s') : Hist s s' := by
  cases hc : getConn s id with
  | none => rw [handleDevicePayload_none hc] at h; cases h; exact Hist.refl _
  | some c =>
    obtain ⟨s1, fl, s2, s3, s4, hpk, h2, h3, h4, h5⟩ := handleDevicePayload_phases hc h
    have a4 : Boring s4 s' := by
      split at h5
      · exact handleDisconnection_boring h5
      · simp only [Except.ok.injEq] at h5; subst h5; exact Boring.refl _
    obtain ⟨_, _, _, _, w, _⟩ := handlePackets_did id c.clientId _ hpk
    exact ((Hist.of_boring (setLink_boring s c.link _)).trans w.hist).trans
      (Hist.of_boring ((payloadTail_walk Boring.bookkeeping h2 h3 h4).trans a4))


theorem stored_ainsert (lw : List (String × Will)) (cid : String) (w : Will) (c' : String) :
    stored (ainsert cid w lw) c' = if c' = cid then 1 else stored lw c' := by
  unfold stored
  by_cases h : c' = cid
  · subst h; rw [alookup_ainsert_same]; simp
  · rw [alookup_ainsert_ne _ _ _ _ h]; simp [h]

theorem hnGhost_loud (s : RState) (spec : ConnectSpec) :
    (hnGhost s spec).filter Ghost.loud = if spec.will.isSome then [.willSet spec.clientId] else [] := by
  have hc : ∀ (l : List Ack) (k : Nat), (l.map (Ghost.committed k)).filter Ghost.loud = [] := fun l k => by
    rw [List.filter_eq_nil_iff]; intro e he; obtain ⟨a, _, rfl⟩ := List.mem_map.mp he; simp [Ghost.loud]
  unfold hnGhost
  simp only [List.filter_append, hc]
  cases spec.will <;> cases (hnRestored s spec).isSome <;> rfl

theorem hnPre_hist (s : RState) (spec : ConnectSpec) : Hist s (hnPre s spec) := by
  obtain ⟨la, lb, lc⟩ := loud_filter (hnGhost s spec)
  rw [hnGhost_loud] at la lb lc
  refine Hist.of_wills (hnGhost s spec) rfl rfl ?_ ?_ fun cid => ?_
  · rw [la]; split <;> exact nofun
  · rw [lb]; split <;> rfl
  · rw [(lc cid).1, (lc cid).2]
    show _ + stored (match spec.will with | some w => ainsert spec.clientId w s.lastWills | none => s.lastWills) cid ≤ _
    cases spec.will with
    | none => exact Nat.le_refl _
    | some w =>
      simp only [Option.isSome_some, if_true, stored_ainsert]
      by_cases e : cid = spec.clientId
      · subst e; simp [firedCount, setCount]
      · have e' : ¬ spec.clientId = cid := fun x => e x.symm
        simp [firedCount, setCount, e, e']

theorem handleNewConnection_hist {s s' : RState} {spec : ConnectSpec} (h : handleNewConnection s spec = .ok s') :
    Hist s s' :=
  handleNewConnection_rel (I := Boring s) (J := Hist s) (setLink_boring s spec.link {})
    (fun _ hd => (setLink_boring s spec.link {}).trans (handleDisconnection_boring hd))
    (fun b => Hist.of_boring (b.g rfl))
    (fun {s1} b _ _ hr => ((Hist.of_boring b).trans (hnPre_hist s1 spec)).trans
      (Hist.of_boring (Boring.bookkeeping.reschedule hr))) h

theorem handleLastWill_hist {s s' : RState} {cid : String} (h : handleLastWill s cid = .ok s') : Hist s s' :=
  handleLastWill_rel Hist Hist.refl (fun _ _ _ => Hist.trans)
    (fun w hw => Hist.of_wills [.willFired cid] rfl rfl nofun rfl fun c' => by
      -- the fired will was stored: one will fewer for `cid`, at most as many for the others
      show firedCount c' [.willFired cid] + stored (aremove cid s.lastWills) c' ≤
        setCount c' [.willFired cid] + stored s.lastWills c'
      by_cases hc : c' = cid
      · subst hc
        have h1 : stored (aremove c' s.lastWills) c' = 0 := by unfold stored; rw [alookup_aremove_same]; simp
        have h2 : stored s.lastWills c' = 1 := by unfold stored; rw [hw]; simp
        simp [firedCount, setCount, h1, h2]
      · have hc' : ¬ cid = c' := fun e => hc e.symm
        simpa [firedCount, setCount, hc'] using stored_aremove_le s.lastWills cid c')
    (fun _ s1 topic _ => accept_hist s1 topic _ none)
    (fun _ _ _ _ h => Hist.of_boring (Boring.bookkeeping.dlMatches h))
    (fun _ _ _ _ _ h => appendToFilter_hist rfl h)
    (fun _ _ h => Hist.of_boring ((Boring.of_eq (by rfl) (by rfl) (by rfl)).trans (Boring.bookkeeping.drainNotifications _ h))) h

theorem step_hist {s s' : RState} {op : Op} {o : Out} (h : step s op = .ok (s', o)) : Hist s s' :=
  Walk.step_inv (I := Hist s) (Hist.refl s) (fun l b => Hist.of_boring (setLink_boring s l b))
    handleNewConnection_hist handleDevicePayload_hist (fun h => Hist.of_boring (Boring.bookkeeping.reschedule h))
    (fun h => Hist.of_boring (handleDisconnection_boring h)) handleLastWill_hist
    (fun h => Hist.of_boring (handleShadow_boring h)) (fun h => Hist.of_boring (consume_boring h)) h

end Router
