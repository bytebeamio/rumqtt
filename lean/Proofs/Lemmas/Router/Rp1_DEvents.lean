/-
Why `handle_disconnection` keeps `DInv` (given that no notification is pending): `DataLog::clean` removes every waiter
of the closed connection, the saved tracker holds valid requests and is `Paused(Busy)`, groups that lose their last
member are dropped. Then the other events (`events_good`), and `batchHasSubscribe`, which C03's statement uses.
-/
import Proofs.Lemmas.Router.Rp1_DLeaves
import Proofs.Lemmas.Router.Base.Session
namespace Router

theorem hdFinal_dinv {s : RState} {id : Nat} {r : Option String} {c : Conn} (h : DInv s)
    (hn : s.notifications = []) (hc : getConn s id = some c) :
    DInv (hdFinal s id c r) ∧ (hdFinal s id c r).notifications = [] := by
  rw [hdFinal_eq_record]
  refine ⟨?_, hn⟩
  have hN : ∀ k, k < N s → k < (s.datalog.native.map (dropWaiters id)).length := fun k hk => by
    rw [List.length_map]; exact hk
  -- the requests parked for `id` are valid, like those it tracks: they are what a persistent session saves
  have hparked : ReqsOK (N s) (c.tracker.requests ++ s.datalog.native.flatMap (parkedOf id)) :=
    (h.trk id c hc).append fun q hq => by
      obtain ⟨fd, hfd, hq'⟩ := List.mem_flatMap.mp hq
      obtain ⟨w, hw, rfl⟩ := List.mem_map.mp ((parkedOf_perm id fd).mem_iff.mp hq')
      exact (h.wt fd hfd w (List.mem_filter.mp hw).1).1
  refine ⟨fun p hp => hN _ (h.fidx p hp), fun p hp i hi => hN _ (h.pf p hp i hi), fun j d hd q hq => ?_,
    fun fd' hfd' w hw => ?_, fun n hn' => ?_, ?_, fun p hp => ?_⟩
  · have hd' : (s.conns.remove id).get? j = some d := hd
    rw [Slab.get?_remove] at hd'
    split at hd'
    · cases hd'
    · exact hN _ (h.trk j d hd' q hq)
  · obtain ⟨fd, hfd, rfl⟩ := List.mem_map.mp hfd'
    obtain ⟨hw0, hne⟩ := List.mem_filter.mp ((dropWaiters_perm id fd).mem_iff.mp hw)
    obtain ⟨hi, hl⟩ := h.wt fd hfd w hw0
    refine ⟨hN _ hi, ?_⟩
    show ((s.conns.remove id).get? w.1).isSome = true
    rw [Slab.get?_remove, if_neg (by simpa using hne)]; exact hl
  · rw [hn] at hn'; cases hn'
  · refine forall_saved s id c (fun p hp ss hss => ⟨fun q hq => hN _ ((h.grv p hp ss hss).1 q hq), (h.grv p hp ss hss).2⟩)
      fun _ => ⟨fun q hq => hN _ ?_, rfl⟩
    rw [show ({ c.tracker with requests := (hdSavedOf s id c).2, status := Status.paused .busy } : Tracker).requests =
      (hdSavedOf s id c).2 from rfl, hdSavedOf_reqs, datalogClean_map] at hq
    obtain ⟨q1, hq1, rfl⟩ := List.mem_map.mp hq
    obtain ⟨q0, hq0, rfl⟩ := List.mem_map.mp hq1
    rw [(Rp3.rewindOne_fields _ _).2.1, (atGroupCursor_fields _ _).2.1]; exact hparked q0 hq0
  · have gone : ∀ p ∈ removeFromGroups s.shared c.clientId, p.2.clients ≠ [] := fun p hp e => by
      obtain ⟨p0, _, rfl, hne⟩ := mem_removeFromGroups_iff.mp hp
      rw [show (p0.2.removeClient c.clientId).clients = [] from e] at hne; cases hne
    have hp' : p ∈ (if c.clean then removeFromGroups s.shared c.clientId else (hdSavedOf s id c).1) := hp
    split at hp'
    · exact gone p hp'
    · obtain ⟨p0, hp0, _, e, _⟩ := (mem_rewindRequests _ _ _ _).2 p hp'
      rw [e]; exact gone p0 hp0

theorem handleDisconnection_total {s : RState} {id : Nat} {r : Option String} (h : DInv s)
    (hn : s.notifications = []) :
    Total (fun s' => DInv s' ∧ s'.notifications = []) (handleDisconnection s id r) := by
  rw [handleDisconnection_eq]
  split
  · exact ⟨s, rfl, h, hn⟩
  · rename_i c hc
    obtain ⟨h1, hn1⟩ := hdFinal_dinv (r := r) h hn hc
    exact (wakeParked_total h1).mono fun s' q => ⟨q.1, by rw [q.2, hn1]⟩

theorem handleDisconnection_dinv {s s' : RState} {id : Nat} {r : Option String} (h : DInv s)
    (hn : s.notifications = []) (hd : handleDisconnection s id r = .ok s') :
    DInv s' ∧ s'.notifications = [] := by
  obtain ⟨a, e, q⟩ := handleDisconnection_total (id := id) (r := r) h hn
  rw [hd] at e; cases e; exact q

theorem handleDisconnection_good {s : RState} {id : Nat} {r : Option String} (h : BInv s) :
    Good BInv (handleDisconnection s id r) :=
  (handleDisconnection_total h.1 h.2).good

theorem drain_all_good {s : RState} (h : DInv s) :
    Good BInv (drainNotifications { s with notifications := [] } s.notifications) := by
  have h0 : DInv ({ s with notifications := [] } : RState) := h.with_notifications [] (fun n hn => by simp at hn)
  refine (drainNotifications_total s.notifications h0 fun n hn => ?_).good.mono fun s' q => ⟨q.1, q.2⟩
  exact h.ntf n hn

def hasSubscribe (ps : List Packet) : Prop := ∃ p ∈ ps, ∃ a b c, p = Packet.subscribe a b c

def batchHasSubscribe (s : RState) (id : Nat) : Prop :=
  ∃ c, getConn s id = some c ∧ hasSubscribe (getLink s c.link).ibuf

theorem handleLastWill_good {s : RState} {cid : String} (h : BInv s) : Good BInv (handleLastWill s cid) := by
  unfold handleLastWill
  split
  · exact h
  · rename_i w hw
    simp only []
    have h0 : DInv (({ s with lastWills := aremove cid s.lastWills } : RState).g (.willFired cid)) :=
      h.1.of_reads rfl
    split
    · exact ⟨h0, h.2⟩
    · rename_i topic ht
      have hu := updateRetained_dinv h0 topic (willPub w)
      have hu' := hu.1.of_reads (s' := (updateRetained (({ s with lastWills := aremove cid s.lastWills } : RState).g (.willFired cid)) topic
        (willPub w)).g (.accepted none (willPub w) topic)) rfl
      gbind2 (dlMatches_good (topic := topic) hu') with s2 idxs h2 q2
      gbind (appendToFilters_good idxs (p := { willPub w with retain := false }) q2.1 q2.2.1) with s3 h3 q3
      exact drain_all_good q3

theorem handleShadow_good {s : RState} {id : Nat} {f : String} (h : BInv s) : Good BInv (handleShadow s id f) := by
  obtain ⟨ls, e⟩ := handleShadow_upd s id f
  rw [e]
  exact ⟨h.1.of_reads rfl, h.2⟩

/-- an event other than DeviceData (whose SUBSCRIBEs need request conservation: `handleDevicePayload_good`) -/
theorem events_good {s : RState} {id : Nat} {ev : Event} (hev : ev ≠ .deviceData) (h : BInv s) :
    Good BInv (events s id ev) := by
  cases ev with
  | deviceData => exact absurd rfl hev
  | ready =>
    simp only [events]
    split
    · rename_i hl
      obtain ⟨c, hc⟩ := Live.get (s := s) (id := id) hl
      exact (reschedule_total (r := .ready) h.1 hc (by simp)).good.mono fun s' q => ⟨q.1, by rw [q.2]; exact h.2⟩
    · exact h
  | disconnect => exact (handleDisconnection_good h : Good BInv (handleDisconnection s id none))
  | publishWill c => exact handleLastWill_good h
  | shadow f => exact handleShadow_good h
  | sendMeters => exact h
  | sendAlerts => exact h

end Router
