/-
`CS` through a sweep: the request adopts its group's cursor (issued for the same log); the read from an issued cursor
yields entries whose tags are issued and an issued continuation, which become the cursors recorded in the outgoing
window, the request's cursor and the group's. Needs `NoOverflow`, the bound of the C13 read theorems.
-/
import Proofs.Lemmas.Router.Rp4_HeldEffect
import Proofs.Lemmas.Router.Base.Outgoing
import Proofs.Lemmas.Router.Rp3_ReadSpec
import Proofs.Lemmas.Router.Rp5_Step
namespace Router
namespace Rp3
open CommitLog (logC Issued)

theorem numberForwards_inflight (fi : Nat) (ps : List (Pub × Option Cursor)) (o : Outgoing) (acc : List Notif) :
    ∀ e ∈ (numberForwards o fi ps acc).1.inflight, e ∈ o.inflight ∨ (e.2.1 = fi ∧ ∃ pc ∈ ps, e.2.2 = pc.2) := by
  obtain ⟨pks, _, h1, _, _⟩ := numberForwards_shape fi ps o acc
  rw [h1]; intro e he
  rcases List.mem_append.mp he with h | h
  · exact .inl h
  · obtain ⟨x, hx, rfl⟩ := List.mem_map.mp h
    exact .inr ⟨rfl, x.2, (List.of_mem_zip hx).2, rfl⟩

theorem atGroupCursor_ok {s : RState} (h : CS s) {r : DataRequest} (hr : ReqOK s.datalog r) :
    ReqOK s.datalog (atGroupCursor s.shared r) := by
  unfold atGroupCursor
  cases hg : r.group.bind (fun g => alookup g s.shared) with
  | none => exact hr
  | some grp =>
    obtain ⟨gname, hgn, hl⟩ := Option.bind_eq_some_iff.mp hg
    obtain ⟨i, a, b⟩ := h.grp (gname, grp) (mem_of_alookup_eq_some hl)
    have := hr.2 gname hgn
    have e : i = r.filterIdx := by
      have a' : s.datalog.filterIdx? (gpath gname) = some i := a
      rw [this] at a'; exact (Option.some.inj a').symm
    subst e
    exact ⟨b, hr.2⟩

theorem forwardDeviceData_cs {s s' : RState} {id : Nat} {req req' : DataRequest} {st : ConsumeStatus}
    (hi : DLInv s) (h : CS s) (hno : NoOverflow s) (hreq : ReqOK s.datalog req)
    (hf : forwardDeviceData s id req = .ok (s', req', st)) : CS s' ∧ ReqOK s'.datalog req' := by
  obtain ⟨c, hc, hs⟩ := forwardDeviceData_sweep hf
  obtain ⟨hx, hq, _, hgrp, _⟩ := fdReq0_fields req (fdGrp s req)
  have hreq0 : ReqOK s.datalog (fdReq0 req (fdGrp s req)) := by
    have := atGroupCursor_ok h hreq
    unfold atGroupCursor at this
    unfold fdGrp
    cases hg : req.group.bind (fun g => alookup g s.shared) <;> (rw [hg] at this; exact this)
  have oracle : ∀ o, CS ({ s with oracle := o } : RState) := fun o => h.step0 (CStep.connClosed.of_rest rfl rfl)
  have read : ∀ {o rp n fd}, SweepRead s c req o rp n fd →
      (∀ e ∈ (fd.log.readv (fdCur s req) n).1, Issued (logC fd.log) e.2) ∧
      Issued (logC fd.log) (fdPos (fd.log.readv (fdCur s req) n).2).1 := by
    intro o rp n fd hr
    obtain ⟨fd0, hfd0, hiss0⟩ := hreq0.1
    rw [hx, hr.log] at hfd0; cases hfd0
    obtain ⟨hist, hrep⟩ := hi.logs fd.log (List.mem_map.mpr ⟨fd, List.mem_of_getElem? hr.log, rfl⟩)
    have := hno fd (List.mem_of_getElem? hr.log) hist hrep
    have := fdSlots_le_max s c req.qos (fdGrp s req)
    have := (fdRetained_spec hr.retained).2.1
    exact clog_readv_issued fd.log hist hrep _ n hiss0 (by omega)
  have hlog' : ∀ {fd}, s.datalog.native[req.filterIdx]? = some fd →
      s.datalog.native[(fdReq0 req (fdGrp s req)).filterIdx]? = some fd := fun h => by rw [hx]; exact h
  cases hs with
  | full => exact ⟨h, hreq0⟩
  | skip => exact ⟨oracle _, hreq0⟩
  | empty hr => exact ⟨oracle _, ⟨_, hlog' hr.log, (read hr).2⟩, hreq0.2⟩
  | @push o rp n fd sh o' _ pubs hr _ hrq hpubs _ ht =>
    obtain ⟨hent, hnext⟩ := read hr
    have hreq1 : ReqOK s.datalog req' := by rw [hrq]; exact ⟨⟨fd, hlog' hr.log, hnext⟩, hreq0.2⟩
    obtain ⟨ls, hE, _, _⟩ := pushed_upd s id c req' pubs sh o'
    rw [hE]
    refine ⟨h.transfer (LogMono.refl _) (fun r hr' => .inl ?_) (fun fi cur hw => ?_)
      (fun p hp' ss hss r hr' => .inl ⟨p, hp', ss, hss, hr'⟩) (fun p hp' => ?_), hreq1⟩
    · obtain ⟨j, hj⟩ := (allReqs_iff _ r).mp hr'
      have key : ∀ s2 : RState, s2.conns = s.conns.set id (fdConn c req' pubs) → s2.datalog.native = s.datalog.native →
          s2.notifications = s.notifications → r ∈ held s2 j → r ∈ held s j := fun s2 a b d h => by
        rwa [held_of_set hc a rfl b d j] at h
      exact (allReqs_iff s r).mpr ⟨j, key _ (by rfl) (by rfl) (by rfl) hj⟩
    · -- a window entry the sweep added records the tag of an entry of this read; the replayed publishes carry no cursor
      rcases allWin_of_set (c' := fdConn c req' pubs) hc (by rfl) hw with h | ⟨e, he, h1', h2'⟩
      · exact .inl h
      change e ∈ (fdOut c req' pubs).1.inflight at he
      unfold fdOut at he
      split at he
      · exact .inl ⟨id, c, hc, e, he, h1', h2'⟩
      · rcases numberForwards_inflight _ _ _ _ e he with hm | ⟨hfi, pc, hpc, hcur⟩
        · exact .inl ⟨id, c, hc, e, hm, h1', h2'⟩
        · refine .inr ?_
          unfold fdFwds at hpc
          obtain ⟨pc0, hpc0, rfl⟩ := List.mem_map.mp hpc
          simp only [] at hcur
          rw [h2'] at hcur
          rw [hpubs] at hpc0
          rcases List.mem_append.mp hpc0 with hm | hm
          · rw [(fdRetained_spec hr.retained).2.2.1 pc0 hm] at hcur; cases hcur
          · obtain ⟨en, hen, rfl⟩ := List.mem_map.mp hm
            simp only [Option.some.injEq] at hcur
            rw [← h1', hfi, hrq]
            exact ⟨fd, hlog' hr.log, hcur ▸ hent en hen⟩
    · rcases mem_turned ht hp' with hm | ⟨gname, _, _, _, hgn, _, _, rfl⟩
      · exact .inl ⟨p, hm, rfl, rfl⟩
      · exact .inr ⟨req'.filterIdx, hreq1.2 gname (by rw [hrq]; exact hgrp.trans hgn), hreq1.1⟩

end Rp3
end Router
