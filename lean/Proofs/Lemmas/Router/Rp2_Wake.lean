/-
Waking: what `drainNotifications` and `wake_parked` achieve for the requests they wake (C06 "a registered reply is
scheduled", C17 "the member whose turn it is now is woken"), kept to the end of the event by `Awake`.
-/
import Proofs.Lemmas.Router.Base.Cases
namespace Router

/-- the connection exists and its tracker is not `Paused(Caughtup)`: it is in the ready queue, or
    waits for the link's `Ready` (Busy) or for an ack (InflightFull) -/
def NotCaughtup (s : RState) (j : Nat) : Prop :=
  ∃ c, getConn s j = some c ∧ c.tracker.status ≠ .paused .caughtup

def Tracked (s : RState) (id : Nat) (r : DataRequest) : Prop :=
  ∃ c, getConn s id = some c ∧ r ∈ c.tracker.requests

/-- nothing tracked is lost and no connection becomes `Paused(Caughtup)` -/
def Awake (s s' : RState) : Prop :=
  (∀ j q, Tracked s j q → Tracked s' j q) ∧ (∀ j, NotCaughtup s j → NotCaughtup s' j)

theorem Awake.refl (s : RState) : Awake s s := ⟨fun _ _ h => h, fun _ h => h⟩

theorem Awake.trans {a b c : RState} (h1 : Awake a b) (h2 : Awake b c) : Awake a c :=
  ⟨fun j q h => h2.1 j q (h1.1 j q h), fun j h => h2.2 j (h1.2 j h)⟩

theorem Awake.of_conns {s s' : RState} (h : s'.conns = s.conns) : Awake s s' := by
  have e := getConn_congr h
  exact ⟨fun j q ⟨c, hc, hq⟩ => ⟨c, (e j).trans hc, hq⟩, fun j ⟨c, hc, hn⟩ => ⟨c, (e j).trans hc, hn⟩⟩

theorem slot_replaced {P : Conn → Prop} {s s' : RState} {id : Nat} {c c' : Conn} (hc : getConn s id = some c)
    (h : s'.conns = s.conns.set id c') (hP : P c → P c') {j : Nat}
    (hj : ∃ x, getConn s j = some x ∧ P x) : ∃ x, getConn s' j = some x ∧ P x := by
  obtain ⟨x, gx, px⟩ := hj
  rw [getConn_of_set hc h j]
  by_cases e : j = id
  · subst e; rw [hc] at gx; cases gx; exact ⟨c', if_pos rfl, hP px⟩
  · exact ⟨x, by rw [if_neg e]; exact gx, px⟩

theorem track_awake {s s' : RState} {id : Nat} {r : DataRequest} (h : track s id r = .ok s') : Awake s s' := by
  obtain ⟨c, hc, rfl⟩ := track_upd h
  exact ⟨fun j q hq => slot_replaced (P := fun c => q ∈ c.tracker.requests) hc rfl (List.mem_append_left _) hq,
    fun j hn => slot_replaced (P := fun c => c.tracker.status ≠ .paused .caughtup) hc rfl (by exact fun h => h) hn⟩

theorem reschedule_awake {s s' : RState} {id : Nat} {r : SchedReason} (h : reschedule s id r = .ok s') :
    Awake s s' := by
  obtain ⟨c, t, w, hc, htr, rfl⟩ := reschedule_upd h
  have a : ∀ s1 : RState, s1.conns = s.conns.set id { c with tracker := t } → Awake s s1 := fun s1 e => by
    refine ⟨fun j q => slot_replaced (P := fun c => q ∈ c.tracker.requests) hc e
        (fun m => (tryReady_some htr ▸ m : q ∈ t.requests)),
      fun j => slot_replaced (P := fun c => c.tracker.status ≠ .paused .caughtup) hc e fun sj => ?_⟩
    rcases tryReady_cases htr with ⟨_, rfl⟩ | ⟨_, rfl⟩
    · simp
    · exact sj
  cases w <;> exact a _ rfl

theorem drainNotifications_awake (ns : List (Nat × DataRequest)) {s s' : RState}
    (h : drainNotifications s ns = .ok s') : Awake s s' :=
  drainNotifications_rel Awake Awake.refl (fun _ _ _ => Awake.trans) (fun _ _ _ _ => track_awake)
    (fun _ _ _ => reschedule_awake) ns h

theorem wakeParkedSorted_awake (logs : List Nat) {s s' : RState} (h : wakeParkedSorted s logs = .ok s') : Awake s s' :=
  wakeParkedSorted_rel Awake Awake.refl (fun _ _ _ => Awake.trans) (fun _ _ _ _ => Awake.of_conns rfl)
    (fun _ _ ns => drainNotifications_awake ns) logs h

theorem wakeTurnMoved_awake {s s' : RState} (h : wakeTurnMoved s = .ok s') : Awake s s' :=
  wakeTurnMoved_rel Awake Awake.refl (fun _ _ _ => Awake.trans) (fun _ _ _ _ => Awake.of_conns rfl)
    (fun _ _ ns => drainNotifications_awake ns) (fun _ => Awake.of_conns rfl) h

theorem reschedule_freshData_status {s s' : RState} {id : Nat}
    (h : reschedule s id .freshData = .ok s') : NotCaughtup s' id := by
  obtain ⟨c, _, _, hc, _⟩ := reschedule_upd h
  obtain ⟨c', hc', _, _, _, hn, _⟩ := reschedule_spec hc h
  exact ⟨c', hc', hn (.inl rfl)⟩

theorem track_tracked {s s' : RState} {id : Nat} {r : DataRequest} (h : track s id r = .ok s') :
    Tracked s' id r := by
  obtain ⟨c, hc, rfl⟩ := track_upd h
  exact ⟨_, getConn_setConn_same _ _ _ (Slab.lt_of_get? hc), by simp⟩

theorem drainNotifications_spec : ∀ (ns : List (Nat × DataRequest)) {s s' : RState},
    drainNotifications s ns = .ok s' →
    (∀ w ∈ ns, Tracked s' w.1 w.2 ∧ NotCaughtup s' w.1) ∧ s'.datalog = s.datalog
  | [], s, s', h => by
    simp only [drainNotifications, Except.ok.injEq] at h; subst h
    exact ⟨fun w hw => by simp at hw, rfl⟩
  | (id, r) :: rest, s, s', h => by
    simp only [drainNotifications] at h
    split at h
    · simp at h
    · rename_i s1 h1
      split at h
      · simp at h
      · rename_i s2 h2
        obtain ⟨a, d⟩ := drainNotifications_spec rest h
        have k := drainNotifications_awake rest h
        refine ⟨fun w hw => ?_, by rw [d, (reschedule_step h2).datalog, (track_step h1).datalog]⟩
        rcases List.mem_cons.mp hw with rfl | hw
        · exact ⟨k.1 _ _ ((reschedule_awake h2).1 _ _ (track_tracked h1)), k.2 _ (reschedule_freshData_status h2)⟩
        · exact a w hw

theorem wakeParkedSorted_spec : ∀ (logs : List Nat) {s s' : RState}, wakeParkedSorted s logs = .ok s' →
    (∀ i ∈ logs, ∀ fd, s.datalog.native[i]? = some fd → ∀ w ∈ fd.waiters, Tracked s' w.1 w.2 ∧ NotCaughtup s' w.1) ∧
    (∀ (i : Nat) fd, s.datalog.native[i]? = some fd →
        ∃ fd', s'.datalog.native[i]? = some fd' ∧ fd'.waiters = (if i ∈ logs then [] else fd.waiters))
  | [], s, s', h => by
    simp only [wakeParkedSorted, Except.ok.injEq] at h; subst h
    exact ⟨fun i hi => by simp at hi, fun i fd hfd => ⟨fd, hfd, by simp⟩⟩
  | i :: rest, s, s', h => by
    rw [wakeParkedSorted_cons] at h
    split at h
    · rename_i hnone
      obtain ⟨a, b⟩ := wakeParkedSorted_spec rest h
      refine ⟨fun j hj fd hfd => ?_, fun j fd hfd => ?_⟩
      · rcases List.mem_cons.mp hj with rfl | hj
        · rw [hnone] at hfd; simp at hfd
        · exact a j hj fd hfd
      · obtain ⟨fd', h1, h2⟩ := b j fd hfd
        refine ⟨fd', h1, ?_⟩
        have : j ≠ i := fun e => by subst e; rw [hnone] at hfd; simp at hfd
        simp only [List.mem_cons, this, false_or]; exact h2
    · rename_i fd0 hfd0
      split at h
      · simp at h
      · rename_i s2 h2
        obtain ⟨da, dd⟩ := drainNotifications_spec fd0.waiters h2
        obtain ⟨a, b⟩ := wakeParkedSorted_spec rest h
        have k := wakeParkedSorted_awake rest h
        have hlt : i < s.datalog.native.length := (List.getElem?_eq_some_iff.mp hfd0).1
        -- after this round log `i` is emptied and the others are as before
        have hnat : ∀ j : Nat, s2.datalog.native[j]? =
            if j = i then some { fd0 with waiters := [] } else s.datalog.native[j]? := fun j => by
          rw [dd]
          show (s.datalog.native.set i _)[j]? = _
          rw [List.getElem?_set]
          by_cases hji : i = j
          · subst hji; simp [hlt]
          · have : ¬ j = i := fun e => hji e.symm
            simp [hji, this]
        refine ⟨fun j hj fd hfd w hw => ?_, fun j fd hfd => ?_⟩
        · by_cases hji : j = i
          · subst hji
            rw [hfd0] at hfd; cases hfd
            have := da w hw
            exact ⟨k.1 _ _ this.1, k.2 _ this.2⟩
          · have hj' : j ∈ rest := by
              rcases List.mem_cons.mp hj with e | e
              · exact absurd e hji
              · exact e
            have : s2.datalog.native[j]? = some fd := by rw [hnat]; simp [hji, hfd]
            exact a j hj' fd this w hw
        · by_cases hji : j = i
          · subst hji
            rw [hfd0] at hfd; cases hfd
            obtain ⟨fd', h1, h2'⟩ := b j { fd0 with waiters := [] } (by rw [hnat]; simp)
            refine ⟨fd', h1, ?_⟩
            simp only [List.mem_cons, true_or, if_true]
            rw [h2']; split <;> rfl
          · obtain ⟨fd', h1, h2'⟩ := b j fd (by rw [hnat]; simp [hji, hfd])
            refine ⟨fd', h1, ?_⟩
            simp only [List.mem_cons, hji, false_or]; exact h2'

theorem wakeParked_spec {logs : List Nat} {s s' : RState} (h : wakeParked s logs = .ok s') :
    (∀ i ∈ logs, ∀ fd, s.datalog.native[i]? = some fd → ∀ w ∈ fd.waiters, Tracked s' w.1 w.2 ∧ NotCaughtup s' w.1) ∧
    (∀ (i : Nat) fd, s.datalog.native[i]? = some fd →
        ∃ fd', s'.datalog.native[i]? = some fd' ∧ fd'.waiters = (if i ∈ logs then [] else fd.waiters)) ∧
    (∀ j q, Tracked s j q → Tracked s' j q) ∧ (∀ j, NotCaughtup s j → NotCaughtup s' j) := by
  have k := wakeParkedSorted_awake _ h
  have := wakeParkedSorted_spec _ h
  simp only [List.mem_eraseDups, List.mem_mergeSort] at this
  exact ⟨this.1, this.2, k.1, k.2⟩

theorem wakeParked_woken {logs : List Nat} {s s' : RState} (h : wakeParked s logs = .ok s') {i : Nat} (hi : i ∈ logs)
    {fd : FilterData} (hfd : s.datalog.native[i]? = some fd) :
    (∀ w ∈ fd.waiters, Tracked s' w.1 w.2 ∧ NotCaughtup s' w.1) ∧
    ∃ fd', s'.datalog.native[i]? = some fd' ∧ fd'.waiters = [] := by
  obtain ⟨a, b, _, _⟩ := wakeParked_spec h
  obtain ⟨fd', h1, h2⟩ := b i fd hfd
  exact ⟨a i hi fd hfd, fd', h1, by rw [h2, if_pos hi]⟩

end Router
