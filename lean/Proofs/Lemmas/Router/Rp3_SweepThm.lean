/-
One sweep, read off the case relation `Sweep`, in the form C01 and C17 state it.
-/
import Proofs.Lemmas.Router.Rp3_SweepSpec
import Proofs.Lemmas.Router.Rp3_ReadSpec
namespace Router
namespace Rp3

theorem reqGroup_some {s : RState} {req : DataRequest} {g : SharedGroup} (h : reqGroup s req = some g) :
    ∃ gname, req.group = some gname ∧ alookup gname s.shared = some g := by
  rw [reqGroup_eq] at h; exact fdGrp_some h

theorem replay_of_none {rp : List (Pub × Option Cursor)} (h : ∀ pc ∈ rp, pc.2 = none) :
    rp = (rp.map (·.1)).map (fun p => (p, none)) := by
  rw [List.map_map]
  conv => lhs; rw [← List.map_id rp]
  apply List.map_congr_left
  intro pc hpc
  have := h pc hpc
  obtain ⟨a, b⟩ := pc
  simp only at this; subst this; rfl

/-- a sweep of `req`, of group `grp` and reading from `cur`, that replayed `replay` and read `n` entries of `fd`: one
    forward per replayed publish and per entry read, `Unschedule` if the buffer is then full; the group table moves
    (`Turned`) iff something was pushed -/
structure Pushes (s s' : RState) (c : Conn) (req req' : DataRequest) (st : ConsumeStatus) (grp : Option SharedGroup)
    (cur : Cursor) (replay : List Pub) (n : Nat) (fd : FilterData) (o o' : List Choice) : Prop where
  log : s.datalog.native[req.filterIdx]? = some fd
  noReplay : req.forwardRetained = false → replay = []
  slots : replay.length + n = fdSlots s c req.qos grp
  obuf : (getLink s' c.link).obuf.map Notif.noPkid =
    (getLink s c.link).obuf.map Notif.noPkid ++
    (replay.map (fun p => (p, none)) ++ (fd.log.readv cur n).1.map (fun e : Pub × Cursor => (e.1, some e.2))).map
      (fwdOf req.qos (fdAliases c req.filter).2
        ((aliasesFor c req.filter).bind (fun b => alookup req.filter b.aliases)).isSome
        (alookup req.filter c.subscriptionIds)) ++
    (if st = .bufferFull then [Notif.unschedule] else [])
  others : ∀ l, l ≠ c.link → getLink s' l = getLink s l
  next : req' = fdNext req grp (posNext (fd.log.readv cur n).2).1
  datalog : s'.datalog = s.datalog
  caughtUp : (replay = [] ∧ (fd.log.readv cur n).1 = []) → s'.shared = s.shared ∧ st = .filterCaughtup
  turned : ¬ (replay = [] ∧ (fd.log.readv cur n).1 = []) → Turned s o req req'.cursor s'.shared o' ∧
    (st = .bufferFull ∨ st = if (posNext (fd.log.readv cur n).2).2 then .filterCaughtup else .partialRead)
  progress : replay = [] → 0 < s.config.maxOutgoingPacketCount → 0 < n

/-- for a request whose turn it is (a plain one: always) -/
theorem sweep_pushes {s s' : RState} {id : Nat} {c : Conn} {req req' : DataRequest} {st : ConsumeStatus}
    (hc : getConn s id = some c) (h : forwardDeviceData s id req = .ok (s', req', st)) (hst : st ≠ .inflightFull)
    (hturn : fdSkip c (fdGrp s req) = false) :
    ∃ replay n fd o o', Pushes s s' c req req' st (fdGrp s req) (fdCur s req) replay n fd o o' := by
  obtain ⟨_, hq, hf, _, hfr⟩ := fdReq0_fields req (fdGrp s req)
  cases forwardDeviceData_sweep_of hc h with
  | full => exact absurd rfl hst
  | skip _ hsk => rw [hturn] at hsk; cases hsk
  | @empty o n fd hr _ hemp =>
    have hret := fdRetained_spec hr.retained
    refine ⟨[], n, fd, o, o, hr.log, fun _ => rfl, by have := hret.2.1; simp only [List.length_nil, Nat.zero_add] at this ⊢; exact this,
      ?_, fun _ _ => rfl, by rw [posNext_eq], rfl, fun _ => ⟨rfl, rfl⟩, fun hn => absurd ⟨rfl, hemp⟩ hn,
      fun _ => hr.slots.2 rfl⟩
    rw [hemp]; simp; rfl
  | @push o rp n fd sh o' _ pubs hr _ hreq hpubs hne ht =>
    have hret := fdRetained_spec hr.retained
    obtain ⟨ls, e, hob, hoth⟩ := pushed_upd s id c req' pubs sh o'
    rw [e]
    have hrp := replay_of_none hret.2.2.1
    have hpubs' : List.map (fun p => (p, none)) (rp.map (·.1)) ++
        List.map (fun e : Pub × Cursor => (e.1, some e.2)) (fd.log.readv (fdCur s req) n).1 = pubs := by rw [← hrp]; exact hpubs.symm
    refine ⟨rp.map (·.1), n, fd, o, o', hr.log, fun hf' => by rw [(hret.2.2.2 (hfr.trans hf')).1]; rfl,
      by rw [List.length_map]; exact hret.2.1, ?_, hoth, by rw [hreq, posNext_eq],
      rfl, fun he => absurd (by rw [← hpubs', he.1, he.2]; rfl) hne, fun _ => ⟨ht, ?_⟩,
      fun he => hr.slots.2 (List.map_eq_nil_iff.mp he)⟩
    · show List.map Notif.noPkid (ls[c.link]?.getD {}).obuf = _
      rw [hob, List.map_append, List.map_append, hpubs']
      -- `e1`: one forward per publish; `e2`: `Unschedule` exactly when the status says `bufferFull`
      have e1 := fdOut_noPkid c req' pubs
      have e2 : List.map Notif.noPkid (if fullAfter s c.link (fdOut c req' pubs).2 then [Notif.unschedule] else []) =
          (if (if fullAfter s c.link (fdOut c req' pubs).2 then ConsumeStatus.bufferFull
                else if (fdPos (fd.log.readv (fdCur s req) n).2).2 then .filterCaughtup else .partialRead) = .bufferFull
            then [Notif.unschedule] else []) := by
        by_cases hf : fullAfter s c.link (fdOut c req' pubs).2
        · rw [if_pos hf, if_pos hf]; rfl
        · rw [if_neg hf, if_neg hf]; split <;> rfl
      rw [e2, e1, hreq]
      show _ ++ List.map (fwdOf (fdReq0 req (fdGrp s req)).qos (fdAliases c (fdReq0 req (fdGrp s req)).filter).2
        ((aliasesFor c (fdReq0 req (fdGrp s req)).filter).bind fun b => alookup (fdReq0 req (fdGrp s req)).filter b.aliases).isSome
        (alookup (fdReq0 req (fdGrp s req)).filter c.subscriptionIds)) pubs ++ _ = _
      rw [hq, hf]
    · rw [posNext_eq]; split
      · exact .inl rfl
      · exact .inr rfl

theorem sweep_done_iff {s s' : RState} {id : Nat} {c : Conn} {req req' : DataRequest} {st : ConsumeStatus}
    (hc : getConn s id = some c) (h : forwardDeviceData s id req = .ok (s', req', st)) (hst : st ≠ .inflightFull)
    (hbf : st ≠ .bufferFull) (hturn : fdSkip c (fdGrp s req) = false) (hpos : 0 < s.config.maxOutgoingPacketCount)
    (hlog : ∀ fd, s.datalog.native[req.filterIdx]? = some fd → ∃ hist, CommitLog.Rep (CommitLog.logC fd.log) hist ∧
      CommitLog.Issued (CommitLog.logC fd.log) (fdCur s req) ∧
      hist.length + (MAX_INFLIGHT + s.config.maxOutgoingPacketCount) < CommitLog.U64) :
    ∃ (n : Nat) (fd : FilterData), s.datalog.native[req.filterIdx]? = some fd ∧
      n ≤ MAX_INFLIGHT + s.config.maxOutgoingPacketCount ∧
      req'.cursor = (posNext (fd.log.readv (fdCur s req) n).2).1 ∧
      (st = .filterCaughtup ↔ (posNext (fd.log.readv (fdCur s req) n).2).2 = true) := by
  obtain ⟨replay, n, fd, o, o', hP⟩ := sweep_pushes hc h hst hturn
  have hlen := hP.slots
  have hslots := fdSlots_le_max s c req.qos (fdGrp s req)
  refine ⟨n, fd, hP.log, by omega, by rw [hP.next]; rfl, ?_⟩
  by_cases he : replay = [] ∧ (fd.log.readv (fdCur s req) n).1 = []
  · -- nothing replayed, nothing read, although at least one entry was asked for: the cursor stood at the end
    obtain ⟨hist, hrep, hiss, hU⟩ := hlog fd hP.log
    exact ⟨fun _ => clog_readv_empty_done fd.log hist hrep _ n hiss (by omega) (hP.progress he.1 hpos) he.2,
      fun _ => (hP.caughtUp he).2⟩
  · rcases (hP.turned he).2 with e | e
    · exact absurd e hbf
    · rw [e]; split <;> simp [*]

structure SweepOffsets (s s' : RState) (c : Conn) (req req' : DataRequest) : Prop where
  datalog : s'.datalog = s.datalog
  config : s'.config = s.config
  group : req'.group = req.group
  filterIdx : req'.filterIdx = req.filterIdx
  grouped : (fdGrp s req).isSome → (fdGrp s' req').isSome
  offsets : (linkOffsets s' c.link = linkOffsets s c.link ∧ fdCur s' req' = fdCur s req) ∨
    (∃ (n : Nat) (fd : FilterData), s.datalog.native[req.filterIdx]? = some fd ∧
      n ≤ MAX_INFLIGHT + s.config.maxOutgoingPacketCount ∧
      linkOffsets s' c.link = linkOffsets s c.link ++ readOffsets fd (fdCur s req) n ∧
      fdCur s' req' = (posNext (fd.log.readv (fdCur s req) n).2).1)

theorem sweep_offsets {s s' : RState} {id : Nat} {c : Conn} {req req' : DataRequest} {st : ConsumeStatus}
    (hc : getConn s id = some c) (h : forwardDeviceData s id req = .ok (s', req', st)) :
    SweepOffsets s s' c req req' := by
  obtain ⟨hx, _, _, hgr, _⟩ := fdReq0_fields req (fdGrp s req)
  -- a request that comes back with the group's cursor (`fdReq0`), whatever else, still reads where it read
  have stay : ∀ (o : List Choice) (r : DataRequest), r.group = req.group → (fdGrp s req = none → r.cursor = req.cursor) →
      fdGrp ({ s with oracle := o } : RState) r = fdGrp s req ∧ fdCur ({ s with oracle := o } : RState) r = fdCur s req := by
    intro o r hg hcur
    have e : fdGrp ({ s with oracle := o } : RState) r = fdGrp s req := fdGrp_congr hg rfl
    refine ⟨e, ?_⟩
    obtain hgrp | ⟨g, hgrp⟩ := Option.eq_none_or_eq_some (fdGrp s req)
    · rw [fdCur_none (e.trans hgrp), fdCur_none hgrp, hcur hgrp]
    · rw [fdCur_some (e.trans hgrp), fdCur_some hgrp]
  cases forwardDeviceData_sweep_of hc h with
  | full _ _ =>
    obtain ⟨e, e'⟩ := stay s.oracle (fdReq0 req (fdGrp s req)) hgr (fun hn => by rw [hn]; rfl)
    exact ⟨rfl, rfl, hgr, hx, fun hh => by rw [show fdGrp s _ = _ from e]; exact hh, .inl ⟨rfl, e'⟩⟩
  | @skip o rp n fd hr hsk =>
    obtain ⟨e, e'⟩ := stay o { fdReq0 req (fdGrp s req) with forwardRetained := false } hgr
      (fun hn => by rw [hn] at hsk; cases hsk)
    exact ⟨rfl, rfl, hgr, hx, fun hh => by rw [e]; exact hh, .inl ⟨rfl, e'⟩⟩
  | @empty o n fd hr hsk hemp =>
    have e : fdGrp ({ s with oracle := o } : RState) (fdNext req (fdGrp s req) (fdPos (fd.log.readv (fdCur s req) n).2).1) =
        fdGrp s req := fdGrp_congr hgr rfl
    refine ⟨rfl, rfl, hgr, hx, fun hh => by rw [e]; exact hh, ?_⟩
    obtain hgrp | ⟨g, hgrp⟩ := Option.eq_none_or_eq_some (fdGrp s req)
    · refine .inr ⟨n, fd, hr.log, hr.slots.1, ?_, by rw [fdCur_none (e.trans hgrp), posNext_eq]; rfl⟩
      unfold readOffsets; rw [hemp]; exact (List.append_nil _).symm
    · exact .inl ⟨rfl, by rw [fdCur_some (e.trans hgrp), fdCur_some hgrp]⟩
  | @push o rp n fd sh o' _ pubs hr hsk hreq hpubs hne ht =>
    obtain ⟨hcur, hsome⟩ := Turned.cur ht (req' := req') (by rw [hreq]; exact hgr) rfl
    obtain ⟨ls, e, hob, _⟩ := pushed_upd s id c req' pubs sh o'
    rw [e]
    refine ⟨rfl, rfl, by rw [hreq]; exact hgr, by rw [hreq]; exact hx, hsome,
      .inr ⟨n, fd, hr.log, hr.slots.1, ?_, by rw [posNext_eq]; exact hcur.trans (by rw [hreq]; rfl)⟩⟩
    show List.filterMap Notif.logOffset (ls[c.link]?.getD {}).obuf = _
    rw [hob, List.filterMap_append, List.filterMap_append, hpubs]
    have h2 : List.filterMap Notif.logOffset (if fullAfter s c.link (fdOut c req' (fdPubs rp (fd.log.readv (fdCur s req) n))).2
        then [Notif.unschedule] else []) = [] := by split <;> rfl
    rw [h2, List.append_nil]
    exact congrArg _ (fdOut_offsets c req' rp (fd.log.readv (fdCur s req) n) (fdRetained_spec hr.retained).2.2.1)

end Rp3
end Router
