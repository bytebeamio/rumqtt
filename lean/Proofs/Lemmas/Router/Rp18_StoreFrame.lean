/-
C20: `StoreFrame R`: `R` holds between `s` and `s'` whenever they agree on what the router STORES of a publish (recorded
publishes and alias tables of the connections, contents of the filter logs, retained messages, wills) and on the
links' incoming buffers. The functions that write these (`append_to_commitlog` and its callers, the registration of a
CONNECT, the link-side push) are left to the relation: the pass takes what they do as a hypothesis.
-/
import Proofs.Lemmas.Router.Base.Cases
import Proofs.Lemmas.Router.Base.Sweep
import Proofs.Lemmas.Router.Base.Connect
namespace Router

structure StoreFrame (R : RState → RState → Prop) : Prop where
  refl : ∀ s, R s s
  trans : ∀ {a b c}, R a b → R b c → R a c
  of_conns : ∀ {s s' : RState}, s'.conns = s.conns → s'.links = s.links →
    s'.datalog.native.map (·.log) = s.datalog.native.map (·.log) →
    s'.datalog.retained = s.datalog.retained → s'.lastWills = s.lastWills → R s s'
  of_set : ∀ {s s' : RState} {id : Nat} {c c' : Conn}, getConn s id = some c → s'.conns = s.conns.set id c' →
    c'.acks.recorded = c.acks.recorded → c'.topicAliases = c.topicAliases → s'.links = s.links →
    s'.datalog.native.map (·.log) = s.datalog.native.map (·.log) →
    s'.datalog.retained = s.datalog.retained → s'.lastWills = s.lastWills → R s s'
  of_remove : ∀ {s s' : RState} (id : Nat), s'.conns = s.conns.remove id → s'.links = s.links →
    s'.datalog.native.map (·.log) = s.datalog.native.map (·.log) →
    s'.datalog.retained = s.datalog.retained → s'.lastWills = s.lastWills → R s s'
  of_link : ∀ (s : RState) (l : Nat) (b : LinkBuf), b.ibuf = (getLink s l).ibuf → R s (setLink s l b)
  newFilter : ∀ (s : RState) (filter : String), R s (nextNativeOffset s filter).1

namespace StoreFrame
variable {R : RState → RState → Prop} (F : StoreFrame R)
include F

theorem of_native_set {s s' : RState} {i : Nat} {fd fd' : FilterData} (hfd : s.datalog.native[i]? = some fd)
    (hc : s'.conns = s.conns) (hk : s'.links = s.links) (hnat : s'.datalog.native = s.datalog.native.set i fd')
    (hlog : fd'.log = fd.log) (hr : s'.datalog.retained = s.datalog.retained) (hw : s'.lastWills = s.lastWills) :
    R s s' :=
  F.of_conns hc hk (by rw [hnat]; exact map_set_same hfd hlog) hr hw

theorem of_toState {s s' : RState} (h : s'.toState = s.toState) : R s s' :=
  F.of_conns (congrArg State.conns h) (congrArg State.links h) (by rw [congrArg State.datalog h])
    (by rw [congrArg State.datalog h]) (congrArg State.lastWills h)

theorem pushNotifs (s : RState) (l : Nat) (ns : List Notif) : R s (pushNotifs s l ns) := F.of_link s l _ rfl

theorem wakeLink (s : RState) (l : Nat) : R s (wakeLink s l) :=
  F.of_link s l _ (wake_ibuf _)

theorem sched {s s' : RState} {id : Nat} (h : SchedStep id s s') : R s s' := by
  obtain ⟨c, t, q, hc, rfl⟩ := h
  exact F.of_set (c' := { c with tracker := t }) hc rfl rfl rfl rfl rfl rfl rfl

theorem reschedule {s s' : RState} {id : Nat} {r : SchedReason} (h : Router.reschedule s id r = .ok s') : R s s' :=
  F.sched (reschedule_step h)

theorem commitAck {s s' : RState} {id : Nat} {a : Ack} (h : Router.commitAck s id a = .ok s') : R s s' := by
  obtain ⟨c, hc, rfl⟩ := commitAck_upd h
  exact F.of_set (c' := { c with acks := _ }) hc rfl rfl rfl rfl rfl rfl rfl

theorem pause {s s' : RState} {id : Nat} {r : PauseReason} (h : Router.pause s id r = .ok s') : R s s' :=
  F.sched (pause_step h)

theorem trackv {s s' : RState} {id : Nat} {rs : List DataRequest} (h : Router.trackv s id rs = .ok s') : R s s' :=
  F.sched (trackv_step h)

theorem track {s s' : RState} {id : Nat} {r0 : DataRequest} (h : Router.track s id r0 = .ok s') : R s s' :=
  F.sched (track_step h)

theorem park {s s' : RState} {id : Nat} {r : DataRequest} (h : Router.park s id r = .ok s') : R s s' := by
  obtain ⟨fd, hfd, rfl⟩ := park_upd h
  exact F.of_native_set (fd' := { fd with waiters := fd.waiters ++ [(id, r)] }) hfd rfl rfl rfl rfl rfl rfl

theorem ackDeviceData (s : RState) (id : Nat) : R s (ackDeviceData s id) := by
  rcases ackDeviceData_cases s id with ⟨e, _⟩ | ⟨c, hc, _, e⟩ <;> rw [e]
  · exact F.refl s
  · exact F.trans (F.trans (F.pushNotifs s _ _) (F.wakeLink _ _))
      (F.of_set (c' := { c with acks := _ }) (id := id) hc rfl rfl rfl rfl rfl rfl rfl)

theorem dlMatches {s s' : RState} {topic : String} {v : List Nat} (h : Router.dlMatches s topic = .ok (s', v)) :
    R s s' := by
  obtain ⟨pf, o, rfl⟩ := dlMatches_upd h
  exact F.of_conns rfl rfl rfl rfl rfl

theorem readRetained {s s' : RState} {f : String} {ps : List Pub} (h : Router.readRetained s f = .ok (s', ps)) :
    R s s' := by
  obtain ⟨_, o, _, rfl, _⟩ := readRetained_upd h
  exact F.of_toState rfl

theorem updateNextClient {s s' : RState} {g g' : SharedGroup} (h : Router.updateNextClient s g = .ok (s', g')) :
    R s s' := by
  obtain ⟨o, i, rfl, _⟩ := updateNextClient_upd h
  exact F.of_toState rfl

theorem noteTurn (s0 s1 : RState) (req : DataRequest) : R s1 (noteTurn s0 s1 req) := by
  obtain ⟨tm, e⟩ := noteTurn_upd s0 s1 req
  exact F.of_toState (by rw [e])

theorem drainNotifications (ns : List (Nat × DataRequest)) {s s' : RState}
    (h : Router.drainNotifications s ns = .ok s') : R s s' :=
  drainNotifications_rel R F.refl (fun _ _ _ => F.trans) (fun _ _ _ _ => F.track) (fun _ _ _ => F.reschedule) ns h

/-- the form `handle_device_payload` / `handle_last_will` call -/
theorem drainAll {s s' : RState}
    (h : Router.drainNotifications { s with notifications := [] } s.notifications = .ok s') : R s s' :=
  F.trans (F.of_conns (s := s) (s' := { s with notifications := [] }) rfl rfl rfl rfl rfl) (F.drainNotifications _ h)

theorem wakeParked {s s' : RState} {logs : List Nat} (h : Router.wakeParked s logs = .ok s') : R s s' :=
  wakeParked_rel R F.refl (fun _ _ _ => F.trans)
    (fun _ _ fd h => F.of_native_set (fd' := { fd with waiters := [] }) h rfl rfl rfl rfl rfl rfl)
    (fun _ _ ns h => F.drainNotifications ns h) h

theorem wakeTurnMoved {s s' : RState} (h : Router.wakeTurnMoved s = .ok s') : R s s' :=
  F.trans (F.of_conns (s := s) (s' := { s with turnMoved := [] }) rfl rfl rfl rfl rfl) (F.wakeParked h)

theorem prepareFilter {s s' : RState} {id : Nat} {cursor : Cursor} {idx : Nat} {f : SubFilter}
    {group : Option String} {subId : Option Nat}
    (h : Router.prepareFilter s id cursor idx f group subId = .ok s') : R s s' := by
  obtain ⟨c, t, q, hc, _, rfl⟩ := prepareFilter_post h
  exact F.of_set (c' := pfNew c f.path subId (!c.subscriptions.contains f.path) t) hc rfl
    (by cases subId <;> rfl) (by cases subId <;> rfl) rfl rfl rfl rfl

theorem subscribeFilters {id : Nat} {subId : Option Nat} (fs : List SubFilter) {s s' : RState}
    {codes codes' : List Nat} {fl fl' : Flags}
    (h : Router.subscribeFilters s id subId fs codes fl = .ok (s', codes', fl')) : R s s' :=
  Walk.subscribeFilters_inv (I := R s) (fun a h1 => F.trans a (F.trans (F.newFilter _ _) (F.prepareFilter h1)))
    fs (F.refl s) h

theorem unsubscribeFilters {id : Nat} (fs : List String) {s s' : RState} {rs rs' : List Bool}
    (h : Router.unsubscribeFilters s id fs rs = .ok (s', rs')) : R s s' :=
  Walk.unsubscribeFilters_inv (I := R s) (fun _ _ a => F.trans a (F.of_conns rfl rfl rfl rfl rfl))
    (fun {s1 ids c} f a hc => F.trans a (F.of_set (s' := ufState s1 id ids c f) (c' := ufConn s1.datalog c f) hc rfl rfl rfl rfl
      (by rw [ufState_datalog]; rcases removeWaiterFor_upd s1.datalog id f with e | ⟨_, _, _, hfd, e⟩ <;> rw [e]
          exact map_set_same hfd rfl)
      (by rw [ufState_datalog]; rcases removeWaiterFor_upd s1.datalog id f with e | ⟨_, _, _, _, e⟩ <;> rw [e]) rfl))
    fs (F.refl s) h

theorem pushWake (s : RState) (l : Nat) (ns : List Notif) : R s (Router.pushWake s l ns) := by
  rw [pushWake_cases]
  exact F.of_link s l _ (wake_ibuf _)

theorem forwardDeviceData {s s1 : RState} {id : Nat} {req req1 : DataRequest} {st : ConsumeStatus}
    (hf : Router.forwardDeviceData s id req = .ok (s1, req1, st)) : R s s1 := by
  obtain ⟨c, hc, hs⟩ := forwardDeviceData_sweep hf
  cases hs with
  | full _ _ => exact F.refl _
  | skip _ _ => exact F.of_toState rfl
  | empty _ _ _ => exact F.of_toState rfl
  | @push o rp n fd sh o' _ pubs _ _ _ _ _ _ =>
    have a := F.trans (F.of_set (s' := setConn s id (fdConn c req1 pubs)) hc rfl rfl rfl rfl rfl rfl rfl)
      (F.pushWake _ c.link (fdOut c req1 pubs).2)
    -- the pushed state stays a variable: its fields are not to be computed through `pushWake`
    generalize Router.pushWake (setConn s id (fdConn c req1 pubs)) c.link (fdOut c req1 pubs).2 = t at a ⊢
    exact F.trans a (F.of_conns rfl rfl rfl rfl rfl)

theorem consumeLoop {id : Nat} (fuel : Nat) {s s' : RState} {requests skipped : List DataRequest}
    (h : Router.consumeLoop s id fuel requests skipped = .ok s') : R s s' :=
  consumeLoop_rel R F.refl (fun _ _ _ => F.trans)
    (fun _ _ _ _ _ h1 => F.trans (F.forwardDeviceData h1) (F.noteTurn _ _ _))
    (fun _ _ _ => F.park) (fun _ _ => F.sched) fuel h

theorem consume {s s' : RState} {b : Bool} (hc : Router.consume s = .ok (s', b)) : R s s' := by
  rcases Walk.consume_cases hc with ⟨_, _, rfl⟩ | ⟨id, rq, c, s1, _, hcn, _, h1, h2⟩
  · exact F.of_conns rfl rfl rfl rfl rfl
  · refine F.trans (F.trans (F.trans ?_ (F.ackDeviceData _ id)) (F.consumeLoop _ h1)) (F.wakeTurnMoved h2)
    exact F.of_set (c' := { c with tracker := { c.tracker with requests := [] } }) hcn rfl rfl rfl rfl rfl rfl rfl

theorem handleDisconnection {s s' : RState} {id : Nat} {r : Option String}
    (h : Router.handleDisconnection s id r = .ok s') : R s s' := by
  rcases handleDisconnection_cases h with ⟨_, rfl⟩ | ⟨c, hc, h⟩
  · exact F.refl _
  · have a : R s (hdNotify s c r) := by
      cases r with
      | none => exact F.refl _
      | some x => exact F.trans (F.pushNotifs s _ _) (F.wakeLink _ _)
    have b : R (hdNotify s c r) (hdFinal s id c r) := by
      rw [hdFinal_eq_record]
      cases r <;> exact F.of_remove id rfl rfl (by simp only [List.map_map]; rfl) rfl rfl
    exact F.trans (F.trans a b) (F.wakeParked h)

theorem handleShadow {s s' : RState} {id : Nat} {f : String} (h : Router.handleShadow s id f = .ok s') : R s s' := by
  rcases handleShadow_cases s id f with e | ⟨c, p, _, e⟩ <;> rw [e] at h <;> cases h
  · exact F.refl _
  · exact F.pushWake _ _ _

theorem handleDevicePayload {s s' : RState} {id : Nat}
    (hps : ∀ c s1 fl, getConn s id = some c →
      handlePackets (setLink s c.link { getLink s c.link with ibuf := [] }) id c.clientId (getLink s c.link).ibuf {}
        = .ok (s1, fl) → R s s1)
    (h : Router.handleDevicePayload s id = .ok s') : R s s' :=
  Walk.handleDevicePayload_inv (I := R s) (F.refl s) (fun x => x) (fun hc h1 => hps _ _ _ hc h1)
    (fun a h2 => F.trans a (F.reschedule h2)) (fun a h3 => F.trans a (F.drainAll h3))
    (fun a h4 => F.trans a (F.wakeTurnMoved h4)) (fun a h5 => F.trans a (F.handleDisconnection h5)) h

theorem handleNewConnection {s s' : RState} {spec : ConnectSpec} (h0 : R s (setLink s spec.link {}))
    (hreg : ∀ s1, Router.reschedule (hnPre s1 spec) (hnKey s1 spec) .init = .ok s' → R s1 s')
    (h : Router.handleNewConnection s spec = .ok s') : R s s' :=
  handleNewConnection_rel (I := R s) (J := R s) h0 (fun _ hd => F.trans h0 (F.handleDisconnection hd))
    (fun a => F.trans a (F.of_conns rfl rfl rfl rfl rfl)) (fun a _ _ hr => F.trans a (hreg _ hr)) h

theorem step {s s' : RState} {op : Op} {out : Out}
    (hcon : ∀ spec, op = .connect spec → Router.handleNewConnection s spec = .ok s' → R s s')
    (hpush : ∀ l p, op = .push l p → R s (setLink s l { getLink s l with ibuf := (getLink s l).ibuf ++ [p] }))
    (hdp : ∀ id, Router.handleDevicePayload s id = .ok s' → R s s')
    (hlw : ∀ cid, Router.handleLastWill s cid = .ok s' → R s s')
    (hs : Router.step s op = .ok (s', out)) : R s s' := by
  cases op_cases hs with
  | connect spec hc => exact hcon spec rfl hc
  | push l p e => exact e.elim (· ▸ F.refl s) (· ▸ hpush l p rfl)
  | drain l e => exact e.elim (· ▸ F.refl s) (· ▸ F.of_link s l _ rfl)
  | consume b hc => exact F.consume hc
  | event id ev he =>
    cases event_cases he with
    | payload h1 => exact hdp id h1
    | ready h1 => exact h1.elim F.reschedule (· ▸ F.refl s)
    | disconnect h1 => exact F.handleDisconnection h1
    | will w h1 => exact hlw w h1
    | shadow f h1 => exact F.handleShadow h1
    | meters e => exact e ▸ F.refl s
    | alerts e => exact e ▸ F.refl s

end StoreFrame
end Router
