/-
`AllOut`: `OutInv` of every connection, function by function. `Inv1` = `AdmInv` ∧ `AllOut` along `step` (`Inv1.reachable`).
At the end, for C09, the acknowledgement that does not match the head of the window.
-/
import Proofs.Lemmas.Router.Rp1_ShapeOf
import Proofs.Lemmas.CommitLogBridge
import Proofs.Lemmas.Router.Base.Adm
import Proofs.Lemmas.Router.Rp1_Unchanged
import Proofs.Lemmas.Router.Rp1_Window
import Proofs.Lemmas.Router.Base.Outgoing
namespace Router

def AllOut (s : RState) : Prop := ∀ id c, getConn s id = some c → OutInv c.out

theorem AllOut.init (cfg : Config) : AllOut (init cfg) := ConnAll.init cfg

/-- so that the closure lemmas of `ConnAll` apply -/
theorem AllOut.all {s : RState} (h : AllOut s) : ConnAll (fun _ c => OutInv c.out) s := h

theorem AllOut.congr {s s' : RState} (h : AllOut s) (hc : s'.conns = s.conns) : AllOut s' := h.all.of_conns hc

theorem AllOut.shape {R : Nat → Conn → Conn → Prop} {s s' : RState} (h : AllOut s) (hs : Shape R s s')
    (hR : ∀ {j c c'}, R j c c' → ∃ n, Forgets (c.out.inflight.drop n) c'.out.inflight ∧ c'.out.lastPkid = c.out.lastPkid) :
    AllOut s' := fun j c' hl => by
  obtain ⟨c, hc, r⟩ := hs.live_back hl
  obtain ⟨n, e1, e2⟩ := hR r
  exact OutInv.forget (o := { c.out with inflight := c.out.inflight.drop n }) ((h j c hc).drop n rfl rfl) e1 e2

theorem AllOut.shape_ra {id : Nat} {s s' : RState} (h : AllOut s) (hs : Shape (RA id) s s') : AllOut s' :=
  h.shape hs fun r => r.2.2

theorem AllOut.shape_rt {s s' : RState} (h : AllOut s) (hs : Shape RT s s') : AllOut s' :=
  h.shape hs fun r => ⟨0, Forgets.of_eq (by rw [r.out]; rfl), by rw [r.out]⟩

theorem AllOut.handleDisconnection {s s' : RState} {id : Nat} {r : Option String} (hi : AllOut s)
    (h : handleDisconnection s id r = .ok s') : AllOut s' := by
  rcases handleDisconnection_cases h with ⟨_, rfl⟩ | ⟨c, _, hw⟩
  · exact hi
  · exact AllOut.shape_rt (hi.all.hdFinal id c r) (wakeParked_shape hw)

theorem AllOut.handleNewConnection {s s' : RState} {spec : ConnectSpec} (ha : AdmInv s) (hi : AllOut s)
    (h : handleNewConnection s spec = .ok s') : AllOut s' :=
  have i0 : AllOut (setLink s spec.link {}) := hi.congr rfl
  handleNewConnection_inv (I := AllOut) ha i0 (fun _ => i0.handleDisconnection) (fun i => i.congr rfl)
    (fun i1 _ a1 hnone hroom hr => AllOut.shape_rt (i1.all.hnPre a1 hnone hroom (OutInv.empty _)) (reschedule_shape hr)) h

theorem fdOut_inv {c : Conn} {req : DataRequest} {pubs : List (Pub × Option Cursor)} (h : OutInv c.out)
    (hl : req.qos ≠ 0 → pubs.length ≤ c.out.freeSlots) : OutInv (fdOut c req pubs).1 := by
  unfold fdOut
  split
  · exact h
  · rename_i hq
    refine OutInv.numberForwards _ _ _ _ h ?_
    have := hl hq
    have h1 := h.1
    unfold Outgoing.freeSlots at this
    unfold fdFwds
    simp only [List.length_map]
    omega

/-- what a sweep pushes — retained replay and log read — fills at most `fdSlots`, and for QoS > 0 these are at most
    the free slots of the window -/
theorem forwardDeviceData_out {s s' : RState} {id : Nat} {c : Conn} {req req' : DataRequest} {st : ConsumeStatus}
    (hc : getConn s id = some c) (ho : OutInv c.out)
    (h : forwardDeviceData s id req = .ok (s', req', st)) :
    ∃ c', getConn s' id = some c' ∧ OutInv c'.out := by
  cases forwardDeviceData_sweep_of hc h with
  | full _ _ => exact ⟨c, hc, ho⟩
  | skip _ _ => exact ⟨c, hc, ho⟩
  | empty _ _ _ => exact ⟨c, hc, ho⟩
  | @push o rp n fd sh o' _ pubs hr _ e1 e2 _ _ =>
    refine ⟨fdConn c req' pubs, ?_, fdOut_inv ho fun hq => ?_⟩
    · obtain ⟨ls, e⟩ := pushWake_upd (setConn s id (fdConn c req' pubs)) c.link (fdOut c req' pubs).2
      rw [e]
      exact (getConn_of_set hc rfl id).trans (if_pos rfl)
    · have hq' : req.qos ≠ 0 := by rw [e1] at hq; exact (fdReq0_fields req _).2.1 ▸ hq
      have hs := fdSlots_le s c req.qos (fdGrp s req) hq' fun e => hr.notFull ⟨hq', e⟩
      have hlen := (fdRetained_spec hr.retained).2.1
      have hrd := CLog.Log.readv_length fd.log (fdCur s req) n
      rw [e2]
      simp only [fdPubs, List.length_append, List.length_map]
      omega

theorem AllOut.forwardDeviceData {s s' : RState} {id : Nat} {req req' : DataRequest} {st : ConsumeStatus}
    (hi : AllOut s) (h : forwardDeviceData s id req = .ok (s', req', st)) : AllOut s' := by
  have hs := forwardDeviceData_shape h
  intro j d hl
  by_cases hj : j = id
  · subst hj
    obtain ⟨c, hc, _⟩ := hs.live_back hl
    obtain ⟨c', hc', ho⟩ := forwardDeviceData_out hc (hi j c hc) h
    rw [hc'] at hl; simp only [Option.some.injEq] at hl; subst hl; exact ho
  · obtain ⟨c, hc, r⟩ := hs.live_back hl
    rw [(r.2 hj).out]; exact hi j c hc

theorem AllOut.consumeLoop {id : Nat} (fuel : Nat) {s s' : RState} {requests skipped : List DataRequest}
    (hi : AllOut s) (h : consumeLoop s id fuel requests skipped = .ok s') : AllOut s' :=
  consumeLoop_rel (fun s s' => AllOut s → AllOut s') (fun _ hi => hi) (fun _ _ _ h1 h2 hi => h2 (h1 hi))
    (fun s s1 _ req' _ h1 hi => (hi.forwardDeviceData h1).congr (noteTurn_core s s1 req').1)
    (fun _ _ _ h hi => hi.congr (park_core h).1) (fun _ _ h hi => hi.shape_rt h.shape) fuel h hi

theorem AllOut.consume {s s' : RState} {b : Bool} (hi : AllOut s) (h : consume s = .ok (s', b)) : AllOut s' := by
  rcases Walk.consume_cases h with ⟨_, _, rfl⟩ | ⟨id, rq, c, s1, _, hc, _, h1, h2⟩
  · exact hi.congr rfl
  · have a : Shape RT s (Walk.takeRequests s id c rq) := Shape.of_set hc rfl rfl rfl (RT.mk id c _)
    exact AllOut.shape_rt (AllOut.consumeLoop _ ((hi.shape_rt a).shape_ra (ackDeviceData_shape _ id).ro_ra) h1)
      (wakeTurnMoved_shape h2)

theorem AllOut.events {s s' : RState} {id : Nat} {ev : Event} (hi : AllOut s) (h : events s id ev = .ok s') :
    AllOut s' := by
  obtain ⟨s1, hs, h' | ⟨r, hd⟩⟩ := events_split h
  · subst h'; exact hi.shape_ra hs
  · exact (hi.shape_ra hs).handleDisconnection hd

/-- the registration step of `AllOut` needs `AdmInv` -/
structure Inv1 (s : RState) : Prop where
  adm : AdmInv s
  out : AllOut s

theorem Inv1.step {s s' : RState} {op : Op} {out : Out} (hi : Inv1 s) (h : step s op = .ok (s', out)) : Inv1 s' := by
  refine ⟨hi.adm.step h, ?_⟩
  cases op_cases h with
  | connect spec h' => exact AllOut.handleNewConnection hi.adm hi.out h'
  | event id ev h' => exact hi.out.events h'
  | consume b h' => exact hi.out.consume h'
  | push l p h' => rcases h' with rfl | rfl <;> exact hi.out.congr rfl
  | drain l h' => rcases h' with rfl | rfl <;> exact hi.out.congr rfl

theorem Inv1.reachable {cfg : Config} {s : RState} (hr : Reachable cfg s) : Inv1 s :=
  hr.induction Inv1 ⟨AdmInv.init cfg, AllOut.init cfg⟩ fun _ o _ _ _ hi h =>
    Inv1.step ⟨hi.adm.oracle o, hi.out.congr rfl⟩ h

/-! C09: an acknowledgement that does not match the head of the window closes that connection. -/

theorem handlePacket_bad_ack {s : RState} {id : Nat} {cid : String} {c : Conn} {pkid : Nat} {pkt : Packet}
    (hc : getConn s id = some c) (hpkt : pkt = .puback pkid ∨ pkt = .pubrec pkid)
    (hhead : ∀ fi cur rest, c.out.inflight ≠ (pkid, fi, cur) :: rest) (fl : Flags) :
    handlePacket s id cid pkt fl =
      .ok (setConn s id { c with out := (c.out.registerAck pkid).1 }, { fl with disconnect := true, stop := true }) := by
  have hno : (c.out.registerAck pkid).2 = false := by
    cases hb : (c.out.registerAck pkid).2 with
    | false => rfl
    | true =>
      obtain ⟨fi, cur, rest, e⟩ := (registerAck_spec c.out pkid).1.mp hb
      exact absurd e (hhead fi cur rest)
  rcases hpkt with rfl | rfl
  · simp only [handlePacket, hc, hno, Bool.not_false, if_true]
  · simp only [handlePacket, hc, hno, Bool.not_false, if_true]

theorem bad_ack_closes {s s' : RState} {id : Nat} {c : Conn} {pkid : Nat} {pkt : Packet} {rest : List Packet}
    (hc : getConn s id = some c) (hib : (getLink s c.link).ibuf = pkt :: rest)
    (hpkt : pkt = .puback pkid ∨ pkt = .pubrec pkid)
    (hhead : ∀ fi cur rest, c.out.inflight ≠ (pkid, fi, cur) :: rest)
    (h : events s id .deviceData = .ok s') :
    getConn s' id = none ∧ s'.ghost = s.ghost ++ [Ghost.removed id c.clientId c.clean] := by
  obtain ⟨s1, fl, s2, s3, s4, h1, h2, h3, h4, h⟩ := handleDevicePayload_phases hc (h : handleDevicePayload s id = .ok s')
  have hc0 : getConn (setLink s c.link { getLink s c.link with ibuf := [] }) id = some c := hc
  -- the loop stops at the first packet with only `disconnect` flagged: no reschedule, no drain
  rw [hib] at h1
  simp only [handlePackets, handlePacket_bad_ack hc0 hpkt hhead, if_true] at h1
  cases h1
  cases h2; cases h3
  have hc1 := getConn_of_set (s' := setConn _ id { c with out := (c.out.registerAck pkid).1 }) hc0 rfl id
  simp only [if_true] at hc1
  obtain ⟨c2, hc2, t, rfl⟩ := (wakeTurnMoved_shape h4).live hc1
  have hg2 : s4.ghost = s.ghost := (wakeTurnMoved_wakeFrame h4).ghost
  simp only [if_true] at h
  rcases handleDisconnection_cases h with ⟨hn, _⟩ | ⟨c', hc', hw⟩
  · rw [hc2] at hn; cases hn
  · cases hc2.symm.trans hc'
    exact ⟨getConn_handleDisconnection h,
      by rw [(wakeParked_wakeFrame hw).ghost, (hdFinal_fields _ _ _ _).ghost, hg2]⟩

end Router
