/-
`sweepAlias` and `posNext` are the names C01 / C17 state a sweep in; `reqGroup`, `sweepFwds`, `sweepNotifs` name further
pieces. Each is the base's `fd*` piece (the bridges `_eq` are the four a proof rewrites with). The lemmas of the
group speak the base's names, except `posNext`, in which the read lemmas are stated.
-/
import Proofs.Lemmas.Router.Base.Decomp
namespace Router
namespace Rp3

def reqGroup (s : RState) (req : DataRequest) : Option SharedGroup := req.group.bind (fun g => alookup g s.shared)

def sweepAlias (c : Conn) (filter : String) : Option BrokerAliases × Option Nat :=
  match (aliasesFor c filter).bind (fun b => alookup filter b.aliases) with
  | some a => (c.brokerAliases, some a)
  | none => match aliasesFor c filter with
    | none => (c.brokerAliases, none)
    | some b => let (b', a) := b.setNew filter; (some b', a)

def sweepFwds (c : Conn) (req : DataRequest) (publishes : List (Pub × Option Cursor)) : List (Pub × Option Cursor) :=
  publishes.map (fun pc => (mkForward req.qos (sweepAlias c req.filter).2
    ((aliasesFor c req.filter).bind (fun b => alookup req.filter b.aliases)).isSome (alookup req.filter c.subscriptionIds) pc.1, pc.2))

def sweepNotifs (c : Conn) (req : DataRequest) (publishes : List (Pub × Option Cursor)) : Outgoing × List Notif :=
  if req.qos = 0 then (c.out, (sweepFwds c req publishes).map (fun pc => Notif.forward pc.1 pc.2))
  else numberForwards c.out req.filterIdx (sweepFwds c req publishes) []

def posNext : CLog.Pos → Cursor × Bool
  | .next _ e => (e, false)
  | .done _ e => (e, true)

theorem reqGroup_eq : reqGroup = fdGrp := rfl
theorem sweepAlias_eq : sweepAlias = fdAliases := rfl
theorem sweepNotifs_eq : sweepNotifs = fdOut := rfl
theorem posNext_eq : posNext = fdPos := by funext p; cases p <;> rfl

end Rp3
end Router
