/-
What is hard is `consume`: the request loop works with the requests of its connection taken out of the state, and a
`pause(Caughtup)` in the middle would be wrong of them (`LI`); the closing `trackv` turns `LI` back into `SI`. `pause`
takes `id` from the END of the queue, where `consume` has just put it; `poll` drops only dead ids from its front.
A new connection starts `Busy` (also a restored tracker: `DInv`), so it asks nothing of `SI`.
-/
import Proofs.Lemmas.Router.Rp4_NoPanic
import Proofs.Lemmas.Router.Rp8_Packets
namespace Router

theorem handleDisconnection_si {s s' : RState} {id : Nat} {r : Option String} (hs : SI s)
    (hd : handleDisconnection s id r = .ok s') : SI s' := by
  rcases handleDisconnection_cases hd with ⟨_, rfl⟩ | ⟨c, hc, hd⟩
  · exact hs
  refine wakeParked_si (.of_all fun j d hj => (hs.all.hdFinal id c r j d hj).mono fun _ hi => ?_) hd
  rw [hdFinal_eq_record]; exact hi

theorem hnRegister_si {s s' : RState} {spec : ConnectSpec} (hs : SI s) (hd : DInv s) (ha : AdmInv s)
    (hnone : alookup spec.clientId s.connectionMap = none) (hroom : s.conns.len < s.config.maxConnections)
    (hre : reschedule (hnPre s spec) (hnKey s spec) .init = .ok s') : SI s' := by
  have hbusy : (hnNew s spec).tracker.status = .paused .busy := (hnTracker_ok hd spec).2
  refine reschedule_si (.of_all (hs.all.hnPre ha hnone hroom ⟨⟨fun e => ?_, fun e => ?_⟩, fun e => ?_⟩)) hre <;>
    (rw [hbusy] at e; cases e)

theorem handleNewConnection_si {s s' : RState} {spec : ConnectSpec} (hb : BR s) (ha : AdmInv s) (hs : SI s)
    (h : handleNewConnection s spec = .ok s') : SI s' :=
  have s0 : SI (setLink s spec.link {}) := hs.rel (SRel.of_conns rfl rfl)
  handleNewConnection_inv (I := SI) ha s0 (fun _ => handleDisconnection_si s0) (fun t => t.rel (SRel.of_conns rfl rfl))
    (fun t ht a1 hnone hroom hr => hnRegister_si t (hnTakeover_br hb ht).1.1 a1 hnone hroom hr) h

theorem handleDevicePayload_si {s s' : RState} {id : Nat} (hs : SI s) (h : handleDevicePayload s id = .ok s') : SI s' :=
  Walk.handleDevicePayload_inv hs (fun x => x) (fun {c _ _} _ h1 => handlePackets_si _
      (s := setLink s c.link { getLink s c.link with ibuf := [] }) (hs.rel (SRel.of_conns rfl rfl)) h1) reschedule_si
    drain_all_si wakeTurnMoved_si handleDisconnection_si h

theorem handleLastWill_si {s s' : RState} {cid : String} (hs : SI s) (h : handleLastWill s cid = .ok s') : SI s' :=
  handleLastWill_rel (fun s s' => SI s → SI s') (fun _ h => h) (fun _ _ _ h1 h2 h => h2 (h1 h))
    (fun _ _ hs => hs.rel (SRel.of_conns rfl rfl))
    (fun _ s1 topic _ hs => hs.rel ((SRel.frame.updateRetained s1 topic _).trans (SRel.of_conns rfl rfl)))
    (fun _ _ _ _ h2 hs => hs.rel (SRel.frame.dlMatches h2)) (fun _ _ _ _ _ h3 hs => hs.rel (SRel.frame.appendToFilter h3))
    (fun _ _ hd hs => drain_all_si hs hd) h hs

/-- the requests `L` of `id` are outside the state and its tracker is empty, so `SI` holds but says too little: `Caughtup`
    must mean that nothing is held outside either -/
structure LI (s : RState) (id : Nat) (L : List DataRequest) : Prop where
  si : SI s
  self : ∀ c, getConn s id = some c → c.tracker.requests = [] ∧ (c.tracker.status = .paused .caughtup → L = [])

theorem LI.rel {s s' : RState} {id : Nat} {L L' : List DataRequest} (h : LI s id L) (m : SRel s s')
    (hl : L = [] → L' = []) : LI s' id L' :=
  ⟨h.si.rel m, fun d hd => by
    obtain ⟨c, hc, k⟩ := m.conn id d hd
    exact ⟨k.2.1 (h.self c hc).1, fun e => hl ((h.self c hc).2 (k.1 ▸ e))⟩⟩

theorem LI.join {s s' : RState} {id : Nat} {L : List DataRequest} (h : LI s id L) (ht : trackv s id L = .ok s') : SI s' := by
  obtain ⟨c, hc, rfl⟩ := trackv_upd ht
  refine .of_all (Walk.conns_of_set hc rfl ⟨⟨fun e => ?_, (h.si.ci id c hc).2⟩, h.si.rq id c hc⟩ fun j d _ hd => h.si.all j d hd)
  show c.tracker.requests ++ L = []
  rw [(h.self c hc).1, (h.self c hc).2 e]; rfl

theorem LI.paused {s s' : RState} {id : Nat} {L L' : List DataRequest} {r : PauseReason} (h : LI s id L)
    (hp : pause s id r = .ok s') (hr1 : r = .caughtup → L' = [])
    (hr2 : r = .inflightFull → ∀ c, getConn s id = some c → MAX_INFLIGHT ≤ c.out.inflight.length) : LI s' id L' := by
  obtain ⟨hlast, c, hc, rfl⟩ := pause_upd hp
  refine ⟨.of_all (Walk.conns_of_set hc rfl
    ⟨⟨fun _ => (h.self c hc).1, fun e => hr2 (by cases e; rfl) c hc⟩, fun e => nomatch e⟩
    fun j d hj hd => ⟨h.si.ci j d hd, fun e => mem_dropLast_of_ne (h.si.rq j d hd e) hlast hj⟩), fun d hd => ?_⟩
  rw [getConn_setConn_live (s := { s with readyqueue := s.readyqueue.dropLast }) hc, if_pos rfl] at hd; cases hd
  exact ⟨(h.self c hc).1, fun e => hr1 (by cases e; rfl)⟩

theorem sweep_inflightFull {s s1 : RState} {id : Nat} {req req1 : DataRequest}
    (h : forwardDeviceData s id req = .ok (s1, req1, .inflightFull)) {c : Conn} (hc : getConn s id = some c) :
    MAX_INFLIGHT ≤ c.out.inflight.length := by
  generalize hst : ConsumeStatus.inflightFull = st at h
  cases forwardDeviceData_sweep_of hc h with
  | full _ hfree => unfold Outgoing.freeSlots at hfree; omega
  | skip => split at hst <;> cases hst
  | empty => cases hst
  | push => split at hst; cases hst; split at hst <;> cases hst

/-- the loop principle must tell the two kinds of pause apart (`consumeLoop_stops`, not `consumeLoop_inv`): `Caughtup` is
    true only with nothing held, `InflightFull` only after a sweep that found the window full -/
theorem consumeLoop_si {id : Nat} (fuel : Nat) {s s' : RState} {requests skipped : List DataRequest}
    (h : LI s id (requests ++ skipped)) (hc : consumeLoop s id fuel requests skipped = .ok s') : SI s' := by
  have sweep {s s1 : RState} {req req1 : DataRequest} {st : ConsumeStatus}
      (h1 : forwardDeviceData s id req = .ok (s1, req1, st)) : SRel s (noteTurn s s1 req1) :=
    (SRel.frame.forwardDeviceData h1).trans (SRel.frame.noteTurn s s1 req1)
  obtain ⟨s0, l, h0, ht⟩ := consumeLoop_stops (P := fun s l => LI s id l)
    (fun hp h => h.rel (SRel.refl _) fun e => (e ▸ hp).eq_nil)
    (fun hp h => h.paused hp (fun _ => rfl) fun e => nomatch e)
    (fun {s s1 _ _ req1 _ _ l} h1 hst h3 h => (h.rel (sweep h1) (L' := req1 :: l) fun e => nomatch e).paused h3
      (fun e => by rcases hst with ⟨_, rfl⟩ | ⟨_, rfl⟩ <;> cases e)
      fun e c2 hc2 => by
        rcases hst with ⟨_, rfl⟩ | ⟨rfl, _⟩
        · cases e
        · obtain ⟨c, hc, k⟩ := (sweep h1).conn id c2 hc2
          exact Nat.le_trans (sweep_inflightFull h1 hc) k.2.2)
    (fun h1 h => h.rel (sweep h1) fun e => nomatch e)
    (fun h1 h3 h => h.rel ((sweep h1).trans (SRel.frame.park h3)) fun e => nomatch e) fuel hc h
  exact h0.join ht

theorem consume_si {s s' : RState} {b : Bool} (hs : SI s) (hc : consume s = .ok (s', b)) : SI s' := by
  -- a live, ready connection is in the part of the queue that `poll` keeps
  have hlive : ∀ j d, getConn s j = some d → d.tracker.status = .ready →
      j ∈ s.readyqueue.dropWhile (fun id => (s.conns.get? id).isNone) := fun j d hd hr => by
    have := hs.rq j d hd hr
    rw [← List.takeWhile_append_dropWhile (p := fun id => (s.conns.get? id).isNone) (l := s.readyqueue)] at this
    refine (List.mem_append.mp this).resolve_left fun h => ?_
    have := List.all_eq_true.mp List.all_takeWhile j h
    simp [show s.conns.get? j = some d from hd] at this
  rcases Walk.consume_cases hc with ⟨_, hq, rfl⟩ | ⟨id, rq, c, s1, hq, hcn, _, h1, h2⟩
  · refine ⟨fun j d hd => hs.ci j d hd, fun j d hd hr => ?_⟩
    have := hlive j d hd hr
    rw [hq] at this; cases this
  · refine wakeTurnMoved_si (consumeLoop_si _ (LI.rel (L := c.tracker.requests ++ []) ⟨.of_all ?_, fun d hd => ?_⟩
      (SRel.frame.ackDeviceData _ id) fun e => e) h1) h2
    · refine Walk.conns_of_set (s := s) hcn rfl
        ⟨⟨fun _ => rfl, (hs.ci id c hcn).2⟩, fun _ => List.mem_append_right _ (.head _)⟩
        fun j d hj hd => ⟨hs.ci j d hd, fun e => ?_⟩
      have := hlive j d hd e
      rw [hq] at this
      exact List.mem_append_left _ ((List.mem_cons.mp this).resolve_left hj)
    · rw [Walk.takeRequests_getConn rq hcn, if_pos rfl] at hd; cases hd
      exact ⟨rfl, fun e => by rw [(hs.ci id c hcn).1 e]; rfl⟩

theorem step_si {s s' : RState} {op : Op} {out : Out} (h3 : Inv3 s) (hs : SI s) (hst : step s op = .ok (s', out)) : SI s' :=
  Walk.step_inv hs (fun _ _ => hs.rel (SRel.of_conns rfl rfl)) (handleNewConnection_si h3.br h3.inv2.inv1.adm hs)
    (handleDevicePayload_si hs) (reschedule_si hs) (handleDisconnection_si hs) (handleLastWill_si hs)
    (fun he => hs.rel (SRel.frame.handleShadow he)) (consume_si hs) hst

theorem SI.init (cfg : Config) : SI (init cfg) :=
  ⟨ConnAll.init cfg, ConnAll.init cfg⟩

theorem SI.reachable {cfg : Config} {s : RState} (hr : Reachable cfg s) : SI s :=
  hr.induction' SI (SI.init cfg) fun _ o _ _ _ hrs hs hstep =>
    step_si ((Inv3.reachable hrs).oracle o) (hs.rel (SRel.of_conns rfl rfl)) hstep

theorem tracking_status {cfg : Config} {s : RState} (hr : Reachable cfg s) {id : Nat} {c : Conn}
    (hc : getConn s id = some c) (hne : c.tracker.requests ≠ []) :
    (c.tracker.status = .ready ∧ id ∈ s.readyqueue) ∨
    (c.tracker.status = .paused .inflightFull ∧ c.out.inflight.length = MAX_INFLIGHT) ∨
    c.tracker.status = .paused .busy := by
  have hs := SI.reachable hr
  have hout := (Inv1.reachable hr).out id c hc
  obtain ⟨a, b⟩ := hs.ci id c hc
  cases hst : c.tracker.status with
  | ready => exact .inl ⟨rfl, hs.rq id c hc hst⟩
  | paused p =>
    cases p with
    | caughtup => exact absurd (a hst) hne
    | inflightFull => exact .inr (.inl ⟨rfl, Nat.le_antisymm hout.1 (b hst)⟩)
    | busy => exact .inr (.inr rfl)

end Router
