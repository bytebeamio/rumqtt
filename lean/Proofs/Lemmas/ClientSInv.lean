/-
The structural invariant `SInv` of the tables holds after ANY sequence of requests, incoming packets and `clean`s:
five table operations keep it, and the handlers are made of those.
-/
import Proofs.Lemmas.ClientCall
namespace Client
open Client.Spec

structure SInv (s : State) : Prop where
  lenPub : s.outgoingPub.length = s.upperLimit + 1
  lenRel : s.outgoingRel.length = s.upperLimit + 1
  lenOrd : s.outgoingOrder.length = s.upperLimit + 1
  slotId : ∀ (i : Nat) (p : Pub), s.outgoingPub[i]? = some (some p) → p.pkid = i ∧ p.qos ≠ 0
  colQos : ∀ c : Pub, s.collision = some c → c.qos ≠ 0
  counter : occ s.outgoingPub + relCount s.outgoingRel ≤ s.inflight

/-- the fields `SInv` does not read may be written freely -/
theorem SInv.frame {s : State} (h : SInv s) (a : Bool) (c k m : Nat) (inc : List Nat) (ev : List Event)
    (al : List Nat) (b : Nat) :
    SInv { s with awaitPingresp := a, collisionPingCount := c, lastPkid := k, maxInflight := m, incomingPub := inc,
                  events := ev, aliases := al, brokerAliasMax := b } :=
  ⟨h.lenPub, h.lenRel, h.lenOrd, h.slotId, h.colQos, h.counter⟩

theorem SInv.pushEv {s : State} (h : SInv s) (e : Event) : SInv (s.pushEv e) :=
  h.frame _ _ _ _ _ _ _ _

theorem SInv.pushOut {s : State} (h : SInv s) (o : Outgoing) : SInv (s.pushOut o) := h.pushEv _

theorem SInv.new (ver : Version) (max : Nat) (m : Bool) : SInv (State.new ver max m) := by
  refine ⟨by simp [State.new], by simp [State.new], by simp [State.new], fun i p h => absurd h (new_slot ver max m i p),
    by simp [State.new], ?_⟩
  simp [State.new, occ_replicate, relCount_replicate]

theorem SInv.nextPkidSt {s : State} (h : SInv s) : SInv (nextPkidSt s) := by
  obtain ⟨k, e⟩ := nextPkidSt_eq s
  rw [e]; exact h.frame _ _ _ _ _ _ _ _

theorem SInv.storePub {s : State} (h : SInv s) (p : Pub) (hq : p.qos ≠ 0) : SInv (storePub s p) :=
  ⟨List.length_set.trans h.lenPub, h.lenRel, List.length_set.trans h.lenOrd,
    slots_set h.slotId p.pkid (some p) (fun _ e => Option.some.inj e ▸ ⟨rfl, hq⟩), h.colQos,
    by have := occ_set_le s.outgoingPub p.pkid (some p); have := h.counter
       show occ (s.outgoingPub.set p.pkid (some p)) + relCount s.outgoingRel ≤ s.inflight + 1; omega⟩

theorem SInv.freeSlot {s : State} (h : SInv s) (i : Nat) (x : Pub) (hslot : s.outgoingPub[i]? = some (some x))
    (n : Nat) (hn : s.inflight ≤ n + 1) :
    SInv { s with outgoingPub := s.outgoingPub.set i none, inflight := n } :=
  ⟨List.length_set.trans h.lenPub, h.lenRel, h.lenOrd, slots_set h.slotId i none nofun, h.colQos,
    by have := occ_set_none _ _ _ hslot; have := h.counter
       show occ (s.outgoingPub.set i none) + relCount s.outgoingRel ≤ n; omega⟩

theorem SInv.setRel {s : State} (h : SInv s) (i : Nat) (b : Bool) (n : Nat)
    (hn : occ s.outgoingPub + relCount (s.outgoingRel.set i b) ≤ n) :
    SInv { s with outgoingRel := s.outgoingRel.set i b, inflight := n } :=
  ⟨h.lenPub, List.length_set.trans h.lenRel, h.lenOrd, h.slotId, h.colQos, hn⟩

theorem SInv.moveToRel {s : State} (h : SInv s) (i : Nat) (x : Pub) (hslot : s.outgoingPub[i]? = some (some x)) :
    SInv { s with outgoingPub := s.outgoingPub.set i none, outgoingRel := s.outgoingRel.set i true } :=
  ⟨List.length_set.trans h.lenPub, List.length_set.trans h.lenRel, h.lenOrd, slots_set h.slotId i none nofun, h.colQos,
    by have := occ_set_none _ _ _ hslot; have := relCount_set_le s.outgoingRel i true; have := h.counter
       show occ (s.outgoingPub.set i none) + relCount (s.outgoingRel.set i true) ≤ s.inflight; omega⟩

theorem SInv.setCol {s : State} (h : SInv s) (c : Option Pub) (hc : ∀ q, c = some q → q.qos ≠ 0) (k : Nat) :
    SInv { s with collision := c, collisionPingCount := k } :=
  ⟨h.lenPub, h.lenRel, h.lenOrd, h.slotId, hc, h.counter⟩

theorem SInv.cleanState {s : State} (h : SInv s) : SInv (cleanState s) :=
  ⟨(List.length_map _).trans h.lenPub, (List.length_map _).trans h.lenRel, h.lenOrd,
    fun i p hp => absurd hp (cleanState_slot s i p), nofun,
    by show occ (s.outgoingPub.map _) + relCount (s.outgoingRel.map _) ≤ 0
       rw [occ_map_none, relCount_map_false]; exact Nat.le_refl _⟩

theorem SInv.drainEvents {s : State} (h : SInv s) : SInv (drainEvents s) := h.frame _ _ _ _ _ _ _ _

theorem SInv.publishWithId {s : State} (h : SInv s) (p : Pub) (hq : p.qos ≠ 0) : SInv (publishWithId s p).1 := by
  fun_cases Client.publishWithId s p
  · exact h
  · exact (h.setCol (some p) (fun _ e => Option.some.inj e ▸ hq) _).pushOut _
  · exact h
  · exact (h.storePub p hq).pushOut _

theorem SInv.outgoingPublish {s : State} (h : SInv s) (p : Pub) : SInv (outgoingPublish s p).1 := by
  fun_cases Client.outgoingPublish s p
  · exact h
  · exact h.pushOut _
  · exact h
  · exact h.nextPkidSt.publishWithId _ ‹_›
  · exact h.publishWithId _ ‹_›

theorem SInv.pubrelWithId {s : State} (h : SInv s) (i : Nat) : SInv (pubrelWithId s i).1 := by
  fun_cases Client.pubrelWithId s i
  · exact h
  · have := relCount_set_le s.outgoingRel i true; have := h.counter
    exact (h.setRel i true _ (by omega)).pushOut _
  · exact h

theorem SInv.handleOutgoing {s : State} (h : SInv s) (r : Request) : SInv (handleOutgoing s r).1 := by
  cases r with
  | publish p => exact h.outgoingPublish p
  | pubrel i =>
    show SInv (outgoingPubrel s i).1
    fun_cases Client.outgoingPubrel s i
    · exact h
    · exact h.nextPkidSt.pubrelWithId _
    · exact h.pubrelWithId _
  | subscribe n =>
    show SInv (outgoingSubscribe s n).1
    fun_cases Client.outgoingSubscribe s n
    · exact h
    · exact h
    · exact h.nextPkidSt.pushOut _
  | unsubscribe =>
    show SInv (outgoingUnsubscribe s).1
    fun_cases Client.outgoingUnsubscribe s
    · exact h
    · exact h.nextPkidSt.pushOut _
  | pingreq =>
    obtain ⟨c, a, e⟩ := outgoingPing_eq s
    show SInv (outgoingPing s).1
    rw [e]; exact h.frame _ _ _ _ _ _ _ _
  | disconnect => exact h.pushOut _
  | puback i => exact h.pushOut _
  | pubrec i => exact h.pushOut _
  | other => exact h

/-- whatever the slot of `i` holds -/
theorem SInv.releaseAny {s : State} (h : SInv s) (i : Nat) : SInv (release s i).1 := by
  fun_cases Client.release s i
  · exact ((h.setCol none nofun 0).storePub _ (h.colQos _ ‹_›)).pushOut _
  · exact h
  · exact h

/-- the hypothesis is not used -/
theorem SInv.release {s : State} (h : SInv s) (i : Nat) (hs : s.outgoingPub[i]? = some none) :
    SInv (release s i).1 := h.releaseAny i

theorem SInv.handlePuback {s : State} (h : SInv s) (i : Nat) : SInv (handlePuback s i).1 := by
  fun_cases Client.handlePuback s i
  · exact h
  · exact h
  · exact h
  · exact (h.freeSlot i _ ‹_› (s.inflight - 1) (by omega)).releaseAny i

theorem SInv.handlePubrec {s : State} (h : SInv s) (i r : Nat) : SInv (handlePubrec s i r).1 := by
  fun_cases Client.handlePubrec s i r
  · exact h
  · exact h
  · exact h.freeSlot i _ ‹_› s.inflight (by omega)
  · exact (h.freeSlot i _ ‹_› (s.inflight - 1) (by omega)).releaseAny i
  · exact (h.moveToRel i _ ‹_›).pushOut _
  · exact h.freeSlot i _ ‹_› s.inflight (by omega)

theorem SInv.handlePubcomp {s : State} (h : SInv s) (i : Nat) : SInv (handlePubcomp s i).1 := by
  fun_cases Client.handlePubcomp s i
  case case3 => exact h
  all_goals
    have := relCount_set_false _ _ ((relContains_eq s i).mp ‹_›); have := h.counter
  · exact h.setRel i false s.inflight (by omega)
  · exact (h.setRel i false (s.inflight - 1) (by omega)).releaseAny i

theorem SInv.handleIncoming {s : State} (h : SInv s) (p : Incoming) : SInv (handleIncoming s p).1 := by
  have h0 := h.pushEv (.incoming p)
  cases p with
  | puback i r => exact h0.handlePuback i
  | pubrec i r => exact h0.handlePubrec i r
  | pubcomp i r => exact h0.handlePubcomp i
  | _ => rw [handleIncoming_quiet s _ rfl]; exact h.frame _ _ _ _ _ _ _ _

theorem SInv.sstepSt {s : State} (h : SInv s) (op : SOp) : SInv (sstepSt s op) := by
  cases op with
  | out r => exact (h.handleOutgoing r).drainEvents
  | inc p => exact (h.handleIncoming p).drainEvents
  | clean => exact h.cleanState
  | drop => exact h
  | inflight => exact h

end Client
