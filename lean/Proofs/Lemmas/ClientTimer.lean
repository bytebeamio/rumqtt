/-
Lemmas for C18: the keep-alive timer (`Model/Client/Timer.lean`) and the connection timeout (`cstep` of
`Model/Client/Loop.lean`). `Step` is what one event does to the timer in any state (`step_spec`); every
other fact about `step` goes over it. `Conn` is what a single connection that is polled in time can log: the
ping period and the detection of a silent broker are facts about `Conn`.
-/
import Model.Client.Timer
import Model.Client.Loop
namespace Client.Timer

theorem due_iff (s : TState) : due s = true ↔
    s.connected = true ∧ armed s.ver s.keepAlive = true ∧ ∃ d, s.deadline = some d ∧ d ≤ s.now := by
  unfold due
  cases s.deadline <;> simp [and_assoc]

theorem fire_quiet {s : TState} (h : due s = false) : step s .fire = (s, none) := by
  simp only [step, fire, h]; rfl

theorem fire_err {s : TState} (hd : due s = true) (ha : s.awaitPingresp = true) :
    step s .fire = (clean s, some .err) := by
  simp only [step, fire, hd, ha, if_true]

def pinged (s : TState) : TState := { s with deadline := some (s.now + s.keepAlive), awaitPingresp := true }

theorem fire_ping {s : TState} (hd : due s = true) (ha : s.awaitPingresp = false) :
    step s .fire = (pinged s, some .ping) := by
  simp only [step, fire, hd, ha, if_true]; rfl

def afterConnack (s : TState) : TState :=
  { s with connected := true, deadline := if armed s.ver s.keepAlive then some (s.now + s.keepAlive) else none }

theorem pingresp_quiet {s : TState} (hc : s.connected = false) : step s .pingresp = (s, none) := by
  simp only [step, hc]; rfl

theorem pingresp_resp {s : TState} (hc : s.connected = true) :
    step s .pingresp = ({ s with awaitPingresp := false }, some .resp) := by
  simp only [step, hc, if_true]

theorem connack_quiet {s : TState} (hc : s.connected = true) : step s .connack = (s, none) := by
  simp only [step, hc, if_true]

theorem connack_up {s : TState} (hc : s.connected = false) : step s .connack = (afterConnack s, none) := by
  simp only [step, hc]; rfl

theorem fail_quiet {s : TState} (hc : s.connected = false) : step s .fail = (s, none) := by
  simp only [step, hc]; rfl

theorem fail_down {s : TState} (hc : s.connected = true) : step s .fail = (clean s, none) := by
  simp only [step, hc, if_true]

/-- the events that leave the timer as it is -/
def Quiet (s : TState) : Ev → Prop
  | .other | .request => True
  | .fire => due s = false
  | .pingresp | .fail => s.connected = false
  | .connack => s.connected = true
  | .advance _ => False

/-- what one event does to the timer, each outcome with the condition under which `step` takes it -/
inductive Step (s : TState) : Ev → TState × Option Lab → Prop
  | advance (dt : Nat) : Step s (.advance dt) ({ s with now := s.now + dt }, none)
  | quiet (e : Ev) (h : Quiet s e) : Step s e (s, none)
  | resp (hc : s.connected = true) : Step s .pingresp ({ s with awaitPingresp := false }, some .resp)
  | ping (hd : due s = true) (ha : s.awaitPingresp = false) : Step s .fire (pinged s, some .ping)
  | err (hd : due s = true) (ha : s.awaitPingresp = true) : Step s .fire (clean s, some .err)
  | up (hc : s.connected = false) : Step s .connack (afterConnack s, none)
  | down (hc : s.connected = true) : Step s .fail (clean s, none)

theorem step_spec (s : TState) (e : Ev) : Step s e (step s e) := by
  cases e with
  | advance dt => exact .advance dt
  | other => exact .quiet _ trivial
  | request => exact .quiet _ trivial
  | pingresp =>
    cases hc : s.connected with
    | false => rw [pingresp_quiet hc]; exact .quiet _ hc
    | true => rw [pingresp_resp hc]; exact .resp hc
  | connack =>
    cases hc : s.connected with
    | true => rw [connack_quiet hc]; exact .quiet _ hc
    | false => rw [connack_up hc]; exact .up hc
  | fail =>
    cases hc : s.connected with
    | false => rw [fail_quiet hc]; exact .quiet _ hc
    | true => rw [fail_down hc]; exact .down hc
  | fire =>
    cases hd : due s with
    | false => rw [fire_quiet hd]; exact .quiet _ hd
    | true =>
      cases ha : s.awaitPingresp with
      | false => rw [fire_ping hd ha]; exact .ping hd ha
      | true => rw [fire_err hd ha]; exact .err hd ha

theorem step_frame (s : TState) (e : Ev) :
    (step s e).1.ver = s.ver ∧ (step s e).1.keepAlive = s.keepAlive ∧ s.now ≤ (step s e).1.now ∧
      ((step s e).2 ≠ none → (step s e).1.now = s.now) := by
  have h := step_spec s e
  generalize step s e = r at h ⊢
  cases h with
  | advance dt => exact ⟨rfl, rfl, Nat.le_add_right _ _, fun h => absurd rfl h⟩
  | _ => exact ⟨rfl, rfl, Nat.le_refl _, fun _ => rfl⟩

theorem step_ver (s : TState) (e : Ev) : (step s e).1.ver = s.ver := (step_frame s e).1

theorem step_now_le (s : TState) (e : Ev) : s.now ≤ (step s e).1.now := (step_frame s e).2.2.1

theorem step_lab_now (s : TState) (e : Ev) (l : Lab) (h : (step s e).2 = some l) :
    (step s e).1.now = s.now :=
  (step_frame s e).2.2.2 (by rw [h]; exact fun h => nomatch h)

theorem run_now_le (evs : List Ev) : ∀ s : TState, s.now ≤ (run s evs).now := by
  induction evs with
  | nil => intro s; exact Nat.le_refl _
  | cons e es ih => intro s; exact Nat.le_trans (step_now_le s e) (ih _)

theorem trace_cons_none {s s' : TState} {e : Ev} (es : List Ev) (h : step s e = (s', none)) :
    trace s (e :: es) = trace s' es := by
  simp only [trace, h]

theorem trace_cons_some {s s' : TState} {e : Ev} {l : Lab} (es : List Ev) (h : step s e = (s', some l)) :
    trace s (e :: es) = (s'.now, l) :: trace s' es := by
  simp only [trace, h]

theorem run_cons {s s' : TState} {e : Ev} {l : Option Lab} (es : List Ev) (h : step s e = (s', l)) :
    run s (e :: es) = run s' es := by
  simp only [run, h]

theorem trace_times_ge (evs : List Ev) : ∀ (s : TState) (x : Nat × Lab), x ∈ trace s evs → s.now ≤ x.1 := by
  induction evs with
  | nil => intro s x h; cases h
  | cons e es ih =>
    intro s x h
    simp only [trace] at h
    split at h
    · rcases List.mem_cons.mp h with h | h
      · subst h; exact step_now_le s e
      · exact Nat.le_trans (step_now_le s e) (ih _ x h)
    · exact Nat.le_trans (step_now_le s e) (ih _ x h)

theorem oneConn_tail {e : Ev} {es : List Ev} (h : oneConn (e :: es) = true) : oneConn es = true := by
  cases e <;> first | exact h | cases h

theorem Timely_tail {s : TState} {e : Ev} {es : List Ev} (h : Timely s (e :: es)) :
    Timely (step s e).1 es := by
  cases e <;> first | exact h.2 | exact h

theorem trace_disconnected (evs : List Ev) : ∀ s : TState, s.connected = false → oneConn evs = true →
    trace s evs = [] ∧ (run s evs).connected = false := by
  induction evs with
  | nil => intro s h _; exact ⟨rfl, h⟩
  | cons e es ih =>
    intro s h ho
    have hs := step_spec s e
    generalize hr : step s e = r at hs
    have stay : ∀ {s' : TState}, step s e = (s', none) → s'.connected = false →
        trace s (e :: es) = [] ∧ (run s (e :: es)).connected = false := fun hr hc => by
      rw [trace_cons_none es hr, run_cons es hr]; exact ih _ hc (oneConn_tail ho)
    cases hs with
    | advance dt => exact stay hr h
    | quiet => exact stay hr h
    | up => cases ho
    | resp hc | down hc => exact nomatch h.symm.trans hc
    | ping hd | err hd => exact nomatch h.symm.trans ((due_iff s).1 hd).1

/-- a connected, armed timer that last fired (or was armed by the CONNACK) at `b` -/
structure Sched (b : Nat) (s : TState) : Prop where
  conn : s.connected = true
  arm : armed s.ver s.keepAlive = true
  dl : s.deadline = some (b + s.keepAlive)
  ge : b ≤ s.now
  le : s.now ≤ b + s.keepAlive

/-- what a connection polled in time logs after a firing at `b` (`aw`: a PINGREQ is unanswered):
    answers up to the next firing, that firing exactly at `b + k`, the error if the PINGREQ is still
    unanswered. `fin`: when the observation ends with the connection up; `none`: it ended with the error. -/
inductive Conn (k : Nat) : Nat → Bool → List (Nat × Lab) → Option Nat → Prop
  | stop {b aw now} (h : now ≤ b + k) : Conn k b aw [] (some now)
  | resp {b aw t tr fin} (h1 : b ≤ t) (h2 : t ≤ b + k) (h : Conn k b false tr fin) :
      Conn k b aw ((t, .resp) :: tr) fin
  | ping {b t tr fin} (ht : t = b + k) (h : Conn k t true tr fin) : Conn k b false ((t, .ping) :: tr) fin
  | err {b t} (ht : t = b + k) : Conn k b true [(t, .err)] none

def upAt (s : TState) : Option Nat := if s.connected then some s.now else none

theorem conn_trace (evs : List Ev) : ∀ (s : TState) (b : Nat), Sched b s → oneConn evs = true →
    Timely s evs → Conn s.keepAlive b s.awaitPingresp (trace s evs) (upAt (run s evs)) := by
  induction evs with
  | nil => intro s b h _ _; rw [upAt, show run s [] = s from rfl, h.conn]; exact .stop h.le
  | cons e es ih =>
    intro s b h ho ht
    have ho' := oneConn_tail ho
    have ht' := Timely_tail ht
    -- a due timer has reached exactly `b + k`
    have hnow : due s = true → s.now = b + s.keepAlive := fun hd => by
      obtain ⟨_, _, d, hd1, hd2⟩ := (due_iff s).1 hd
      rw [h.dl] at hd1; cases hd1
      exact Nat.le_antisymm h.le hd2
    have hs := step_spec s e
    generalize hr : step s e = r at hs
    rw [hr] at ht'
    cases hs with
    | advance dt =>
      exact ih { s with now := s.now + dt } b
        ⟨h.conn, h.arm, h.dl, Nat.le_trans h.ge (Nat.le_add_right _ _), ht.1 _ h.conn h.dl⟩ ho' ht'
    | quiet =>
      rw [trace_cons_none es hr, run_cons es hr]
      exact ih s b h ho' ht'
    | resp =>
      rw [trace_cons_some es hr, run_cons es hr]
      exact .resp h.ge h.le (ih { s with awaitPingresp := false } b ⟨h.conn, h.arm, h.dl, h.ge, h.le⟩ ho' ht')
    | ping hd ha =>
      rw [trace_cons_some es hr, run_cons es hr, ha]
      exact .ping (hnow hd) (ih (pinged s) s.now ⟨h.conn, h.arm, rfl, Nat.le_refl _, Nat.le_add_right _ _⟩ ho' ht')
    | err hd ha =>
      rw [trace_cons_some es hr, run_cons es hr, ha]
      obtain ⟨htr, hcn⟩ := trace_disconnected es (clean s) rfl ho'
      rw [htr, upAt, hcn]
      exact .err (hnow hd)
    | up hc => exact nomatch h.conn.symm.trans hc
    | down => cases ho

theorem gapsLe_schedule (k n : Nat) : ∀ t0, gapsLe k t0 (schedule t0 k n) = true := by
  induction n with
  | zero => intro t0; rfl
  | succ n ih =>
    intro t0
    simp only [schedule, gapsLe, Nat.le_refl, decide_true, Bool.true_and]
    exact ih (t0 + k)

theorem Conn.period {k b : Nat} {aw : Bool} {tr : List (Nat × Lab)} {f : Option Nat} (h : Conn k b aw tr f) :
    ∃ n, fireTimes tr = schedule b k n ∧ ∀ now, f = some now → now ≤ b + (n + 1) * k := by
  induction h with
  | stop h => exact ⟨0, rfl, fun _ hf => by cases hf; rw [Nat.zero_add, Nat.one_mul]; exact h⟩
  | resp _ _ _ ih => exact ih
  | ping ht _ ih =>
    subst ht
    obtain ⟨n, h1, h2⟩ := ih
    refine ⟨n + 1, congrArg _ h1, fun now hf => ?_⟩
    rw [Nat.add_mul (n + 1) 1, Nat.one_mul, Nat.add_comm _ k, ← Nat.add_assoc]
    exact h2 now hf
  | err ht => subst ht; exact ⟨1, rfl, fun _ hf => nomatch hf⟩

theorem lastResp_nil (L : Nat) : lastResp L [] = L := rfl

theorem hasLab_cons {l : Lab} {tr : List (Nat × Lab)} (x : Nat × Lab) (h : hasLab l tr = true) :
    hasLab l (x :: tr) = true := by
  simp only [hasLab, List.any_cons] at h ⊢
  rw [h]; exact Bool.or_true _

/-- `L`: the time of the last answer (or the CONNACK) before the trace -/
theorem Conn.silent {k b : Nat} {aw : Bool} {tr : List (Nat × Lab)} {f : Option Nat} (h : Conn k b aw tr f) :
    ∀ L, (aw = false → b ≤ L) → (aw = true → b ≤ L + k) →
      (∀ now, f = some now → now ≤ lastResp L tr + 2 * k) ∧
      (∀ t, (t, Lab.err) ∈ tr → t ≤ lastResp L tr + 2 * k) ∧ (f = none → hasLab .err tr = true) := by
  -- a label other than `err` in front: the claims about `err` pass through
  have pass : ∀ {t0 : Nat} {l : Lab} {tr : List (Nat × Lab)} {B : Nat}, l ≠ .err →
      (∀ t, (t, Lab.err) ∈ tr → t ≤ B) → ∀ t, (t, Lab.err) ∈ (t0, l) :: tr → t ≤ B := by
    intro t0 l tr B hl hall t ht2
    rcases List.mem_cons.mp ht2 with h' | h'
    · cases h'; exact absurd rfl hl
    · exact hall t h'
  induction h with
  | @stop b aw now h =>
    intro L h4 h5
    refine ⟨fun _ hf => ?_, fun t ht => (nomatch ht), fun hf => nomatch hf⟩
    cases hf
    show now ≤ L + 2 * k
    cases aw
    · have := h4 rfl; omega
    · have := h5 rfl; omega
  | resp h1 _ _ ih =>
    -- an answer: it is the last one from now on
    intro L _ _
    have := ih _ (fun _ => h1) (fun hh => nomatch hh)
    exact ⟨this.1, pass Lab.noConfusion this.2.1, fun hf => hasLab_cons _ (this.2.2 hf)⟩
  | ping ht _ ih =>
    subst ht
    intro L h4 _
    have := ih L (fun hh => nomatch hh) (fun _ => Nat.add_le_add_right (h4 rfl) k)
    exact ⟨this.1, pass Lab.noConfusion this.2.1, fun hf => hasLab_cons _ (this.2.2 hf)⟩
  | @err b _ ht =>
    -- the second interval after the last answer has run out
    subst ht
    intro L _ h5
    refine ⟨fun _ hf => (nomatch hf), fun t ht => ?_, fun _ => rfl⟩
    cases List.mem_singleton.1 ht
    show b + k ≤ L + 2 * k
    have := h5 rfl; omega

theorem sched_fresh (ver : Ver) (k t0 : Nat) (hk : armed ver k = true) : Sched t0 (fresh ver k t0) :=
  ⟨rfl, hk, by simp only [fresh, hk, if_true], Nat.le_refl _, Nat.le_add_right _ _⟩

def TState.WF (s : TState) : Prop := s.connected = false → s.awaitPingresp = false ∧ s.deadline = none

theorem wf_step {s : TState} (h : s.WF) (e : Ev) : (step s e).1.WF := by
  have hs := step_spec s e
  generalize step s e = r at hs ⊢
  cases hs with
  | advance dt => exact h
  | quiet => exact h
  | resp hc => exact fun hc' => nomatch hc.symm.trans hc'
  | ping hd => exact fun hc' => nomatch ((due_iff s).1 hd).1.symm.trans hc'
  | up => exact fun hc' => nomatch hc'
  | err | down => exact fun _ => ⟨rfl, rfl⟩

theorem respWithin_mono (t k : Nat) (x : Nat × Lab) (rest : List (Nat × Lab)) :
    respWithin t k rest = true → respWithin t k (x :: rest) = true := by
  intro h
  simp only [respWithin, List.any_cons] at h ⊢
  rw [h]; exact Bool.or_true _

/-- The second hypothesis is the invariant of the induction: `p` is the time the outstanding PINGREQ
    was written; the deadline is at least `p + k`, and an answer before `p + k` is still to come or the
    observation ends before that. -/
theorem no_false_alarm_gen (evs : List Ev) : ∀ (s : TState), s.WF →
    (s.connected = true → s.awaitPingresp = true →
      ∃ p d, s.deadline = some d ∧ p + s.keepAlive ≤ d ∧
        (respWithin p s.keepAlive (trace s evs) = true ∨ (run s evs).now < p + s.keepAlive)) →
    answeredWithin s.keepAlive (run s evs).now (trace s evs) = true →
    hasLab .err (trace s evs) = false := by
  induction evs with
  | nil => intro s _ _ _; rfl
  | cons e es ih =>
    intro s hwf hout hans
    have hwf' := wf_step hwf e
    have hs := step_spec s e
    generalize hr : step s e = r at hs
    rw [hr] at hwf'
    cases hs with
    | advance dt => exact ih _ hwf hout hans
    | quiet =>
      rw [trace_cons_none es hr, run_cons es hr] at hout hans
      rw [trace_cons_none es hr]
      exact ih s hwf hout hans
    | resp =>
      rw [trace_cons_some es hr, run_cons es hr] at hans
      rw [trace_cons_some es hr]
      exact ih _ hwf' (fun _ a => nomatch a) hans
    | ping =>
      rw [trace_cons_some es hr, run_cons es hr] at hans
      rw [trace_cons_some es hr]
      simp only [answeredWithin, Bool.and_eq_true, Bool.or_eq_true, decide_eq_true_eq] at hans
      exact ih _ hwf' (fun _ _ => ⟨s.now, s.now + s.keepAlive, rfl, Nat.le_refl _, hans.1⟩) hans.2
    | err hd ha =>
      -- the error would need a deadline that has passed with the ping unanswered: excluded
      exfalso
      obtain ⟨hc, _, d', hd1, hdn⟩ := (due_iff s).1 hd
      obtain ⟨p, d, h1, h2, h3⟩ := hout hc ha
      rw [h1] at hd1; cases hd1
      rcases h3 with h3 | h3
      · simp only [respWithin, List.any_eq_true, Bool.and_eq_true, decide_eq_true_eq] at h3
        obtain ⟨x, hx, _, hx2⟩ := h3
        have := trace_times_ge _ s x hx
        omega
      · have := run_now_le (.fire :: es) s
        omega
    | up hc =>
      rw [trace_cons_none es hr, run_cons es hr] at hans
      rw [trace_cons_none es hr]
      exact ih _ hwf' (fun _ a => nomatch (hwf hc).1.symm.trans a) hans
    | down =>
      rw [trace_cons_none es hr, run_cons es hr] at hans
      rw [trace_cons_none es hr]
      exact ih _ hwf' (fun c _ => nomatch c) hans

theorem step_lab_not_due (s : TState) (e : Ev) (l : Lab) (hnd : due s = false)
    (hl : (step s e).2 = some l) : l = .resp := by
  have hs := step_spec s e
  generalize step s e = r at hs hl
  cases hs with
  | resp => cases hl; rfl
  | ping hd | err hd => exact nomatch hnd.symm.trans hd
  | _ => cases hl

theorem trace_resp_of_keepAlive_zero (evs : List Ev) :
    ∀ s : TState, s.keepAlive = 0 → ∀ x ∈ trace s evs, x.2 = .resp := by
  induction evs with
  | nil => intro s _ x hx; cases hx
  | cons e es ih =>
    intro s hk x hx
    have hnd : due s = false := by simp only [due, armed, hk]; simp
    have := ih _ ((step_frame s e).2.1.trans hk)
    simp only [trace] at hx
    split at hx
    · rename_i l hl
      rcases List.mem_cons.mp hx with rfl | hx
      · exact step_lab_not_due s e l hnd hl
      · exact this x hx
    · exact this x hx

end Client.Timer

namespace Client.Loop

theorem CTimely_tail {s : CState} {e : CEv} {es : List CEv} (h : CTimely s (e :: es)) :
    CTimely (cstep s e) es := by
  cases e <;> simp only [CTimely] at h
  · exact h.2
  all_goals exact h

/-- invariant of an attempt with deadline `d`: while unresolved it is not past `d`, and a timeout
    is stamped `d` -/
structure CInv (d : Nat) (s : CState) : Prop where
  dl : s.start + s.ct = d
  le : s.outcome = none → s.now ≤ d
  at_ : ∀ a, s.outcome = some (.timedOut a) → a = d

theorem CInv.step {d : Nat} {s : CState} (h : CInv d s) (e : CEv) (es : List CEv)
    (ht : CTimely s (e :: es)) : CInv d (cstep s e) := by
  cases e with
  | advance dt => exact ⟨h.dl, fun hn => h.dl ▸ ht.1 hn, h.at_⟩
  | partialBytes => exact h
  | complete =>
    simp only [cstep]; split
    · exact ⟨h.dl, fun hn => (nomatch hn), fun a ha => nomatch ha⟩
    · exact h
  | deadline =>
    simp only [cstep]; split
    · rename_i hc
      simp only [Bool.and_eq_true, Option.isNone_iff_eq_none, decide_eq_true_eq] at hc
      -- the timeout fires on an unresolved attempt that has reached `d`: `now = d`
      refine ⟨h.dl, fun hn => (nomatch hn), fun a ha => ?_⟩
      cases ha
      exact Nat.le_antisymm (h.le hc.1) (h.dl ▸ hc.2)
    · exact h

theorem CInv.crun {d : Nat} (evs : List CEv) :
    ∀ s : CState, CInv d s → CTimely s evs → CInv d (crun s evs) := by
  induction evs with
  | nil => intro s h _; exact h
  | cons e es ih => intro s h ht; exact ih _ (h.step e es ht) (CTimely_tail ht)

theorem crun_not_completed (evs : List CEv) : ∀ s : CState, noComplete evs = true →
    (∀ a, s.outcome ≠ some (.completed a)) → ∀ a, (crun s evs).outcome ≠ some (.completed a) := by
  induction evs with
  | nil => intro s _ h; exact h
  | cons e es ih =>
    intro s hn h
    cases e with
    | complete => cases hn
    | advance dt => exact ih _ hn h
    | partialBytes => exact ih _ hn h
    | deadline =>
      refine ih _ hn ?_
      simp only [cstep]; split
      · exact fun a ha => nomatch ha
      · exact h

end Client.Loop
